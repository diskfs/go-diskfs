import Driver.Util
import DiskfsModel.Core.Crc
import DiskfsModel.Model.Gpt
import DiskfsModel.Model.GptGeom
import DiskfsModel.Model.Mbr
import DiskfsModel.Model.MbrTable
import DiskfsModel.Spec.GptValid
import DiskfsModel.Proofs.GptCrashStd
import DiskfsModel.Proofs.GptCrashFast
/-!
  Model driver for the engines gpt (C02), gptcrash (C09) and tblrobust (C15).
  Devices are sparse lists of extents (later extents win) or, for the crash
  enumeration, a flat ByteArray image; both are turned into the read oracle
  `Dev := Nat → UInt8` the model is defined over.
-/
namespace Driver.Gpt
open Diskfs Driver Diskfs.Gpt

/-! ### devices -/

abbrev Exts := Array (Nat × ByteArray)

def extsDev (e : Exts) : Dev := fun i =>
  let rec go (k : Nat) : UInt8 :=
    match k with
    | 0 => 0
    | k + 1 =>
      let (off, b) := e[k]!
      if off ≤ i ∧ i < off + b.size then b.get! (i - off) else go k
  go e.size

def imgDev (img : ByteArray) : Dev := fun i => if i < img.size then img.get! i else 0

def imgApply (img : ByteArray) (w : Wr) : ByteArray :=
  let src := ByteArray.mk w.data.toArray
  if w.off ≥ img.size then img else
  let n := min src.size (img.size - w.off)
  src.copySlice 0 img w.off n

def hexNib (c : UInt8) : UInt8 :=
  if c ≥ 48 && c ≤ 57 then c - 48 else if c ≥ 97 && c ≤ 102 then c - 87 else if c ≥ 65 && c ≤ 70 then c - 55 else 0

def hexToBA (s : String) : ByteArray :=
  let u := s.toUTF8
  let n := u.size / 2
  (List.range n).foldl (fun acc i => acc.push (hexNib (u.get! (2 * i)) * 16 + hexNib (u.get! (2 * i + 1)))) (ByteArray.emptyWithCapacity n)

/-- `off:hex;off:hex;…` or `-` -/
def parseExts (s : String) : Exts :=
  if s == "-" || s == "" then #[] else
  (s.splitOn ";").foldl (fun acc item =>
    match item.splitOn ":" with
    | [o, h] => acc.push (o.toNat!, hexToBA h)
    | _ => acc) #[]

/-! ### parts -/

def hexB (s : String) : Bytes := (fromHex s).getD []

def parseRunes (s : String) : List Nat :=
  if s == "-" || s == "" then [] else (s.splitOn ".").filterMap String.toNat?

/-- `index,start,end,size,typehex,guidhex,attrs,name;…` -/
def parseParts (s : String) : List Part :=
  if s == "-" || s == "" then [] else
  (s.splitOn ";").filterMap fun item =>
    match item.splitOn "," with
    | [i, st, en, sz, ty, gu, att, nm] =>
      some { index := i.toNat!, start := st.toNat!, end_ := en.toNat!, size := sz.toNat!,
             typ := hexB ty, guid := hexB gu, attrs := att.toNat!, name := parseRunes nm }
    | _ => none

def runesStr (r : List Nat) : String :=
  if r.isEmpty then "-" else ".".intercalate (r.map toString)

def partStr (p : Part) : String :=
  s!"{p.index},{p.start},{p.end_},{p.size},{toHex p.typ},{toHex p.guid},{p.attrs},{runesStr p.name}"

def partsStr (ps : List Part) : String :=
  if ps.isEmpty then "-" else ";".intercalate (ps.map partStr)

/-- `index,boot,type,start,size,chshex;…` -/
def parseMbrParts (s : String) : List Mbr.Part :=
  if s == "-" || s == "" then [] else
  (s.splitOn ";").filterMap fun item =>
    match item.splitOn "," with
    | [i, b, ty, st, sz, chs] =>
      some { index := i.toNat!, bootable := b == "1", typ := ty.toNat!, start := st.toNat!, size := sz.toNat!,
             chs := hexB chs }
    | _ => none

def mbrPartStr (p : Mbr.Part) : String :=
  s!"{p.index},{if p.bootable then 1 else 0},{p.typ},{p.start},{p.size},{toHex p.chs}"

def mbrPartsStr (ps : List Mbr.Part) : String :=
  if ps.isEmpty then "-" else ";".intercalate (ps.map mbrPartStr)

def parseCfg (args : List String) : Cfg :=
  match ((arg args "cfg").getD "11111").toList with
  | [a, b, c, d, e] => ⟨a == '1', b == '1', c == '1', d == '1', e == '1'⟩
  | _ => Cfg.fixed

def wrFinger (w : Wr) : String :=
  if w.data.length ≤ 128 then s!"{w.off}:{w.data.length}:h{toHex w.data}"
  else s!"{w.off}:{w.data.length}:c{crc32 w.data}"

def wrsFinger (ws : List Wr) : String :=
  if ws.isEmpty then "-" else ";".intercalate (ws.map wrFinger)

def tableOfArgs (args : List String) (pre : String) : Table :=
  { parts := parseParts ((arg args (pre ++ "parts")).getD "-"),
    lss := argNatD args "lss" 512,
    guid := hexB ((arg args (pre ++ "guid")).getD ""),
    pmbr := (arg args (pre ++ "pmbr")).getD "1" == "1" }

/-! ### gpt.write -/

def opWrite (args : List String) : String :=
  let c := parseCfg args
  let t := tableOfArgs args ""
  match Gpt.writeUp c crc32 t (argNatD args "size") with
  | .ok (ws, t') =>
    s!"res=ok\tws={wrsFinger ws}\tparts={partsStr t'.parts}\tgeo={t'.primaryHeader},{t'.secondaryHeader},{t'.firstData},{t'.lastData}"
  | .err _ => "res=err"
  | .panic _ => "res=panic"

/-! ### gpt.read / part.read / mbr.* -/

def tableStr (t : Table) : String :=
  s!"backup={if t.backup then 1 else 0}\tpmbr={if t.pmbr then 1 else 0}\tguid={toHex t.guid}\tgeo={t.primaryHeader},{t.secondaryHeader},{t.firstData},{t.lastData},{t.firstLBA},{t.arrCount},{t.entSize}\tparts={partsStr t.parts}"

def rangesStr (ps : List Part) (lss : Nat) : String :=
  if ps.isEmpty then "-" else ";".intercalate (ps.map fun p => s!"{p.index}:{getStart p lss}:{getSize p}")

def opRead (args : List String) : String :=
  let c := parseCfg args
  let d := extsDev (parseExts ((arg args "dev").getD "-"))
  let lss := argNatD args "lss" 512
  match Gpt.read c crc32 d (argNatD args "size") lss with
  | (.ok t, _) => s!"res=ok\t{tableStr t}\tranges={rangesStr t.parts lss}"
  | (.err _, _) => "res=err"
  | (.panic _, _) => "res=panic"

def opPartRead (args : List String) : String :=
  let c := parseCfg args
  let d := extsDev (parseExts ((arg args "dev").getD "-"))
  let lss := argNatD args "lss" 512
  match PartTable.read c crc32 d (argNatD args "size") lss with
  | (.ok (.gpt t), _) => s!"res=ok\tkind=gpt\t{tableStr t}"
  | (.ok (.mbr ps), _) => s!"res=ok\tkind=mbr\tparts={mbrPartsStr ps}"
  | (.err _, _) => "res=err"
  | (.panic _, _) => "res=panic"

def opMbrWrite (args : List String) : String :=
  s!"ws={wrsStr (Mbr.write (parseMbrParts ((arg args "parts").getD "-")))}"

def opMbrRead (args : List String) : String :=
  let d := extsDev (parseExts ((arg args "dev").getD "-"))
  let lss := argNatD args "lss" 512
  match Mbr.read d (argNatD args "size") with
  | (some ps, _) =>
    let rs := ";".intercalate (ps.map fun p => s!"{p.index}:{Mbr.getStart p lss}:{Mbr.getSize p lss}")
    s!"res=ok\tsig={Mbr.diskSig d}\tparts={mbrPartsStr ps}\tranges={rs}"
  | (none, _) => "res=err"

/-! ### mbr.readt / mbr.writet: the Table level (Model/MbrTable.lean): Read with the caller's sector sizes
    stamped (any Int: 0 and negative fall back to 512), every slice through the Go-panic model; Write with
    its refusal of more than four partitions -/

def opMbrReadT (args : List String) : String :=
  let d := extsDev (parseExts ((arg args "dev").getD "-"))
  match (Mbr.readT d (argNatD args "size") ((argInt args "lbs").getD 0) ((argInt args "pbs").getD 0)).1 with
  | .ok t =>
    let rs := ";".intercalate (t.diskParts.map fun p => s!"{p.index}:{p.byteStart}:{p.byteSize}:{p.lssOf}:{p.pssOf}")
    s!"res=ok\tlss={t.lss}\tpss={t.pss}\tparts={mbrPartsStr t.parts}\tranges={rs}"
  | .err _ => "res=err"
  | .panic _ => "res=panic"

def opMbrWriteT (args : List String) : String :=
  match Mbr.writeT ⟨parseMbrParts ((arg args "parts").getD "-"), argNatD args "lss" 512, argNatD args "pss" 512⟩ with
  | some ws => s!"res=ok\tws={wrsStr ws}"
  | none => "res=refused"

def mbrTableStr (t : Mbr.Table) : String :=
  let rs := ";".intercalate (t.diskParts.map fun p => s!"{p.index}:{p.byteStart}:{p.byteSize}:{p.lssOf}:{p.pssOf}")
  s!"lss={t.lss}\tpss={t.pss}\tparts={mbrPartsStr t.parts}\tranges={rs}"

/-- part.readt: partition.Read with (lss, pbs) handed on to both readers (Model/MbrTable.lean PartTable.readT) -/
def opPartReadT (args : List String) : String :=
  let c := parseCfg args
  let d := extsDev (parseExts ((arg args "dev").getD "-"))
  let lss := argNatD args "lss" 512
  match (PartTable.readT c crc32 d (argNatD args "size") lss ((argInt args "pbs").getD 0)).1 with
  | .ok (.gpt t) => s!"res=ok\tkind=gpt\t{tableStr t}"
  | .ok (.mbr t) => s!"res=ok\tkind=mbr\t{mbrTableStr t}"
  | .err _ => "res=err"
  | .panic _ => "res=panic"

/-! ### codec unit ops: crc, guid swap, utf16, entry -/

def opCrc (args : List String) : String :=
  s!"crc={crc32 ((argHex args "data").getD [])}"

def opEntry (args : List String) : String :=
  let c := parseCfg args
  match parseParts ((arg args "parts").getD "-") with
  | [p] =>
    match entryEnc c p with
    | .ok b => s!"res=ok\tbytes={toHex b}"
    | .err _ => "res=err"
    | .panic _ => "res=panic"
  | _ => "res=bad"

/-! ### gpt.valid: the Lean validity specification (Spec/GptValid.lean, written from the UEFI rules)
    evaluated with the executable CRC32 on the bytes the real Table.Write left on the device -/

def opValid (args : List String) : String :=
  let d := extsDev (parseExts ((arg args "dev").getD "-"))
  let size := argNatD args "size"
  let lss := argNatD args "lss" 512
  let g := GptSpec.gptValidB crc32 d size lss
  let p := if (arg args "pmbr").getD "1" == "1" then (if GptSpec.pmbrValidB d size lss then "1" else "0") else "-"
  let used := if g then toString (GptSpec.usedEntries d lss).length else "-"
  s!"gpt={if g then 1 else 0}\tpmbr={p}\tused={used}"

/-! ### gpt.rewrite / mbr.rewrite: read the table from the device bytes, write it back (C14: rewriting a
    table that was read from disk changes nothing; theorems gpt_write_idempotent / mbr_write_idempotent) -/

def unchangedBy (d : Dev) (ws : List Wr) : Bool :=
  ws.all fun w => readAt d w.off w.data.length == w.data

def opRewrite (args : List String) : String :=
  let c := parseCfg args
  let d := extsDev (parseExts ((arg args "dev").getD "-"))
  let size := argNatD args "size"
  let lss := argNatD args "lss" 512
  match Gpt.read c crc32 d size lss with
  | (.ok t1, _) =>
    match Gpt.writeUp c crc32 t1 size with
    | .ok (ws, _) => s!"res=ok\tws={wrsFinger ws}\tsame={if unchangedBy d ws then 1 else 0}"
    | .err _ => "res=err"
    | .panic _ => "res=panic"
  | _ => "res=noread"

/-! ### gpt.rmw: read-modify-write of a table of ANY geometry (C02 theorems gpt_read_write_geom / gpt_written_valid_geom):
    gpt.Read of the device bytes, the partitions replaced by `nparts` (and the disk GUID by `nguid`; `repair=1`:
    Table.Repair(size)), Write (`writeUp`: the header's geometry is kept, the size argument ignored).  Reports the
    write list, the partitions Write was left with, whether the geometry satisfies `GeomWF` / the usable range
    `UsableWF`, and — on the model's resulting device — what gpt.Read returns and the verdict of the Lean
    specification `GptValid`. -/

def usableB (t : Table) : Bool :=
  decide (2 + partSectorsUp t ≤ t.firstData) && decide (2 * t.lss + 16384 ≤ t.firstData * t.lss) &&
  decide (t.firstData ≤ t.lastData + 1) && decide (t.lastData < t.secondaryHeader - partSectorsUp t)

def opRmw (args : List String) : String :=
  let c := parseCfg args
  let base := parseExts ((arg args "dev").getD "-")
  let d := extsDev base
  let size := argNatD args "size"
  let lss := argNatD args "lss" 512
  match Gpt.read c crc32 d size lss with
  | (.ok t1, _) =>
    let t2 := match arg args "nparts" with
      | some ps => { t1 with parts := parseParts ps }
      | none => t1
    let t3 := match arg args "nguid" with
      | some g => { t2 with guid := hexB g }
      | none => t2
    let t4 := if (arg args "repair").getD "0" == "1" then repairUp t3 size else t3
    let wf := if decide (GeomWF t4 size) then 1 else 0
    let uw := if usableB t4 then 1 else 0
    match Gpt.writeUp c crc32 t4 size with
    | .ok (ws, t5) =>
      let dN := extsDev (ws.foldl (fun (e : Exts) w => e.push (w.off, ByteArray.mk w.data.toArray)) base)
      let rb := match Gpt.read c crc32 dN size lss with
        | (.ok t6, _) => s!"{if t6.backup then 1 else 0}:{toHex t6.guid}:{partsStr t6.parts}"
        | _ => "err"
      let rt := if (Gpt.read c crc32 dN size lss).1.isOk &&
                   (match (Gpt.read c crc32 dN size lss).1 with
                    | .ok t6 => t6.parts == (List.range t4.arrCount).filterMap (fun i =>
                        (t5.parts.find? (fun q => q.index == i + 1)).bind fun p => if allZero p.typ then none else some p)
                    | _ => false) then 1 else 0
      let v := if GptSpec.gptValidB crc32 dN size lss then 1 else 0
      s!"res=ok\tws={wrsFinger ws}\tparts={partsStr t5.parts}\tgeo={t5.primaryHeader},{t5.secondaryHeader},{t5.firstData},{t5.lastData},{t5.arrCount}\twf={wf}\tuw={uw}\trb={rb}\trt={rt}\tvalid={v}"
    | .err _ => s!"res=err\twf={wf}"
    | .panic _ => "res=panic"
  | _ => "res=noread"

def opMbrRewrite (args : List String) : String :=
  let d := extsDev (parseExts ((arg args "dev").getD "-"))
  match Mbr.read d (argNatD args "size") with
  | (some ps, _) =>
    let ws := Mbr.write ps
    s!"res=ok\tws={wrsStr ws}\tsame={if unchangedBy d ws then 1 else 0}"
  | (none, _) => "res=noread"

/-! ### gptcrash.pair -/

/-- subsets of `n` sectors to tear a write at: all 2^n when n ≤ 12, otherwise
    none, all, each single sector, first-k, last-k (0<k<n), even, odd -/
def family (n : Nat) : List (Nat → Bool) :=
  if n ≤ 12 then (List.range (2 ^ n)).map fun m => fun i => (m >>> i) % 2 == 1
  else
    [fun _ => false, fun _ => true]
    ++ (List.range n).map (fun j => fun i => i == j)
    ++ (List.range (n - 1)).map (fun k => fun i => decide (i < k + 1))
    ++ (List.range (n - 1)).map (fun k => fun i => decide (i ≥ n - (k + 1)))
    ++ [fun i => i % 2 == 0, fun i => i % 2 == 1]

def classify (oldParts newParts : Option (List Part)) (r : Res Table) : Char :=
  match r with
  | .ok t =>
    let c := if some t.parts == newParts then 'N' else if some t.parts == oldParts then 'O' else 'X'
    if t.backup then c.toLower else c
  | .err _ => 'E'
  | .panic _ => 'P'

/-- the same classification through the RECORD-level reader of the C09 theorems: the device is viewed as
    the five regions (`toDisk`) and read by `GptCrash.read` instantiated with the real decoders (`flatReader`) -/
def classifyRec (oldParts newParts : Option (List Part)) (d : Dev) (size lss : Nat) : Char :=
  match GptCrash.read (GptCrash.flatReader crc32 size lss) (GptCrash.toDisk d size lss) with
  | .ok ps fromBackup =>
    let c := if some ps == newParts then 'N' else if some ps == oldParts then 'O' else 'X'
    if fromBackup then c.toLower else c
  | .err => 'E'

/-- partition.Read through the RECORD-level `partRead` (flatReader + mbrViewFlat on toDisk); the record
    level does not carry the from-backup flag, so classes are upper case -/
def classifyRecPT (oldParts newParts : Option (List Part)) (oldMbr : Option (List Mbr.Part)) (d : Dev) (size lss : Nat) : Char :=
  match GptCrash.partRead (GptCrash.flatReader crc32 size lss) GptCrash.mbrViewFlat (GptCrash.toDisk d size lss) with
  | .gpt ps => if some ps == newParts then 'N' else if some ps == oldParts then 'O' else 'X'
  | .mbr ps => if some ps == oldMbr then 'M' else 'Y'
  | .err => 'E'

/-- the record-level readers of the ANY-GEOMETRY theorems (Proofs/GptCrashView.lean, GptCrashAtomic.lean): the device viewed
    as the five regions of geometry `g` (`toDiskG`: the last array sector short when the array does not end on a sector
    boundary) and read by `GptCrash.read` / `partRead` instantiated with the real decoders (`flatReaderGF`: the reader of the theorems,
    `flatReaderG`, with the array concatenated sector by sector instead of assembled bytewise; equal on every record view:
    Proofs/GptCrashFast.lean read_fast_eq / partRead_fast_eq) -/
def classifyRecG (oldParts newParts : Option (List Part)) (d : Dev) (g : GptCrash.Geo) : Char :=
  match GptCrash.read (GptCrash.flatReaderGF crc32 g) (GptCrash.toDiskG d g) with
  | .ok ps fromBackup =>
    let c := if some ps == newParts then 'N' else if some ps == oldParts then 'O' else 'X'
    if fromBackup then c.toLower else c
  | .err => 'E'

def classifyRecPTG (oldParts newParts : Option (List Part)) (oldMbr : Option (List Mbr.Part)) (d : Dev) (g : GptCrash.Geo) : Char :=
  match GptCrash.partRead (GptCrash.flatReaderGF crc32 g) GptCrash.mbrViewFlat (GptCrash.toDiskG d g) with
  | .gpt ps => if some ps == newParts then 'N' else if some ps == oldParts then 'O' else 'X'
  | .mbr ps => if some ps == oldMbr then 'M' else 'Y'
  | .err => 'E'

def classifyPT (oldParts newParts : Option (List Part)) (oldMbr : Option (List Mbr.Part)) (r : Res PartTable.Tbl) : Char :=
  match r with
  | .ok (.gpt t) => classify oldParts newParts (.ok t)
  | .ok (.mbr ps) => if some ps == oldMbr then 'M' else 'Y'
  | .err _ => 'E'
  | .panic _ => 'P'

/-! Windowed images (C09, big disks): the first `head.size` bytes and the `tail.size` bytes from `tailOff`
    are kept flat, every other byte of the device reads as zero and a write (part) outside the windows is
    dropped.  With the default window (head = whole device) this is the flat image of before. -/

structure Img where
  head : ByteArray
  tailOff : Nat
  tail : ByteArray

def Img.dev (m : Img) : Dev := fun i =>
  if i < m.head.size then m.head.get! i
  else if m.tailOff ≤ i ∧ i < m.tailOff + m.tail.size then m.tail.get! (i - m.tailOff) else 0

/-- `w` applied to the window `[base, base + img.size)` -/
def winApply (img : ByteArray) (base : Nat) (w : Wr) : ByteArray :=
  let lo := max w.off base
  let hi := min (w.off + w.data.length) (base + img.size)
  if lo < hi then (ByteArray.mk w.data.toArray).copySlice (lo - w.off) img (lo - base) (hi - lo) else img

def Img.apply (m : Img) (w : Wr) : Img :=
  { m with head := winApply m.head 0 w, tail := winApply m.tail m.tailOff w }

def Img.zero (size h t : Nat) : Img :=
  let h := min h size
  let t := min t (size - h)
  ⟨ByteArray.mk (Array.replicate h 0), size - t, ByteArray.mk (Array.replicate t 0)⟩

/-- `H,T` -/
def parseWin (s : String) (size : Nat) : Nat × Nat :=
  match s.splitOn "," with
  | [h, t] => (h.toNat!, t.toNat!)
  | _ => (size, 0)

/-- gpt.Table.Repair(diskSize) (Model/GptGeom.lean: array sectors rounded up, as the code is now) -/
def repairTable (t : Table) (size : Nat) : Table := repairUp t size

/-- old = gpt|none|mbr|raw, then for every prefix k and every subset of the family of the in-flight
    write the class of gpt.Read and of partition.Read:  g0=…,g1=… p0=…
    Optional: `win=H,T` windowed image (big disks); `old=raw` the device as given is the old state and what
    gpt.Read returns on it the old list; `pre=k:f` + table `p…`: the old state is crash state (k, subset f)
    of writing table p over the state built so far (a disk left behind by an interrupted write);
    `rmw=1` the new table is the one gpt.Read returns on the old state with its partitions replaced by
    `nparts` (and its disk GUID by `nguid` when given; `repair=1`: after Table.Repair(size));
    `rec=0` leaves out the record-level classifications (old tables of foreign geometry). -/
def opCrash (args : List String) : String :=
  let c := parseCfg args
  let size := argNatD args "size"
  let lss := argNatD args "lss" 512
  let base := parseExts ((arg args "dev").getD "-")
  let (wh, wt) := parseWin ((arg args "win").getD "") size
  let img0 := base.foldl (fun (img : Img) (e : Nat × ByteArray) => img.apply ⟨e.1, e.2.toList⟩) (Img.zero size wh wt)
  let oldKind := (arg args "old").getD "none"
  let oldMbrPs := parseMbrParts ((arg args "ombr").getD "-")
  let recLevel := (arg args "rec").getD "1" == "1"
  -- the old state
  let (imgA, oldMbr) : Img × Option (List Mbr.Part) :=
    if oldKind == "gpt" then
      match Gpt.writeUp c crc32 (tableOfArgs args "o") size with
      | .ok (ws, _) => (ws.foldl Img.apply img0, none)
      | _ => (img0, none)
    else if oldKind == "mbr" then
      let img := (Mbr.write oldMbrPs).foldl Img.apply img0
      (img, (Mbr.read img.dev size).1)
    else (img0, none)
  -- an interrupted earlier write of table p on top of it
  let img1 : Img :=
    match (arg args "pre").map (·.splitOn ":") with
    | some [k, f] =>
      match Gpt.writeUp c crc32 (tableOfArgs args "p") size with
      | .ok (ws, _) =>
        let imgk := (ws.take k.toNat!).foldl Img.apply imgA
        match ws[k.toNat!]? with
        | none => imgk
        | some w =>
          let n := (w.data.length + lss - 1) / lss
          match (family n)[f.toNat!]? with
          | some keep => (tornPieces lss w keep).foldl Img.apply imgk
          | none => imgk
      | _ => imgA
    | _ => imgA
  let tableOn (img : Img) : Option Table :=
    match (Gpt.read c crc32 img.dev size lss).1 with
    | .ok t => some t
    | _ => none
  let partsOf (img : Img) : Option (List Part) := (tableOn img).map (·.parts)
  let oldParts := if oldKind == "gpt" || oldKind == "raw" then partsOf img1 else none
  let fresh := tableOfArgs args "n"
  let newTable : Option Table :=
    if (arg args "rmw").getD "0" == "1" then
      (tableOn img1).map fun t1 =>
        let t2 := { t1 with parts := fresh.parts }
        let t3 := match arg args "nguid" with
          | some g => { t2 with guid := hexB g }
          | none => t2
        if (arg args "repair").getD "0" == "1" then repairTable t3 size else t3
    else some fresh
  match newTable with
  | none => "res=noread"
  | some nt =>
  -- the geometry the new table carries (a fresh table: what initTable makes of it) and its well-formedness
  let ntI := if nt.initialized then nt else initTableUp nt size
  let geo := GptCrash.geoOf ntI
  let geoLevel := (arg args "geo").getD "0" == "1"
  let wf := if decide (GeomWF ntI size) then "1" else "0"
  match Gpt.writeUp c crc32 nt size with
  | .ok (ws, _) =>
    let newParts := partsOf (ws.foldl Img.apply img1)
    let both (d : Dev) : List Char :=
      let g := Gpt.read c crc32 d size lss
      [classify oldParts newParts g.1, classifyPT oldParts newParts oldMbr (PartTable.readWith g d size).1,
       if recLevel then classifyRec oldParts newParts d size lss else '-',
       if recLevel then classifyRecPT oldParts newParts oldMbr d size lss else '-',
       if geoLevel then classifyRecG oldParts newParts d geo else '-',
       if geoLevel then classifyRecPTG oldParts newParts oldMbr d geo else '-']
    let stage (k : Nat) : List String :=
      let imgk := (ws.take k).foldl Img.apply img1
      match ws[k]? with
      | none => (both imgk.dev).map String.singleton
      | some w =>
        let n := (w.data.length + lss - 1) / lss
        let rs := (family n).map fun keep => both ((tornPieces lss w keep).foldl Img.apply imgk).dev
        (List.range 6).map fun i => String.ofList (rs.map (·.getD i '-'))
    let all := (List.range (ws.length + 1)).map stage
    let col (i : Nat) : String := ",".intercalate (all.map (·.getD i "-"))
    let r := if recLevel then col 2 else "-"
    let q := if recLevel then col 3 else "-"
    let rg := if geoLevel then col 4 else "-"
    let qg := if geoLevel then col 5 else "-"
    s!"res=ok\tn={ws.length}\tg={col 0}\tp={col 1}\tr={r}\tq={q}\trg={rg}\tqg={qg}\twf={wf}"
  | _ => "res=err"

end Driver.Gpt

def main : IO Unit := Driver.runLoop fun op args =>
  match op with
  | "gpt.write" => Driver.Gpt.opWrite args
  | "gpt.read" => Driver.Gpt.opRead args
  | "part.read" => Driver.Gpt.opPartRead args
  | "mbr.write" => Driver.Gpt.opMbrWrite args
  | "mbr.read" => Driver.Gpt.opMbrRead args
  | "gpt.crc" => Driver.Gpt.opCrc args
  | "gpt.entry" => Driver.Gpt.opEntry args
  | "gpt.valid" => Driver.Gpt.opValid args
  | "gpt.rewrite" => Driver.Gpt.opRewrite args
  | "gpt.rmw" => Driver.Gpt.opRmw args
  | "mbr.rewrite" => Driver.Gpt.opMbrRewrite args
  | "mbr.readt" => Driver.Gpt.opMbrReadT args
  | "mbr.writet" => Driver.Gpt.opMbrWriteT args
  | "part.readt" => Driver.Gpt.opPartReadT args
  | "gptcrash.pair" => Driver.Gpt.opCrash args
  | _ => "unknown-op"
