/-
  C10 — File handles honour the Read/Seek contract on every filesystem.
  The specification (`ReadOK`, `SeekOK`, `StepOK`, `HistoryOK`: bytes.Reader semantics) is Spec/Reader.lean.

  Quantifiers: every cursor position (also past the end), every buffer size (also 0 and
  larger than the file), every seek offset and whence, every cluster / block size > 0,
  every chain / extent list / block list that covers the file size, every content, every
  call sequence.  The theorems are about the mirror in Model/ReadSeek.lean with every
  defect switch in its repaired position (`Cfg.fixed`); the `cex_*` theorems show what five of the
  as-found switches do on the recorded witnesses, the `agree_*` theorems that those switches
  matter only on the stated trigger (the sixth, `e4SkipNeg`, has neither: out-of-order extent
  lists are outside `Ext4File.WF`).
-/
import DiskfsModel.Proofs.ReadSeek
import DiskfsModel.Generated.ReadSeek
namespace Diskfs.ReadSeek.C10
open Diskfs.Spec

/-! ### Read: exactly the bytes at the cursor, never more than remain, EOF exactly at the end -/

/-- FAT12/16/32 (`fat12.File.Read`): any chain that covers the size, any cluster size -/
theorem fat_read_refines (f : FatFile) (hwf : f.WF) (store : Dev) (content : Bytes)
    (hag : Agrees store content) (hsz : content.length = f.size) (off n : Nat) :
    ∃ segs eof, fatRead Cfg.fixed f off n = (.ok segs eof, off + (segsData store segs).length) ∧
      ReadOK content off n (segsData store segs) eof :=
  (fatRead_good f hwf off n).refines hag hsz

/-- ext4 (`ext4.File.Read`): any hole-free extent list that covers the size, any block size -/
theorem ext4_read_refines (f : Ext4File) (hwf : f.WF) (store : Dev) (content : Bytes)
    (hag : Agrees store content) (hsz : content.length = f.size) (off n : Nat) :
    ∃ segs eof, ext4Read Cfg.fixed f off n = (.ok segs eof, off + (segsData store segs).length) ∧
      ReadOK content off n (segsData store segs) eof :=
  (ext4Read_good f hwf off n).refines hag hsz

/-- iso9660 (`iso9660.File.Read`): one contiguous extent -/
theorem iso_read_refines (size : Nat) (store : Dev) (content : Bytes)
    (hag : Agrees store content) (hsz : content.length = size) (off n : Nat) :
    ∃ segs eof, isoRead size off n = (.ok segs eof, off + (segsData store segs).length) ∧
      ReadOK content off n (segsData store segs) eof :=
  (isoRead_good size off n).refines hag hsz

/-- squashfs (`squashfs.File.Read`): full blocks plus tail fragment, or data blocks only -/
theorem sqfs_read_refines (f : SqFile) (hwf : f.WF) (store : Dev) (content : Bytes)
    (hag : Agrees store content) (hsz : content.length = f.size) (off n : Nat) :
    ∃ segs eof, sqRead Cfg.fixed f off n = (.ok segs eof, off + (segsData store segs).length) ∧
      ReadOK content off n (segsData store segs) eof :=
  (sqRead_good f hwf off n).refines hag hsz

/-! ### Seek: where io.Seeker says -/

/-- all four `Seek`s (the same body over the three regenerated `case` arms), open handle -/
theorem seek_refines (fm : FileM) (pos : Nat) (w : Whence) (o : Int) :
    SeekOK fm.size pos w o (seekWith (armsOf Cfg.fixed fm) fm.size pos w o).1
      (seekWith (armsOf Cfg.fixed fm) fm.size pos w o).2 := by
  rw [armsOf_fixed]; exact seekWith_canonical fm.size pos w o

theorem fat_seek_refines (f : FatFile) (pos : Nat) (w : Whence) (o : Int) :
    SeekOK f.size pos w o (seekWith (armsOf Cfg.fixed (.fat f)) f.size pos w o).1
      (seekWith (armsOf Cfg.fixed (.fat f)) f.size pos w o).2 :=
  seek_refines (.fat f) pos w o

theorem ext4_seek_refines (f : Ext4File) (pos : Nat) (w : Whence) (o : Int) :
    SeekOK f.size pos w o (seekWith (armsOf Cfg.fixed (.ext4 f)) f.size pos w o).1
      (seekWith (armsOf Cfg.fixed (.ext4 f)) f.size pos w o).2 :=
  seek_refines (.ext4 f) pos w o

theorem iso_seek_refines (size pos : Nat) (w : Whence) (o : Int) :
    SeekOK size pos w o (seekWith (armsOf Cfg.fixed (.iso size)) size pos w o).1
      (seekWith (armsOf Cfg.fixed (.iso size)) size pos w o).2 :=
  seek_refines (.iso size) pos w o

theorem sqfs_seek_refines (f : SqFile) (pos : Nat) (w : Whence) (o : Int) :
    SeekOK f.size pos w o (seekWith (armsOf Cfg.fixed (.sqfs f)) f.size pos w o).1
      (seekWith (armsOf Cfg.fixed (.sqfs f)) f.size pos w o).2 :=
  seek_refines (.sqfs f) pos w o

/-- after Close, Read and Seek return an error, deliver no data and leave the handle alone -/
theorem closed_handle_fails (fm : FileM) (h : H) (hc : h.closed = true) (n : Nat) (w : Whence) (o : Int) :
    readM Cfg.fixed fm h n = (.read .errClosed, h) ∧ seekM Cfg.fixed fm h w o = (.seekClosed, h) := by
  simp [readM, seekM, hc, Cfg.fixed]

/-- one call of any kind on a handle in any state refines the specification step
    (cursor invariant: the model handle's offset / closed flag are the specification's) -/
theorem handle_step (fm : FileM) (hwf : fm.WF) (store : Dev) (content : Bytes)
    (hag : Agrees store content) (hsz : content.length = fm.size) (h : H) (op : HOp) :
    StepOK content ⟨h.off, h.closed⟩ op (toSpec store (stepM Cfg.fixed fm h op).1)
      ⟨(stepM Cfg.fixed fm h op).2.off, (stepM Cfg.fixed fm h op).2.closed⟩ := by
  obtain ⟨off, closed⟩ := h
  cases closed with
  | true => cases op <;> simp [StepOK, stepM, readM, seekM, closeM, Cfg.fixed, toSpec]
  | false =>
    cases op with
    | read n =>
      obtain ⟨segs, eof, heq, hro⟩ := (readOpen_good fm hwf off n).refines hag hsz
      simp only [StepOK, stepM, readM, Bool.false_eq_true, if_false, heq, toSpec]
      exact ⟨_, _, rfl, hro, rfl⟩
    | seek w o =>
      simp only [StepOK, stepM, seekM, Bool.false_eq_true, if_false, toSpec, hsz]
      exact ⟨_, _, rfl, seek_refines fm off w o, rfl⟩
    | close => simp [StepOK, stepM, closeM, Cfg.fixed, toSpec]

/-- every sequence of Read / Seek / Close calls on a fresh handle is a history bytes.Reader allows -/
theorem handle_history (fm : FileM) (hwf : fm.WF) (store : Dev) (content : Bytes)
    (hag : Agrees store content) (hsz : content.length = fm.size) (ops : List HOp) :
    HistoryOK content ⟨0, false⟩ (histM Cfg.fixed fm store ⟨0, false⟩ ops) := by
  suffices ∀ h : H, HistoryOK content ⟨h.off, h.closed⟩ (histM Cfg.fixed fm store h ops) from this ⟨0, false⟩
  induction ops with
  | nil => exact fun _ => trivial
  | cons op ops ih => exact fun h => ⟨_, handle_step fm hwf store content hag hsz h op, ih _⟩

theorem fat_handle_history (f : FatFile) (hwf : f.WF) (store : Dev) (content : Bytes)
    (hag : Agrees store content) (hsz : content.length = f.size) (ops : List HOp) :
    HistoryOK content ⟨0, false⟩ (histM Cfg.fixed (.fat f) store ⟨0, false⟩ ops) :=
  handle_history (.fat f) hwf store content hag hsz ops

theorem ext4_handle_history (f : Ext4File) (hwf : f.WF) (store : Dev) (content : Bytes)
    (hag : Agrees store content) (hsz : content.length = f.size) (ops : List HOp) :
    HistoryOK content ⟨0, false⟩ (histM Cfg.fixed (.ext4 f) store ⟨0, false⟩ ops) :=
  handle_history (.ext4 f) hwf store content hag hsz ops

theorem iso_handle_history (size : Nat) (store : Dev) (content : Bytes)
    (hag : Agrees store content) (hsz : content.length = size) (ops : List HOp) :
    HistoryOK content ⟨0, false⟩ (histM Cfg.fixed (.iso size) store ⟨0, false⟩ ops) :=
  handle_history (.iso size) trivial store content hag hsz ops

theorem sqfs_handle_history (f : SqFile) (hwf : f.WF) (store : Dev) (content : Bytes)
    (hag : Agrees store content) (hsz : content.length = f.size) (ops : List HOp) :
    HistoryOK content ⟨0, false⟩ (histM Cfg.fixed (.sqfs f) store ⟨0, false⟩ ops) :=
  handle_history (.sqfs f) hwf store content hag hsz ops

/-- the executable well-formedness check the model driver prints for every compared case implies
    the hypothesis `WF` of the theorems above: every case of the correspondence run lies in their domain -/
theorem wf_check_sound (fm : FileM) (h : fm.wfb = true) : fm.WF := by
  cases fm with
  | fat f =>
    simp only [FileM.wfb, Bool.and_eq_true, decide_eq_true_eq] at h
    exact h
  | ext4 f =>
    simp only [FileM.wfb, Bool.and_eq_true, decide_eq_true_eq] at h
    exact ⟨h.1.1, contigB_sound _ _ h.1.2, h.2⟩
  | iso s => trivial
  | sqfs f =>
    simp only [FileM.wfb, Bool.and_eq_true, Bool.or_eq_true, decide_eq_true_eq, beq_iff_eq] at h
    exact ⟨h.1, h.2⟩

/-- fat-read-past-eof: 700-byte file, 512-byte clusters, cursor 600, 4 KiB buffer: 424 bytes, not 100 -/
theorem cex_fat_read_past_eof :
    fatRead Cfg.asFound ⟨512, 700, 2⟩ 600 4096 = (.ok [⟨600, 424⟩] true, 1024) ∧
    fatRead Cfg.fixed ⟨512, 700, 2⟩ 600 4096 = (.ok [⟨600, 100⟩] true, 700) := by decide

/-- sqfs-seekend-sign: Seek(-10, SeekEnd) on a 10000-byte file returns 10010; io.Seeker says 9990 -/
theorem cex_sqfs_seekend_sign :
    seekWith (armsOf Cfg.asFound (.sqfs ⟨4096, 10000, 2, true⟩)) 10000 0 .end_ (-10) = (some 10010, 10010) ∧
    seekWith (armsOf Cfg.fixed (.sqfs ⟨4096, 10000, 2, true⟩)) 10000 0 .end_ (-10) = (some 9990, 9990) := by decide

/-- ext4-close-nil-deref: Read (and Seek from the end) on a closed ext4 handle panic -/
theorem cex_ext4_close_nil_deref (f : Ext4File) (h : H) (hc : h.closed = true) (n : Nat) (o : Int) :
    readM Cfg.asFound (.ext4 f) h n = (.read .panic, h) ∧
    seekM Cfg.asFound (.ext4 f) h .end_ o = (.seekPanic, h) := by
  simp [readM, seekM, hc, Cfg.asFound, FileM.isExt4]

/-- ext4-extent-skip-lt: a read starting, unaligned, in the block after the end of an extent panics -/
theorem cex_ext4_extent_skip_lt :
    ext4Read Cfg.asFound ⟨1024, 9316, [⟨0, 3⟩, ⟨3, 3⟩, ⟨6, 3⟩, ⟨9, 1⟩]⟩ 3077 16 = (.panic, 3077) ∧
    ext4Read Cfg.fixed ⟨1024, 9316, [⟨0, 3⟩, ⟨3, 3⟩, ⟨6, 3⟩, ⟨9, 1⟩]⟩ 3077 16 = (.ok [⟨3077, 16⟩] false, 3093) := by decide

/-- sqfs-read-empty-buffer: Read with an empty buffer before the end returns an error -/
theorem cex_sqfs_read_empty_buffer :
    sqRead Cfg.asFound ⟨4096, 10000, 2, true⟩ 5 0 = (.errOther [], 5) ∧
    sqRead Cfg.fixed ⟨4096, 10000, 2, true⟩ 5 0 = (.ok [] false, 5) := by decide

/-- the FAT clamp switch changes nothing unless the cursor is inside a cluster whose remainder
    reaches past the end of the file and the buffer is larger than what remains -/
theorem agree_fat_clamp (c : Cfg) (f : FatFile) (off n : Nat)
    (h : ¬ (0 < off ∧ off % f.bpc ≠ 0 ∧ f.size - off < n ∧ f.size - off < f.bpc - off % f.bpc)) :
    fatRead { c with fatClamp := false } f off n = fatRead { c with fatClamp := true } f off n := by
  unfold fatRead
  by_cases hend : f.size ≤ off
  · simp [hend]
  · by_cases hp : 0 < off ∧ off % f.bpc ≠ 0
    · have hmin : min (f.bpc - off % f.bpc) n = min (f.bpc - off % f.bpc) (min n (f.size - off)) := by omega
      simp [hend, hp, hmin]
    · simp [hend, hp]

/-- the squashfs SeekEnd switch changes nothing unless the call is a Seek from the end with a non-zero offset -/
theorem agree_sqfs_seekend (c : Cfg) (f : SqFile) (pos : Nat) (w : Whence) (o : Int)
    (h : w ≠ .end_ ∨ o = 0) :
    seekWith (armsOf { c with sqEndAdd := false } (.sqfs f)) f.size pos w o =
    seekWith (armsOf { c with sqEndAdd := true } (.sqfs f)) f.size pos w o := by
  cases w with
  | start => rfl
  | current => rfl
  | end_ =>
    rcases h with h | h
    · exact absurd rfl h
    · subst h; simp [seekWith, armsOf, SeekArms.pick, Arm.eval]

/-- the ext4 closed-handle switch changes nothing on an open handle -/
theorem agree_ext4_closed (c : Cfg) (fm : FileM) (h : H) (ho : h.closed = false) (n : Nat) (w : Whence) (o : Int) :
    readM { c with e4Closed := false } fm h n = readM { c with e4Closed := true } fm h n ∧
    seekM { c with e4Closed := false } fm h w o = seekM { c with e4Closed := true } fm h w o := by
  constructor
  · simp only [readM, ho, Bool.false_eq_true, if_false]
    cases fm with
    | fat f => simp [readOpen, fatRead]
    | ext4 f =>
      have hl := ext4Loop_cfg { c with e4Closed := false } { c with e4Closed := true } rfl rfl
      simp only [readOpen, ext4Read, hl]
    | iso s => rfl
    | sqfs f => simp [readOpen, sqRead, sqFinish]
  · simp only [seekM, ho, Bool.false_eq_true, if_false]
    cases fm <;> rfl

/-- the ext4 skip switch changes nothing unless some extent ends exactly at the first block wanted -/
theorem agree_ext4_skip (c : Cfg) (bs btr rsb : Nat) :
    ∀ (es : List Ext) (off rb : Nat) (segs : List Seg), (∀ e ∈ es, e.fileBlock + e.count ≠ rsb) →
      ext4Loop { c with e4SkipLe := false } bs btr rsb es off rb segs =
      ext4Loop { c with e4SkipLe := true } bs btr rsb es off rb segs := by
  intro es
  induction es with
  | nil => intro off rb segs _; rfl
  | cons e es ih =>
    intro off rb segs h
    have hne := h e (List.mem_cons_self ..)
    have hrest : ∀ e' ∈ es, e'.fileBlock + e'.count ≠ rsb := fun e' he' => h e' (List.mem_cons_of_mem _ he')
    have hd : decide (e.fileBlock + e.count < rsb) = decide (e.fileBlock + e.count ≤ rsb) :=
      decide_eq_decide.2 ⟨Nat.le_of_lt, fun h => Nat.lt_of_le_of_ne h hne⟩
    simp only [ext4Loop, Bool.false_eq_true, if_false, if_true, hd, ih _ _ _ hrest]

/-- the squashfs empty-buffer switch changes nothing when at least one byte is wanted -/
theorem agree_sqfs_empty (c : Cfg) (f : SqFile) (st : SqSt) (m : Nat) (hm : 0 < m) :
    sqFinish { c with sqEmptyOk := false } f m st = sqFinish { c with sqEmptyOk := true } f m st := by
  simp [sqFinish, hm]

/-! ### facts regenerated from /repo tie the model's Seek to the source -/

/-- the three `case` arms of every `Seek` are the ones the model evaluates: SeekStart ↦ offset,
    SeekEnd ↦ size + offset, SeekCurrent ↦ cursor + offset — squashfs may instead still carry the
    recorded `size - offset` (sqfs-seekend-sign), which is the model's `sqEndAdd = false` arm -/
theorem facts_agree_seek_arms :
    Generated.ReadSeek.fatSeekArms = SeekArms.canonical.codes ∧
    Generated.ReadSeek.ext4SeekArms = SeekArms.canonical.codes ∧
    Generated.ReadSeek.isoSeekArms = SeekArms.canonical.codes ∧
    (Generated.ReadSeek.sqfsSeekArms = (armsOf Cfg.fixed (.sqfs ⟨0, 0, 0, false⟩)).codes ∨
     Generated.ReadSeek.sqfsSeekArms = (armsOf Cfg.asFound (.sqfs ⟨0, 0, 0, false⟩)).codes) := by decide

/-- every `Seek` refuses a position before the start with an error before it moves the cursor -/
theorem facts_agree_seek_neg_check :
    Generated.ReadSeek.fatSeekNegCheck = true ∧ Generated.ReadSeek.ext4SeekNegCheck = true ∧
    Generated.ReadSeek.isoSeekNegCheck = true ∧ Generated.ReadSeek.sqfsSeekNegCheck = true := by decide

/-- FAT, iso9660 and squashfs `Read` / `Seek` start with the closed-handle guard (ext4's guard is the
    recorded defect ext4-close-nil-deref; its presence is reported in the evidence, not required here) -/
theorem facts_agree_closed_guards :
    Generated.ReadSeek.fatReadClosedGuard = true ∧ Generated.ReadSeek.fatSeekClosedGuard = true ∧
    Generated.ReadSeek.isoReadClosedGuard = true ∧ Generated.ReadSeek.isoSeekClosedGuard = true ∧
    Generated.ReadSeek.sqfsReadClosedGuard = true ∧ Generated.ReadSeek.sqfsSeekClosedGuard = true := by decide

/-! ### non-vacuity: the hypotheses are satisfiable by the shapes the engine meets -/

example : (FatFile.mk 512 700 2).WF := ⟨by decide, by decide⟩
example : (Ext4File.mk 1024 9316 [⟨0, 3⟩, ⟨3, 3⟩, ⟨6, 3⟩, ⟨9, 1⟩]).WF := by
  refine ⟨by decide, ?_, by decide⟩
  simp [Contig]
example : (SqFile.mk 4096 10000 2 true).WF := by
  refine ⟨by decide, Or.inl ⟨rfl, by decide⟩⟩
example : (SqFile.mk 8192 10000 2 false).WF := by
  refine ⟨by decide, Or.inr (by decide)⟩
example : Agrees (fun i => UInt8.ofNat i) [0, 1, 2] := by
  intro i h
  match i, h with
  | 0, _ => rfl
  | 1, _ => rfl
  | 2, _ => rfl
example : ReadOK [1, 2, 3, 4, 5] 3 10 [4, 5] true := by
  refine ⟨by decide, by decide, by decide⟩
example : SeekOK 10 4 .end_ (-3) (some 7) 7 := by simp [SeekOK, seekTarget]
example : SeekOK 10 4 .current (-5) none 4 := by simp [SeekOK, seekTarget]

end Diskfs.ReadSeek.C10
