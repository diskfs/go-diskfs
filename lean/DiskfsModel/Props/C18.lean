/-
  C18 — Opening and walking a damaged filesystem image cannot crash.
  Theorems (all FAT tables, all start clusters — no bound on table size):
   * the repaired chain walk terminates within maxCluster+1 iterations whatever the FAT contains,
     and returns exactly what the as-found walk returns on every chain that fits in the FAT;
   * the as-found walk really diverges on a one-entry cycle (the negative theorem that makes the
     finding `timeout@fat*` a fact of the model and not only of a run);
   * the checked geometry reader never divides by zero; the as-found one does for spc = 0.
  Namespace Diskfs.Parsers.C18: panic-aware mirrors of the parsers that walk untrusted
  on-disk structures — ext4 linear directory blocks and extent nodes, FAT CheckGeometry and the Read
  arithmetic, iso9660 path tables / system use areas / directory records, squashfs metadata reads,
  fragment reads and id lookup — with no-panic, termination and allocation-bound theorems for all inputs.
  Partial: everything not mirrored (superblock / group descriptor / inode / volume descriptor decoding,
  htree directories, Rock Ridge handlers, squashfs inode and directory bodies, compressors, the FAT
  directory parser) is decided by enumeration on the real code in child processes (engine `damage`),
  not by a theorem.
-/
import DiskfsModel.Model.Robust
import DiskfsModel.Generated.Robust
import DiskfsModel.Proofs.ParsersExt4
import DiskfsModel.Proofs.ParsersFat
import DiskfsModel.Proofs.ParsersIso
import DiskfsModel.Proofs.ParsersSqfs
import DiskfsModel.Generated.Parsers
namespace Diskfs.Robust.C18

/-- as found: a chain entry that points at itself is followed forever -/
theorem cex_walk_self_loop (t : Fat) (c : Nat) (hself : t.next c = c) (hne : t.isEOC c = false)
    (hmax : c ≤ t.maxCluster) (h2 : 2 ≤ c) :
    ∀ fuel acc, walkLoop t fuel c acc = .diverge := by
  intro fuel
  induction fuel with
  | zero => intro acc; rfl
  | succ n ih =>
    intro acc
    unfold walkLoop
    simp only [hself, hne]
    have h1 : ¬ (c > t.maxCluster) := by omega
    have h3 : ¬ (c < 2) := by omega
    simp [h1, h3, ih]

/-- the list grows by one cluster per iteration and is refused once it is longer than `maxCluster` -/
theorem walkB_terminates_aux (t : Fat) :
    ∀ fuel c acc, acc.length ≤ t.maxCluster → t.maxCluster + 1 ≤ fuel + acc.length →
      walkLoopB t fuel c acc ≠ .diverge := by
  intro fuel
  induction fuel with
  | zero => intro c acc h1 h2; omega
  | succ n ih =>
    intro c acc h1 h2
    rw [walkLoopB]
    simp only [List.length_append, List.length_cons, List.length_nil]
    split
    · nofun
    split
    · nofun
    split
    · nofun
    split
    · nofun
    apply ih <;> simp only [List.length_append, List.length_cons, List.length_nil] <;> omega

/-- repaired: terminates for EVERY table within maxCluster+1 iterations -/
theorem walkB_terminates (t : Fat) (first : Nat) :
    walkB t (t.maxCluster + 2) first ≠ .diverge := by
  unfold walkB
  split
  · simp
  · exact walkB_terminates_aux t _ first [] (by simp) (by simp)

/-- a successful as-found walk returns a list strictly longer than its accumulator; if that list fits the
    FAT, the length bound of the repaired walk never fires and it returns the same list -/
theorem walkLoop_ok (t : Fat) :
    ∀ fuel c acc l, walkLoop t fuel c acc = .ok l →
      acc.length < l.length ∧ (l.length ≤ t.maxCluster → walkLoopB t fuel c acc = .ok l) := by
  intro fuel
  induction fuel with
  | zero => intro c acc l h; simp [walkLoop] at h
  | succ n ih =>
    intro c acc l h
    rw [walkLoop] at h
    rw [walkLoopB]
    dsimp only at h ⊢
    split at h
    · injection h with h
      subst h
      exact ⟨by simp, fun hl => by rw [if_neg (by omega), if_pos ‹_›]⟩
    split at h
    · cases h
    split at h
    · cases h
    obtain ⟨h1, h2⟩ := ih _ _ _ h
    simp only [List.length_append, List.length_cons, List.length_nil] at h1 ⊢
    refine ⟨by omega, fun hl => ?_⟩
    rw [if_neg (by omega), if_neg ‹_›, if_neg ‹_›, if_neg ‹_›]
    exact h2 hl

/-- the repair changes nothing for chains that fit in the FAT: same clusters, same order -/
theorem walkB_agrees (t : Fat) :
    ∀ fuel c acc l, walkLoop t fuel c acc = .ok l → l.length ≤ t.maxCluster →
      walkLoopB t fuel c acc = .ok l := fun fuel c acc l h => (walkLoop_ok t fuel c acc l h).2

/-- errors of the as-found walk are errors of the repaired walk too (it never invents data) -/
theorem walkB_never_more (t : Fat) :
    ∀ fuel c acc l, walkLoopB t fuel c acc = .ok l → walkLoop t fuel c acc = .ok l := by
  intro fuel
  induction fuel with
  | zero => intro c acc l h; simp [walkLoopB] at h
  | succ n ih =>
    intro c acc l h
    rw [walkLoopB] at h
    rw [walkLoop]
    dsimp only at h ⊢
    split at h
    · cases h
    split at h
    · rw [if_pos ‹_›]
      exact h
    split at h
    · cases h
    split at h
    · cases h
    rw [if_neg ‹_›, if_neg ‹_›, if_neg ‹_›]
    exact ih _ _ _ h

/-- checked geometry reader: never a divide-by-zero panic, for all field values -/
theorem fat_read_no_div_zero (bps spc re ds : Nat) : fatReadDivs true bps spc re ds ≠ none := by
  unfold fatReadDivs
  split
  · simp
  · split
    · rename_i h1 h2; simp_all
    · simp

/-- as found: sectorsPerCluster = 0 panics -/
theorem cex_fat_read_div_zero : fatReadDivs false 512 0 224 2847 = none := by decide

/-- facts regenerated from the source on every run: getClusterList carries a length bound
    against MaxCluster (so `walkLoopB`, not `walkLoop`, is the mirror of the current code and
    `walkB_terminates` applies), and each of fat12/fat16/fat32 `Read` calls `CheckGeometry`
    before its first division (so `fat_read_no_div_zero` and, for the fuller mirror of part 2,
    `Parsers.C18.fat_read_no_panic` speak of the code as it is). -/
theorem facts_agree_walk_bounded : Generated.Robust.fatWalkBounded = true := by decide
theorem facts_agree_geometry_checked :
    Generated.Robust.fat12ReadChecked = true ∧ Generated.Robust.fat16ReadChecked = true ∧
    Generated.Robust.fat32ReadChecked = true := by decide

/-! non-vacuity: a concrete looping table and a concrete good chain -/
example : walkLoop ⟨fun c => if c = 2 then 2 else 0, fun n => n ≥ 0xFF8, 100⟩ 50 2 [] = .diverge := by decide
example : walkLoopB ⟨fun c => if c = 2 then 2 else 0, fun n => n ≥ 0xFF8, 5⟩ 7 2 [] = .err := by decide
example : walk ⟨fun c => if c = 2 then 3 else if c = 3 then 0xFFF else 0, fun n => n ≥ 0xFF8, 100⟩ 10 2 = .ok [2, 3] := by decide

end Diskfs.Robust.C18

/-! ## C18, part 2 — panic-aware mirrors of the parsers that walk untrusted on-disk structures
    (model: `Model/Parsers.lean`; engine `parsers` ties every function below to the real code).
    `GS` is a Go slice with its capacity; theorems quantify over EVERY buffer, length and capacity
    (`b.wf`: len ≤ cap), every parameter value and every fuel. `≠ .panic`: no slice-bounds / index /
    divide panic; `≠ .fuel` with the stated fuel: the loop ends within that many iterations. -/
namespace Diskfs.Parsers.C18
open Diskfs.Parsers

theorem ext4_dirLinear_no_panic (b : GS) (hwf : b.wf) (fuel : Nat) :
    Ext4.parseDirLinear true b fuel ≠ .panic :=
  (Ext4.dirLoop_lands (C := True) b hwf fuel 0 [] (Nat.zero_le _)).no_panic trivial

/-- rec_len ≥ 12 is enforced, so the walk ends within len/12 + 2 iterations -/
theorem ext4_dirLinear_terminates (b : GS) (hwf : b.wf) :
    Ext4.parseDirLinear true b (b.len / 12 + 2) ≠ .fuel :=
  (Ext4.dirLoop_lands (C := True) b hwf _ 0 [] (Nat.zero_le _)).no_fuel (by omega)

/-- the entry slice grows to at most len/12 entries -/
theorem ext4_dirLinear_count (b : GS) (hwf : b.wf) (fuel : Nat) (l : List Ext4.DirEnt)
    (h : Ext4.parseDirLinear true b fuel = .ok l) : 12 * l.length ≤ b.len :=
  Nat.le_trans ((Ext4.dirLoop_lands (C := True) b hwf fuel 0 [] (Nat.zero_le _)).post l h)
    (Nat.le_of_eq (Nat.zero_add _))

/-- the entry decoder is safe under the condition its caller checks (name fits the entry) -/
theorem ext4_dirEntry_no_panic (b : GS) (hwf : b.wf) (hname : 8 + (b.buf.getD 6 0).toNat ≤ b.len) :
    Ext4.dirEntryFromBytes b ≠ .panic :=
  (Ext4.dirEntryFromBytes_lands (F := True) (C := True) b hwf hname).no_panic trivial

/-- as found (before 214d00e): a rec_len that reaches past the block panics -/
theorem cex_ext4_dirLinear_reclen :
    Ext4.parseDirLinear false (GS.ofBytes [1,0,0,0, 0xFF,0xFF, 1,1, 0x61,0,0,0]) 3 = .panic := by decide

/-- the decoder alone does panic when the name does not fit (why the caller's check matters) -/
theorem cex_ext4_dirEntry_name : Ext4.dirEntryFromBytes (GS.ofBytes [1,0,0,0, 12,0, 9,1, 0,0,0,0]) = .panic := by decide

theorem ext4_parseExtents_no_panic (b : GS) (hwf : b.wf) (start count : Nat) :
    Ext4.parseExtents true b start count ≠ .panic :=
  (Ext4.parseExtents_lands (F := True) (C := True) b hwf start count).no_panic trivial

/-- rows appended = announced entries, all inside the node: at most (len-12)/12 -/
theorem ext4_parseExtents_count (b : GS) (hwf : b.wf) (start count : Nat) (n : Ext4.ExtNode)
    (h : Ext4.parseExtents true b start count = .ok n) :
    n.rows.length = n.entries ∧ 12 + 12 * n.entries ≤ b.len :=
  (Ext4.parseExtents_lands (F := True) (C := True) b hwf start count).post n h

/-- as found (before 64841b3): eh_entries = 2 in a 24-byte node panics -/
theorem cex_ext4_parseExtents_entries :
    Ext4.parseExtents false (GS.ofBytes ([0x0a,0xf3, 2,0, 4,0, 0,0, 0,0,0,0] ++ List.replicate 12 0)) 0 0 = .panic := by
  decide

theorem fat_checkGeometry_sound (p : Fat.Bpb) (size : Int) (h : Fat.checkGeometry p size = true) :
    (p.bps = 512 ∨ p.bps = 1024 ∨ p.bps = 2048 ∨ p.bps = 4096) ∧ 0 < p.spc ∧ p.spc ≤ 128 ∧
    p.reserved ≠ 0 ∧ p.fatCount ≠ 0 ∧ p.spf ≠ 0 ∧ (p.total ≠ 0 → Fat.metaSectors p < p.total) ∧
    (size > 0 → ((Fat.metaSectors p * p.bps % two64 : Nat) : Int) ≤ size) := Fat.checkGeometry_spec p size h

/-- CheckGeometry's own uint64 arithmetic cannot wrap for fields of the on-disk widths -/
theorem fat_checkGeometry_u64 (p : Fat.Bpb) (hr : p.inRange) (hb : p.bps ≤ 4096) (hb0 : 0 < p.bps) :
    Fat.metaSectors p * p.bps < two64 := Fat.checkGeometry_u64 p hr hb hb0

/-- fat12.Read / fat16.Read: no division by zero for ANY field values -/
theorem fat_read_no_panic (k : Fat.Kind) (p : Fat.Bpb) (size : Int) : Fat.read1216 true k p size ≠ .panic :=
  (Fat.read1216_lands (F := True) (C := True) k p size).no_panic trivial

/-- no wrapped subtraction / product: every uint32 intermediate is the exact number -/
theorem fat_read_exact (k : Fat.Kind) (p : Fat.Bpb) (size : Int) (g : Fat.Geom) (hr : p.inRange)
    (hspf : p.spf < 65536) (ht : p.total ≠ 0) (h : Fat.read1216 true k p size = .ok g) :
    Fat.metaSectors p < p.total ∧ g.numClusters = (p.total - Fat.metaSectors p) / p.spc ∧
    g.fatSize = p.spf * p.bps ∧ g.rootDirOff = (p.reserved + 2 * p.spf) * p.bps ∧
    g.dataStart = (p.reserved + 2 * p.spf + Fat.rootDirSectors64 p) * p.bps := by
  obtain ⟨hc, rfl⟩ := (Fat.read1216_lands (F := True) (C := True) k p size).post g h
  obtain ⟨hb, _, _, _, _, _, hmeta, _⟩ := Fat.checkGeometry_spec p size hc
  rw [Fat.geomOf_exact p hr hspf (by omega) (hmeta ht)]
  exact ⟨hmeta ht, rfl, rfl, rfl, rfl⟩

/-- FAT allocation ≤ volume size (fat12 / fat16 / fat32), for BPB fields of their on-disk widths -/
theorem fat_read_alloc_le_size (k : Fat.Kind) (p : Fat.Bpb) (size : Int) (g : Fat.Geom) (hr : p.inRange)
    (hsz : size > 0) (h : Fat.read1216 true k p size = .ok g) : (g.fatSize : Int) ≤ size := by
  obtain ⟨hc, rfl⟩ := (Fat.read1216_lands (F := True) (C := True) k p size).post g h
  exact Fat.fatSize_le_size p size hr hsz hc

theorem fat32_read_alloc_le_size (p : Fat.Bpb) (size : Int) (g : Fat.Geom32) (w : Bool) (hr : p.inRange)
    (hsz : size > 0) (h : Fat.read32 true w p size = .ok g) : (g.fatSize : Int) ≤ size := by
  obtain ⟨hc, hg⟩ := (Fat.read32_lands (F := True) w p size).post g h
  obtain ⟨r1, r2, r3, r4, r5, _, r7⟩ := hr
  rw [hg]
  exact Fat.fatSize_le_size { p with rootEntries := 0 } size ⟨r1, r2, r3, r4, r5, Nat.zero_lt_succ _, r7⟩ hsz hc

/-- fat32.Read with the 64-bit FAT size bound (d70288b, fixes/fat32-fatsize-wrap.patch) never panics -/
theorem fat32_read_no_panic (p : Fat.Bpb) (size : Int) : Fat.read32 true true p size ≠ .panic :=
  (Fat.read32_lands (F := True) true p size).no_panic rfl

/-- as found (before d70288b, finding fat32-fatsize-wrap): 16 GiB volume, sectors per FAT = 2^23: fatSize wraps to 0 and
    tableFromBytes slices an empty buffer -/
theorem cex_fat32_fatsize_wrap :
    Fat.read32 true false ⟨512, 8, 32, 2, 8388608, 0, 0⟩ 17179869184 = .panic := by decide

/-- as found (before 6aa4ce3): sectors per cluster 0 divides by zero -/
theorem cex_fat_read_unchecked : Fat.read1216 false .fat12 ⟨512, 0, 1, 2, 9, 224, 2880⟩ 1474560 = .panic := by
  decide

theorem iso_pathTable_no_panic (b : GS) (hwf : b.wf) (fuel : Nat) :
    Iso.parsePathTable true b fuel ≠ .panic := (Iso.pathLoop_lands b hwf fuel 0 []).no_panic trivial

theorem iso_pathTable_terminates (b : GS) (hwf : b.wf) :
    Iso.parsePathTable true b (b.len / 10 + 2) ≠ .fuel :=
  (Iso.pathLoop_lands b hwf _ 0 []).no_fuel ⟨by omega, by omega⟩

theorem iso_pathTable_count (b : GS) (hwf : b.wf) (fuel : Nat) (l : List Iso.PathEnt)
    (h : Iso.parsePathTable true b fuel = .ok l) : 9 * l.length ≤ b.len :=
  Nat.le_trans ((Iso.pathLoop_lands b hwf fuel 0 []).post l h) (Nat.le_of_eq (Nat.zero_add _))

/-- as found (before e1c6985): a name length that runs past the table panics -/
theorem cex_iso_pathTable_unchecked : Iso.parsePathTable false (GS.ofBytes [5, 0, 0]) 3 = .panic := by decide

theorem iso_susp_no_panic (cfg : Iso.Cfg) (her : cfg.er = true) (b : GS) (hwf : b.wf) (fuel : Nat) :
    Iso.parseSusp cfg b fuel ≠ .panic := (Iso.suspLoop_lands cfg b hwf fuel 0 []).no_panic her

theorem iso_susp_terminates (cfg : Iso.Cfg) (b : GS) (hwf : b.wf) :
    Iso.parseSusp cfg b (b.len / 4 + 2) ≠ .fuel :=
  (Iso.suspLoop_lands cfg b hwf _ 0 []).no_fuel ⟨by omega, by omega⟩

/-- as found (before 74e8a72, finding iso-susp-er-short): an ER entry of 4 bytes is indexed at [4] -/
theorem cex_iso_er_short : Iso.parseSusp { er := false, joliet := true } (GS.ofBytes [69, 82, 4, 1]) 3 = .panic := by decide

theorem iso_dirEntry_no_panic (cfg : Iso.Cfg) (her : cfg.er = true) (joliet : Bool) (b : GS) (hwf : b.wf)
    (fuel : Nat) : Iso.dirEntryFromBytes cfg joliet b fuel ≠ .panic :=
  (Iso.dirEntryFromBytes_lands cfg joliet b hwf fuel).no_panic her

/-- plain and Joliet directory walks with both repairs in place, any block size > 0 -/
theorem iso_dirEntries_no_panic (joliet : Bool) (bs : Nat) (hbs : 0 < bs) (b : GS) (hwf : b.wf) (fuel : Nat) :
    Iso.parseDirEntries Iso.Cfg.fixed joliet bs b fuel ≠ .panic :=
  (Iso.dirLoop_lands Iso.Cfg.fixed joliet bs b hwf hbs (Or.inr rfl) fuel 0 []).no_panic rfl

/-- the plain (non-Joliet) walk needs only the ER repair -/
theorem iso_dirEntries_plain_no_panic (cfg : Iso.Cfg) (her : cfg.er = true) (bs : Nat) (hbs : 0 < bs) (b : GS)
    (hwf : b.wf) (fuel : Nat) : Iso.parseDirEntries cfg false bs b fuel ≠ .panic :=
  (Iso.dirLoop_lands cfg false bs b hwf hbs (Or.inl rfl) fuel 0 []).no_panic her

theorem iso_dirEntries_terminates (joliet : Bool) (bs : Nat) (hbs : 0 < bs) (b : GS) (hwf : b.wf) :
    Iso.parseDirEntries Iso.Cfg.fixed joliet bs b (b.len + 1) ≠ .fuel :=
  (Iso.dirLoop_lands Iso.Cfg.fixed joliet bs b hwf hbs (Or.inr rfl) _ 0 []).no_fuel ⟨by omega, by omega⟩

/-- as found (before 9da0b4c, finding iso-joliet-dirrecord-oob): a Joliet record longer than the directory bytes -/
theorem cex_iso_joliet_oob :
    Iso.parseDirEntries { er := true, joliet := false } true 2048 (GS.ofBytes (60 :: List.replicate 39 0)) 3 = .panic := by decide

theorem sqfs_readMetadata_no_panic (dev : Bytes) (first boff off size fuel : Nat) :
    Sqfs.readMetadata true dev first boff off size fuel ≠ .panic :=
  (Sqfs.readMetadata_lands (C := True) dev first boff off size fuel).no_panic trivial

/-- every further block brings at least one byte: at most `size` more blocks are read -/
theorem sqfs_readMetadata_terminates (dev : Bytes) (first boff off size : Nat) :
    Sqfs.readMetadata true dev first boff off size (size + 1) ≠ .fuel :=
  (Sqfs.readMetadata_lands (C := True) dev first boff off size _).no_fuel (by omega)

/-- the buffer readMetadata builds is at most one metadata block (0x7fff bytes) longer than asked for -/
theorem sqfs_readMetadata_alloc (dev : Bytes) (first boff off size fuel : Nat) (l : Bytes)
    (h : Sqfs.readMetadata true dev first boff off size fuel = .ok l) : l.length ≤ size + 32767 :=
  (Sqfs.readMetadata_lands (C := True) dev first boff off size fuel).post l h

/-- as found (before 2e58384): a byte offset behind the end of the first block panics -/
theorem cex_sqfs_readMetadata_offset : Sqfs.readMetadata false [0x02, 0x80, 1, 2] 0 0 5 1 2 = .panic := by decide

theorem sqfs_fragmentEntry_no_panic (b : GS) (hwf : b.wf) : Sqfs.parseFragmentEntry b ≠ .panic :=
  (Sqfs.parseFragmentEntry_lands (F := True) b).no_panic hwf

/-- the size a fragment entry can announce is a 24-bit number: `make([]byte, size)` ≤ 16 MiB -/
theorem sqfs_fragmentEntry_size (b : GS) (f : Sqfs.Frag) (h : Sqfs.parseFragmentEntry b = .ok f) :
    f.size < 16777216 := (Sqfs.parseFragmentEntry_lands (F := True) b).post f h

theorem sqfs_readFragment_no_panic (dev : Bytes) (frags : List Sqfs.Frag) (index offset : Nat) (fs : Int) :
    Sqfs.readFragment true dev frags index offset fs ≠ .panic :=
  (Sqfs.readFragment_lands (F := True) (C := True) dev frags index offset fs).no_panic trivial

/-- readFragment allocates exactly the size recorded in the selected entry (< 16 MiB by `sqfs_fragmentEntry_size`) -/
theorem sqfs_readFragment_alloc (dev : Bytes) (frags : List Sqfs.Frag) (index offset : Nat) (fs : Int)
    (d : Bytes) (a : Nat) (h : Sqfs.readFragment true dev frags index offset fs = .ok (d, a)) :
    ∃ f ∈ frags, a = f.size :=
  (Sqfs.readFragment_lands (F := True) (C := True) dev frags index offset fs).post _ h

/-- as found (before 0f1368c): offset + size behind the end of the fragment block panics -/
theorem cex_sqfs_readFragment_fit : Sqfs.readFragment false [1, 2] [⟨0, 2, false⟩] 0 1 5 = .panic := by decide

theorem sqfs_idLookup_no_panic (ids : List Nat) (u g : Nat) : Sqfs.idLookup true ids u g ≠ .panic :=
  (Sqfs.idLookup_lands (F := True) (C := True) ids u g).no_panic trivial

/-- as found (before 54000c1): a uid index behind the end of the id table panics -/
theorem cex_sqfs_idLookup : Sqfs.idLookup false [1000] 3 0 = .panic := by decide

/-! ### facts regenerated from the source on every run -/

/-- the constants the mirrors are written with are the constants of the source -/
theorem facts_agree_parser_constants :
    Generated.Parsers.ext4MinDirEntryLength = Ext4.minDirEntryLength ∧
    Generated.Parsers.ext4MaxDirEntryLength = Ext4.maxDirEntryLength ∧
    Generated.Parsers.ext4ExtentHeaderLength = 12 ∧ Generated.Parsers.ext4ExtentEntryLength = 12 ∧
    Generated.Parsers.fatSectorSizes = [512, 1024, 2048, 4096] := by decide

/-- every bound check the `checked = true` mirrors rely on is present in the source and precedes the
    slice / index / make it protects (isoJolietRecordChecked, the guard of finding iso-joliet-dirrecord-oob, is
    not among them: the correspondence engine probes it on the real code and runs the mirror accordingly) -/
theorem facts_agree_parser_guards :
    Generated.Parsers.ext4DirRecLenChecked = true ∧ Generated.Parsers.ext4DirHeaderChecked = true ∧
    Generated.Parsers.ext4ExtentCountChecked = true ∧
    Generated.Parsers.fat12AllocAfterGeometry = true ∧ Generated.Parsers.fat16AllocAfterGeometry = true ∧
    Generated.Parsers.fat32AllocAfterGeometry = true ∧ Generated.Parsers.fat32FatSizeBounded = true ∧
    Generated.Parsers.isoPathRecordChecked = true ∧ Generated.Parsers.isoDirRecordChecked = true ∧
    Generated.Parsers.isoNameChecked = true ∧ Generated.Parsers.isoSuspEntryChecked = true ∧
    Generated.Parsers.isoErFieldsChecked = true ∧ Generated.Parsers.isoErHeaderChecked = true ∧
    Generated.Parsers.sqfsMetaOffsetChecked = true ∧ Generated.Parsers.sqfsMetaEmptyChecked = true ∧
    Generated.Parsers.sqfsFragmentIndexChecked = true ∧ Generated.Parsers.sqfsFragmentFitChecked = true ∧
    Generated.Parsers.sqfsIdIndexChecked = true := by decide

/-! ### non-vacuity: the mirrors do return data on well-formed input -/
example : Ext4.parseDirLinear true (GS.ofBytes [2,0,0,0, 12,0, 1,2, 0x2e,0,0,0]) 3 = .ok [⟨2, 2, [0x2e]⟩] := by decide
example : Ext4.parseExtents true (GS.ofBytes ([0x0a,0xf3, 1,0, 4,0, 0,0, 0,0,0,0] ++ [0,0,0,0, 3,0, 0,0, 100,0,0,0])) 0 3
    = .ok ⟨true, 0, 1, 4, [⟨0, 3, 100⟩]⟩ := by decide
example : Fat.read1216 true .fat12 ⟨512, 1, 1, 2, 9, 224, 2880⟩ 1474560 = .ok ⟨16896, 512, 4608, 9728, 2847⟩ := by decide
example : Fat.checkGeometry ⟨512, 8, 32, 2, 1009, 0, 131072⟩ 67108864 = true := by decide
example : Iso.parsePathTable true (GS.ofBytes [1,0, 20,0,0,0, 1,0, 0, 0]) 3 = .ok [⟨1, 0, 10, 1, 20, [0]⟩] := by decide
example : Iso.parseSusp Iso.Cfg.fixed (GS.ofBytes [83, 84, 4, 1]) 3 = .ok [.st] := by decide
example : Sqfs.readMetadata true [0x02, 0x80, 7, 9] 0 0 1 1 2 = .ok [9] := by decide
example : Sqfs.readFragment true [1, 2, 3] [⟨1, 2, false⟩] 0 1 1 = .ok ([3], 2) := by decide
example : Sqfs.idLookup true [1000, 50] 1 0 = .ok (50, 1000) := by decide
example : GS.wf (GS.ofBytesLen [1, 2, 3] 2) := by decide

end Diskfs.Parsers.C18
