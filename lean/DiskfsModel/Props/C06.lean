/-
  C06 — An ISO9660 image contains exactly the tree it was built from.
  Proved here, for all inputs, about the logic cores mirrored in Model/Iso: the 8.3 name mapping and
  collision resolution (for EVERY order in which the collision groups are processed: the Go code
  ranges over a map); the extents Finalize assigns and the placement of records inside a directory
  extent; the directory record, both-endian and path table codecs; for the plain configuration (no
  Rock Ridge, no Joliet) the whole image, from a workspace tree to the reader's listing
  (`workspace_roundtrip`); system use areas (NM names, SL link targets, continuation areas), Joliet
  names and lookup through the path table.
  The end-to-end clause about the REAL reader and writer (Rock Ridge / Joliet included) is evaluated
  on the real code by the engine's oracles; the model's image encoder and pure reader are tied to
  real plain images by the correspondence run (MANIFEST.json, level note of C06).
-/
import DiskfsModel.Proofs.IsoNames
import DiskfsModel.Proofs.IsoLayout
import DiskfsModel.Proofs.IsoCodec
import DiskfsModel.Proofs.IsoExtent
import DiskfsModel.Proofs.IsoImage
import DiskfsModel.Proofs.IsoWrites
import DiskfsModel.Proofs.IsoSusp
import DiskfsModel.Proofs.IsoSuspCE
import DiskfsModel.Proofs.IsoCompose
import DiskfsModel.Proofs.IsoSL
import DiskfsModel.Proofs.IsoPT
import DiskfsModel.Proofs.IsoComposePT
import DiskfsModel.Proofs.IsoRRRecord
import DiskfsModel.Proofs.IsoComposeLimits
import DiskfsModel.Proofs.IsoWalk
import DiskfsModel.Generated.Iso
namespace Diskfs.Iso.C06

/-- `calculateShortnameExtension` always produces a valid 8.3 name (for any code points) -/
theorem short_name_valid (name : Str) (isDir : Bool) : Valid83 (entryName name isDir) :=
  entryName_valid name isDir

/-- Collision resolution is injective for every processing order: if `resolveAll` succeeds on a
    directory of `n` entries whose groups with more than one member all occur in `order` (in any
    order, any number of times), the resulting names are pairwise distinct and all valid 8.3. -/
theorem resolve_injective (n : Nat) (orig : Nat → Nm) (order : List Nm) (fin : Nat → Nm)
    (hv : ∀ i, i < n → Valid83 (orig i))
    (hcover : ∀ i, i < n → 1 < (members n orig (orig i)).length → orig i ∈ order)
    (h : resolveAll n orig order orig = some fin) :
    (∀ i j, i < n → j < n → i ≠ j → fin i ≠ fin j) ∧ (∀ i, i < n → Valid83 (fin i)) := by
  have inv := resolveAll_inv n orig hv order fin h
  exact ⟨inv.distinct fun i hi hm => List.mem_reverse.2 (hcover i hi hm), inv.valid⟩

/-- entries whose group is not processed keep their name (so a harmless order change moves numbers
    only inside groups) -/
theorem resolve_frame (n : Nat) (orig : Nat → Nm) (order : List Nm) (fin : Nat → Nm)
    (hv : ∀ i, i < n → Valid83 (orig i)) (h : resolveAll n orig order orig = some fin)
    (i : Nat) (hi : i < n) (hn : orig i ∉ order) : fin i = orig i := by
  exact (resolveAll_inv n orig hv order fin h).unch i hi (by simpa using hn)

/-- no two extents of the layout overlap: they are in increasing order, each ending where or
    before the next begins -/
theorem layout_disjoint (l : LayoutIn) : l.extents.Pairwise (fun a b => a.1 + a.2 ≤ b.1) :=
  seqAlloc_pairwise _ _

/-- every extent lies after the volume descriptor set and inside the declared volume size -/
theorem layout_inside (l : LayoutIn) :
    ∀ e ∈ l.extents, dataStartSector + 2 ≤ e.1 ∧ e.1 + e.2 ≤ l.total := by
  intro e he
  have := seqAlloc_inside l.rootLoc l.items e he
  unfold LayoutIn.total
  unfold LayoutIn.rootLoc at this ⊢
  omega

/-- one extent per item: nothing is dropped -/
theorem layout_complete (l : LayoutIn) : l.extents.length = l.items.length := seqAlloc_length _ _

/-- the block count Finalize reserves holds the bytes, with less than one block to spare -/
theorem blocks_cover (size bs : Nat) (h : 0 < bs) :
    size ≤ blocksFor size bs * bs ∧ blocksFor size bs * bs < size + bs := blocksFor_covers size bs h

/-- inside a directory extent no record (of at most one block) crosses a block boundary -/
theorem dir_records_no_cross (bs : Nat) (hbs : 0 < bs) (rs : List Nat) (acc : Nat)
    (hr : ∀ r ∈ rs, 0 < r ∧ r ≤ bs) :
    ∀ p ∈ dirOffsets bs rs acc, p.1 / bs = (p.1 + p.2 - 1) / bs := by
  induction rs generalizing acc with
  | nil => intro p h; cases h
  | cons r rs ih =>
    rw [List.forall_mem_cons] at hr
    intro p h
    rcases List.mem_cons.1 h with rfl | h
    · exact placeRec_no_cross bs acc r hbs hr.1.1 hr.1.2
    · exact ih _ hr.2 p h

/-- records follow each other without overlap and the computed directory size is their end -/
theorem dir_records_ordered (bs : Nat) (rs : List Nat) (acc : Nat) :
    (∀ p ∈ dirOffsets bs rs acc, acc ≤ p.1 ∧ p.1 + p.2 ≤ dirSize bs rs acc) ∧
    (dirOffsets bs rs acc).Pairwise (fun a b => a.1 + a.2 ≤ b.1) :=
  ⟨(dirOffsets_ordered bs rs acc).1, (dirOffsets_ordered bs rs acc).2.1⟩

/-- reading a directory extent back (`parseDirEntries`: a zero length byte means "continue at the
    next block") returns exactly the records that were laid out, in order, for any records that
    start with their own length and fit a block — the directory-level core of
    `reader_finds_layout` -/
theorem dir_extent_roundtrip (bs : Nat) (hbs : 0 < bs) (rs : List Bytes) (hr : ∀ r ∈ rs, RecOK bs r) :
    parseExtent bs (2 * rs.length + 1) 0 (encodeExtent bs rs) = rs := by
  have := parse_encSuffix bs hbs rs hr [] (2 * rs.length + 1) (by omega)
  simpa [encodeExtent] using this

/-- both-endian 32-bit fields round-trip and their halves agree -/
theorem both_endian_roundtrip (n : Nat) (h : n < 2 ^ 32) : unboth 4 (both32 n) = some n := unboth_both32 n h

/-- directory record codec round-trip (all extents/sizes below 2^32, names up to 221 bytes) -/
theorem dir_record_roundtrip (r : DirRec) (hl : r.loc < 2 ^ 32) (hs : r.size < 2 ^ 32)
    (hd : r.date.length = 7) (hn : r.name.length < 222) : decodeRec (encodeRec r) = some r :=
  decode_encodeRec r ⟨hl, hs, hd, hn⟩

/-- path table codec round-trip, little- and big-endian form, for any number of records -/
theorem pathtable_roundtrip (big : Bool) (rs : List PtRec) (h : ∀ r ∈ rs, r.WF) :
    decodePtTable big (rs.length + 1) (encodePtTable big rs) = some rs := by
  induction rs with
  | nil => rfl
  | cons r rs ih =>
    rw [List.forall_mem_cons] at h
    have hne : (encodePt big r ++ encodePtTable big rs).isEmpty = false := by simp [encodePt_ne_nil]
    show decodePtTable big (rs.length + 1 + 1) (encodePt big r ++ encodePtTable big rs) = _
    rw [decodePtTable, hne, if_neg Bool.false_ne_true, decode_encodePt big r _ h.1]
    show (decodePtTable big (rs.length + 1) _).map _ = _
    rw [ih h.2]
    rfl

/-- facts regenerated from finalize.go: the data start sector, the length limits tested in
    `calculateShortnameExtension` (1 = the SplitN test, 3 = extension, 8 = base name) and the digit
    limit of the loop in `resolveCollisionGroup`, found by shape so that renaming locals is harmless -/
theorem facts_agree_constants :
    Generated.Iso.dataStartSector = dataStartSector ∧ Generated.Iso.truncBounds = [1, 3, 8] ∧
    Generated.Iso.digitLoopBounds = [8] := by decide

/-- DIRECTORIES WITH DOTTED NAMES.  A directory enters collision resolution - and is written into its
    record and the path table (`isoIdent … true`) - under its short name alone, as
    `finalizeFileInfoFromFile` / `Name()` have it: what follows the first dot of the host name plays
    no part.  Sibling directories `b.t1`, `b.t2` and `b` therefore have the SAME collision key, so
    they are one group of `resolveAll` and `resolve_injective` separates them (`conf.d` / `conf.bak`
    end as CONF0 / CONF1, instance below); the engine's iso.walkid ties the real walkTree + Name()
    to exactly this rule. -/
theorem dir_dotted_same_key (b t1 t2 : Str) (hb : 46 ∉ b) :
    entryName (b ++ 46 :: t1) true = entryName (b ++ 46 :: t2) true ∧
    entryName (b ++ 46 :: t1) true = entryName b true ∧
    (entryName (b ++ 46 :: t1) true).2 = [] ∧
    isoIdent (entryName (b ++ 46 :: t1) true) true = (clean b).take 8 := by
  have base : ∀ t, entryName (b ++ 46 :: t) true = entryName b true := fun t => by
    simp only [entryName, if_true, shortExt, splitDot, takeWhile_ne_append_cons 46 _ _ hb, takeWhile_ne_of_not_mem 46 _ hb]
  refine ⟨(base t1).trans (base t2).symm, base t1, by simp [entryName], ?_⟩
  rw [base t1]
  simp only [isoIdent, if_true, entryName, shortExt, splitDot, takeWhile_ne_of_not_mem 46 _ hb]

/-! non-vacuity: concrete instances meeting the hypotheses -/
-- three entries that all truncate to LONGFILE.TXT plus one that already occupies the first candidate
private def exL : Str := [76, 79, 78, 71, 70, 73, 76, 69]   -- LONGFILE
private def exT : Str := [84, 88, 84]                        -- TXT
private def ex : Nat → Nm := fun i => if i < 3 then (exL, exT) else ([76, 79, 78, 71, 70, 73, 76, 48], exT)
example : ((resolveAll 4 ex [ex 0] ex).map fun f => (List.range 4).map f) =
    some [([76, 79, 78, 71, 70, 73, 76, 49], exT), ([76, 79, 78, 71, 70, 73, 76, 50], exT),
          ([76, 79, 78, 71, 70, 73, 76, 51], exT), ([76, 79, 78, 71, 70, 73, 76, 48], exT)] := by decide +kernel
-- conf.d/ conf.bak/ (directories), conf, conf.txt (files): the two directories and `conf` are one group
private def exDots : Nat → Nm := fun i =>
  entryName ([[99, 111, 110, 102, 46, 100], [99, 111, 110, 102, 46, 98, 97, 107], [99, 111, 110, 102], [99, 111, 110, 102, 46, 116, 120, 116]].getD i []) (i < 2)
example : ((resolveAll 4 exDots [exDots 0] exDots).map fun f => (List.range 4).map fun i => isoIdent (f i) (i < 2)) =
    some [[67, 79, 78, 70, 48], [67, 79, 78, 70, 49], [67, 79, 78, 70, 50, 46, 59, 49], [67, 79, 78, 70, 46, 84, 88, 84, 59, 49]] := by decide +kernel
example : shortExt [114, 101, 97, 100, 109, 101, 45, 102, 105, 114, 115, 116, 46, 109, 97, 114, 107, 100, 111, 119, 110] =
    ([82, 69, 65, 68, 77, 69, 95, 70], [77, 65, 82]) := by decide   -- readme-first.markdown → README_F.MAR
example : (({ extraVD := 1, dirBlocks := [1, 2], ptBlocks := 1, fileBlocks := [0, 3, 1], joliet := true,
              jdirBlocks := [1, 1], jptBlocks := 1 } : LayoutIn).extents) =
    [(19, 1), (20, 2), (22, 1), (23, 1), (24, 0), (24, 3), (27, 1), (28, 1), (29, 1), (30, 1), (31, 1)] := by decide
private def exRec : DirRec :=
  { loc := 23, size := 5000, date := [126, 9, 23, 12, 0, 0, 0], flags := 0, name := [65, 46, 84, 88, 84, 59, 49] }
example : decodeRec (encodeRec exRec) = some exRec := by decide
example : parseExtent 8 7 0 (encodeExtent 8 [[3, 1, 2], [4, 9, 9, 9], [2, 7]]) = [[3, 1, 2], [4, 9, 9, 9], [2, 7]] := by decide
example : encodeExtent 8 [[3, 1, 2], [4, 9, 9, 9], [6, 7, 7, 7, 7, 7]] = [3, 1, 2, 4, 9, 9, 9, 0, 6, 7, 7, 7, 7, 7] := by decide
-- the Go rule also pads when a record would end exactly on the block boundary
example : dirOffsets 2048 [100, 1900, 48, 2000, 48] 0 = [(0, 100), (100, 1900), (2048, 48), (4096, 2000), (6144, 48)] := by decide

/-- **pvd_roundtrip.**  The primary volume descriptor decodes from the 2048 bytes `toBytes`
    produces to the same fields: volume size, set size, sequence number and block size (both-endian,
    halves agreeing), path table size and the four path table locations (L little-endian, M
    big-endian), the 34-byte root directory record, the two identifiers and the rest of the sector -/
theorem pvd_roundtrip (p : PVD) (h : p.WF) : decodePVD (encodePVD p) = some p ∧ (encodePVD p).length = 2048 :=
  ⟨decode_encodePVD p h, encodePVD_length p h⟩

/-- **the reader walks the tree** (the compositional core of `reader_finds_layout`): on ANY image
    that shows a well-formed tree — each directory's extent holds `encodeExtent` of its self, parent
    and children records, each file's extent holds its contents — the reader started on a directory's
    extent returns exactly the depth-first listing below it: paths made of the stored identifiers,
    kinds, extents, sizes and file contents.  Built from `dir_extent_roundtrip` (record loop),
    `dir_record_roundtrip` (every record) and induction over the nesting depth. -/
theorem reader_walks_tree (img : Dev) (bs : Nat) (hbs : 255 ≤ bs) (t : PTree) (hwf : t.WF) (hh : Holds img bs t)
    (fuel : Nat) (pre : List Bytes) (d : Nat) (hd : d < t.n) (hdir : (t.ent d).isDir = true) (hfit : t.Fits fuel d) :
    readDirP img bs fuel pre (t.ent d).loc (t.ent d).size = some (t.walk fuel pre d) :=
  readDirP_walk img bs hbs t hwf hh fuel pre d hd hdir hfit

/-- writes whose byte ranges are pairwise disjoint all read back as written, whatever their order -/
theorem disjoint_writes_read_back (d : Dev) (ws : List Wr) (hd : ws.Pairwise WrDisjoint) :
    ∀ w ∈ ws, readAt (applyWrs d ws) w.off w.data.length = w.data := readAt_applyWrs_mem d ws hd

/-- the sequential placement of Finalize (`location += blocks`, root directory at block 18) is the
    layout of `layout_disjoint` / `layout_inside` (`seqAlloc` over the pieces' block counts), and it
    makes all WriteAt calls of a plain image — system area, directory extents, both path tables,
    file contents with their zero fill, PVD at sector 16, terminator at sector 17 — pairwise
    disjoint, for every block size of at least 2048 -/
theorem placement_disjoint (i : ImageIn) (hbs : 2048 ≤ i.bs) (hp : i.pvd.WF) (hpl : i.Placed) :
    i.writes.Pairwise WrDisjoint ∧
    i.mid.map (·.off) = (seqAlloc (dataStartSector + 2) ((i.mid.map (·.data)).map fun b => blocksFor b.length i.bs)).map (fun e => e.1 * i.bs) :=
  ⟨placed_writes_disjoint i hbs hp hpl, by rw [← seqWr_offsets]; exact congrArg _ hpl⟩

/-- **reader_finds_layout** (plain configuration: no Rock Ridge, no Joliet, no El Torito).
    Take any tree with resolved identifiers whose locations are the ones the layout assigns
    (`Placed`), write what Finalize writes (`ImageIn.writes`) onto a blank device in that order,
    and start the reader at sector 16: it returns the primary volume descriptor that was written
    and the whole tree — every path, kind, extent, size and every file's bytes.
    Well formed (`PTree.WF`) means: children and parents are entries, locations and sizes below 2^32,
    7-byte dates, identifiers shorter than 222 bytes; `fuel` bounds the nesting depth. -/
theorem reader_finds_layout (i : ImageIn) (fuel : Nat) (hbs : 2048 ≤ i.bs) (hwf : i.t.WF) (hp : i.pvd.WF)
    (hpbs : i.pvd.blocksize = i.bs) (hroot : i.pvd.root = i.t.selfRec 0) (h0 : 0 < i.t.n)
    (hrd : (i.t.ent 0).isDir = true)
    (hdirs : ∀ d, d < i.t.n → (i.t.ent d).isDir = true → d ∈ i.dirs)
    (hfiles : ∀ c, c < i.t.n → (i.t.ent c).isDir = false → c ∈ i.files)
    (hsz : ∀ d ∈ i.dirs, (i.t.ent d).size = (i.t.dirBytes i.bs d).length)
    (hfsz : ∀ f ∈ i.files, (i.t.ent f).size = (i.t.ent f).content.length)
    (hpl : i.Placed) (hfit : i.t.Fits fuel 0) :
    readImageP i.image (16 * i.bs) fuel = some (i.pvd, i.t.walk fuel [] 0) :=
  reader_on_writes i blank fuel (by omega) hwf hp hpbs hroot h0 hrd hdirs hfiles hsz hfsz
    (placed_writes_disjoint i hbs hp hpl) hfit

/-- **the Go write sequence refines the coarse one**: `copyFileData` issues one WriteAt per 2048-byte
    chunk of a file (every chunk, also one that holds only zeros) and Finalize then zero-fills the
    last block; on EVERY device contents `d` that sequence (`ImageIn.writesGo`) leaves exactly what
    the one-write-per-file list of `reader_finds_layout` leaves -/
theorem go_writes_refine (i : ImageIn) (d : Dev) : applyWrs d i.writesGo = applyWrs d i.writes :=
  writesGo_apply i d

/-- **reader_finds_layout on a device that held anything before** (recycled image file, used
    partition, erased flash): with the WriteAt calls as the Go code issues them (`writesGo`) onto
    ANY prior contents `d0`, the reader started at sector 16 returns the descriptor written and the
    whole tree with every file's bytes — nothing the reader sees depends on `d0`.  Hypotheses as in
    `reader_finds_layout`. -/
theorem reader_finds_layout_any_device (i : ImageIn) (d0 : Dev) (fuel : Nat) (hbs : 2048 ≤ i.bs) (hwf : i.t.WF)
    (hp : i.pvd.WF) (hpbs : i.pvd.blocksize = i.bs) (hroot : i.pvd.root = i.t.selfRec 0) (h0 : 0 < i.t.n)
    (hrd : (i.t.ent 0).isDir = true)
    (hdirs : ∀ d, d < i.t.n → (i.t.ent d).isDir = true → d ∈ i.dirs)
    (hfiles : ∀ c, c < i.t.n → (i.t.ent c).isDir = false → c ∈ i.files)
    (hsz : ∀ d ∈ i.dirs, (i.t.ent d).size = (i.t.dirBytes i.bs d).length)
    (hfsz : ∀ f ∈ i.files, (i.t.ent f).size = (i.t.ent f).content.length)
    (hpl : i.Placed) (hfit : i.t.Fits fuel 0) :
    readImageP (i.imageOn d0) (16 * i.bs) fuel = some (i.pvd, i.t.walk fuel [] 0) := by
  rw [imageOn_eq]
  exact reader_on_writes i d0 fuel (by omega) hwf hp hpbs hroot h0 hrd hdirs hfiles hsz hfsz
    (placed_writes_disjoint i hbs hp hpl) hfit

/-- every WriteAt of that sequence ends inside the declared volume (`volBlocks` = `totalSize`), so the
    device keeps its old bytes from there on (C03 states the same for its range clause) -/
theorem go_writes_inside_volume (i : ImageIn) (d0 : Dev) (hbs : 2048 ≤ i.bs) (hp : i.pvd.WF) (hpl : i.Placed) :
    (∀ w ∈ i.writesGo, w.off + w.data.length ≤ i.volBlocks * i.bs) ∧
    ∀ j, i.volBlocks * i.bs ≤ j → i.imageOn d0 j = d0 j :=
  have h := writesGo_in_volume i hbs hp hpl
  ⟨h, fun j hj => applyWrs_frame d0 _ j fun w hw => Or.inr (Nat.le_trans (h w hw) hj)⟩

/-- **Rock Ridge names of any length survive**: `rockRidgeName.Bytes` cuts a name into NM entries of
    at most 249 name bytes (all but the last flagged "continued"); for EVERY non-empty name, the
    loop of `parseDirectoryEntryExtensions` over those bytes (followed by padding or by fewer than 4
    bytes) finds exactly these entries, each parses as an NM entry, and `GetFilename` (fix 6806b9b:
    all entries up to the first that is not continued) returns the name -/
theorem nm_roundtrip (name tail : Bytes) (hn : name ≠ []) (ht : tail.length ≤ 3 ∨ (tail.getD 2 0).toNat < 4) :
    ∃ ps, suspSplit (nmBytes name ++ tail).length (nmBytes name ++ tail) = some (nmEntries name.length name) ∧
      parseAll (nmEntries name.length name) = some ps ∧ getFilename ps = some name := by
  obtain ⟨ps, hps, hget⟩ := getFilename_nmEntries name.length name hn (Nat.le_refl _)
  have hok := fun e he => (nmEntries_each name.length name e he).1
  refine ⟨ps, suspSplit_flatten _ tail hok ht _ ?_, hps, by simpa using hget []⟩
  have := entOK_count _ hok
  rw [List.length_append, nmBytes]
  omega

/-- the splitting loop inverts concatenation for any well-formed entries (length byte = length, 4..255) -/
theorem susp_split_roundtrip (es : List Bytes) (tail : Bytes) (hes : ∀ e ∈ es, EntOK e)
    (ht : tail.length ≤ 3 ∨ (tail.getD 2 0).toNat < 4) (fuel : Nat) (hf : es.length ≤ fuel) :
    suspSplit fuel (es.flatten ++ tail) = some es := suspSplit_flatten es tail hes ht fuel hf

/-- **continuation areas keep inside their room under the repaired rule** (`reserve = true`: an
    extension stays in an area only if everything left fits or the 28-byte CE entry still fits
    behind it): for any extensions, any room and any block size of at least 28 bytes and any continuation
    blocks, the record's area is at most `maxSize` bytes and every continuation area at most one block -/
theorem ce_areas_fit (bs : Nat) (hbs : ceSize ≤ bs) (fuel : Nat) (exts : List Bytes) (maxSize : Nat) (ce : List Nat)
    (areas : List Bytes) (hmax : ceSize ≤ maxSize) (h : assemble true bs fuel exts maxSize ce = some areas) :
    ∃ a rest, areas = a :: rest ∧ a.length ≤ maxSize ∧ ∀ x ∈ rest, x.length ≤ bs := by
  induction fuel generalizing exts maxSize ce areas with
  | zero => cases h
  | succ f ih =>
    obtain ⟨_, i3, i4⟩ := fitPrefix_reserve maxSize exts 0
    rcases assemble_some true bs f exts maxSize ce areas h with ⟨hr, rfl⟩ | ⟨c, ce', a, more, hne, rfl, hrec, rfl⟩
    · refine ⟨_, [], rfl, ?_, fun x hx => nomatch hx⟩
      have := i3 hr (Nat.zero_le _)
      rw [sumLen_flatten]
      omega
    · obtain ⟨a', more', hcont, ha, hmore⟩ := ih _ bs ce' _ hbs hrec
      obtain ⟨rfl, rfl⟩ := List.cons.inj hcont
      refine ⟨_, _, rfl, ?_, List.forall_mem_cons.2 ⟨ha, hmore⟩⟩
      rw [List.length_append, sumLen_flatten, ceEntry_length]
      by_cases hf : (fitPrefix true maxSize exts 0).1 = []
      · rw [hf]; exact hmax
      · -- something stayed in front of the CE entry: it was accepted with room for that entry
        have := i4 hne hf
        show _ + ceSize ≤ _
        omega

private def ext20 : Bytes := [90, 90, 20, 1] ++ zeros 16
/-- … and the rule before fix d9d9b1b (`reserve = false`) does not: four extensions of 20 bytes and 60 bytes of
    room give an area of 88 bytes — in a directory record this is how the length byte wrapped
    (finding iso-rr-ce-record-overflow, repaired in the tree); the present rule leaves 48 bytes in the record and 60 in the area -/
theorem ce_overflow_as_found :
    (assemble false 2048 10 [ext20, ext20, ext20, ext20] 60 [50, 51]).map (·.map (·.length)) = some [88, 20] ∧
    (assemble true 2048 10 [ext20, ext20, ext20, ext20] 60 [50, 51]).map (·.map (·.length)) = some [48, 60] := by decide

/-- **continuation areas round-trip** (fix 4937c9f: every area in its own block).  Take any extensions,
    given by their raw entries (each with its own length 4..255 in byte 2, each parseable, none of
    them a CE entry: PX, TF, NM, SL, ... entries), let `dirEntryExtensionsToBytes` distribute them over
    the record's area and continuation areas — as found or with the repaired rule —, and let the
    device return every area at the block its CE entry names (at most 64 areas, block numbers and
    lengths below 2^32).  Then `parseDirEntry`'s loop (read the area the last CE entry points at,
    parse it, put its entries in the place of the CE entry) returns exactly the entries of all
    extensions, in order: with `nm_roundtrip` a name of any length, with `ReadLink` a target in
    several SL entries, come back whole however they were spread over areas. -/
theorem ce_roundtrip (res : Bool) (bs : Nat) (rd : Nat → Nat → Nat → Bytes) (fuel : Nat) (raws : List (List Bytes))
    (maxSize : Nat) (ce : List Nat) (a : Bytes) (more : List Bytes) (hraw : RawOK raws) (hce : ∀ c ∈ ce, c < 2 ^ 32)
    (h : assemble res bs fuel (raws.map List.flatten) maxSize ce = some (a :: more))
    (hlen : ∀ x ∈ more, x.length < 2 ^ 32) (hrd : RdOK rd ce more) (hn : more.length ≤ maxAreas) :
    ∃ ps, parseAll raws.flatten = some ps ∧ readSusp rd a = some ps :=
  readSusp_assemble res bs rd fuel raws maxSize ce a more hraw hce h hlen hrd hn

private theorem ext20_other : EntOK ext20 ∧ parseEnt ext20 = some (.other [90, 90]) :=
  ⟨by unfold EntOK; decide, by decide⟩
private def exRaws : List (List Bytes) := [[ext20], [ext20], [ext20], [nmEntry false [120, 121]]]
private theorem exRawOK : RawOK exRaws := by
  intro r hr e he
  simp only [exRaws, List.mem_cons, List.not_mem_nil, or_false] at hr
  rcases hr with rfl | rfl | rfl | rfl <;> (simp only [List.mem_singleton] at he; subst he)
  · exact ⟨ext20_other.1, _, ext20_other.2, rfl⟩
  · exact ⟨ext20_other.1, _, ext20_other.2, rfl⟩
  · exact ⟨ext20_other.1, _, ext20_other.2, rfl⟩
  · exact ⟨by unfold EntOK; decide, .nm false false false [120, 121], by decide, rfl⟩
/-- the hypotheses of `ce_roundtrip` are satisfiable: three 20-byte entries stay in a record area of 88
    bytes, the name goes to block 50 -/
example : ∃ ps, parseAll exRaws.flatten = some ps ∧
    readSusp (fun loc _ _ => if loc = 50 then nmEntry false [120, 121] else [])
      (ext20 ++ ext20 ++ ext20 ++ ceEntry 50 0 7) = some ps :=
  ce_roundtrip false 2048 (fun loc _ _ => if loc = 50 then nmEntry false [120, 121] else []) 10 exRaws 60 [50, 51] _ [nmEntry false [120, 121]]
    exRawOK (by decide) (by decide) (by decide) ⟨by decide, trivial⟩ (by decide)

/-- **Joliet names round-trip** for code points of the Basic Multilingual Plane that are no
    surrogates: `bytesToUCS2String (ucs2StringToBytes s) = s` (beyond the BMP this two-bytes-per-rune
    codec drops the high bits: finding iso-joliet-nonbmp-name, counterexample below; the tree has the UTF-16 codec since
    fix 4f87c43, `jolietUtf16`) -/
theorem ucs2_roundtrip (cps : List Nat) (h : ∀ c ∈ cps, c < 65536 ∧ ¬ (55296 ≤ c ∧ c ≤ 57343)) :
    ucs2Dec (ucs2Enc cps) = cps := by
  have : cps.map ucs2Rune = cps.map id := List.map_congr_left (fun c hc => if_neg (h c hc).2)
  rw [ucs2Dec_eq, show ucs2Enc cps = be16Bytes cps from rfl, be16Units_be16Bytes cps (fun c hc => (h c hc).1), this,
    List.map_id]

/-- **the repaired Joliet codec** (`utf16.Encode` / `utf16.Decode`, big endian) gives every sequence
    of Unicode scalar values back, code points beyond the BMP included (as surrogate pairs) -/
theorem joliet_utf16_roundtrip (cps : List Nat) (h : ∀ c ∈ cps, Gpt.validRune c = true) :
    jolietDec true (jolietEnc true cps) = cps := by
  show Gpt.utf16Dec (be16Units (be16Bytes (Gpt.utf16Enc cps))) = cps
  rw [be16Units_be16Bytes _ (utf16Enc_lt cps h)]
  exact Gpt.utf16_roundtrip cps h

/-- **Joliet names round-trip for the codec THE TREE has** (`Generated.Iso.jolietUtf16` is regenerated
    from util.go: do `ucs2StringToBytes` / `bytesToUCS2String` go through unicode/utf16): every
    sequence of Unicode scalar values comes back - restricted to the BMP for the
    two-bytes-per-rune codec (finding iso-joliet-nonbmp-name), unrestricted for the UTF-16 codec the tree has since fix 4f87c43.
    The correspondence run feeds code points beyond the BMP to the real codec and to
    `jolietEnc/jolietDec Generated.Iso.jolietUtf16`, so a wrong switch shows as a mismatch. -/
theorem joliet_name_roundtrip (cps : List Nat)
    (h : ∀ c ∈ cps, Gpt.validRune c = true ∧ (Generated.Iso.jolietUtf16 = false → c < 65536)) :
    jolietDec Generated.Iso.jolietUtf16 (jolietEnc Generated.Iso.jolietUtf16 cps) = cps := by
  cases hb : Generated.Iso.jolietUtf16 with
  | true => exact joliet_utf16_roundtrip cps (fun c hc => (h c hc).1)
  | false =>
    simp only [jolietDec, jolietEnc, Bool.false_eq_true, if_false]
    refine ucs2_roundtrip cps (fun c hc => ⟨(h c hc).2 hb, ?_⟩)
    have hv := (h c hc).1
    simp only [Gpt.validRune, Bool.or_eq_true, Bool.and_eq_true, decide_eq_true_eq] at hv
    omega

example : ucs2Dec (ucs2Enc [97, 128512]) = [97, 62976] := by decide   -- two bytes per rune: a😀 comes back as a + U+F600
example : jolietEnc true [97, 128512] = [0, 97, 0xD8, 0x3D, 0xDE, 0x00] := by decide   -- UTF-16: a, then the pair D83D DE00
example : jolietDec true (jolietEnc true [97, 128512, 228]) = [97, 128512, 228] := by decide
example : ucs2Dec (ucs2Enc [228, 26085, 65]) = [228, 26085, 65] := by decide
-- a name of 5 bytes: one NM entry; the reader finds it behind a PX-like entry and before padding
example : (parseArea ([80, 88, 4, 1] ++ nmBytes [97, 98, 99, 100, 101] ++ [0])).bind getFilename = some [97, 98, 99, 100, 101] := by decide
-- a symlink target in two SL entries is joined by ReadLink; a CE entry is followed by `collect`
example : readLink [.sl true [97], .nm false false false [120], .sl false [98, 47, 99]] = some [97, 47, 98, 47, 99] := by decide
example : readSusp (fun loc _ _ => if loc = 50 then nmBytes [120, 121] else []) (ceEntry 50 0 7) =
    some [.nm false false false [120, 121]] := by decide
-- path table lookup (fix 80ad899): /B/C is record 4 (parent = record 3), not the C below A
example : ptLookup [⟨[0], 18, 1⟩, ⟨[65], 19, 1⟩, ⟨[66], 20, 1⟩, ⟨[67], 21, 2⟩, ⟨[67], 22, 3⟩] [[66], [67]] = 22 := by decide

/-! non-vacuity of `reader_finds_layout`: a root directory holding one file, 2048-byte blocks -/

private def imDate : Bytes := [126, 1, 1, 0, 0, 0, 0]
private def imT : PTree :=
  { n := 2
    ent := fun i => if i = 0 then { name := [0], isDir := true, loc := 18, size := 104, date := imDate, content := [] }
                    else { name := [65, 59, 49], isDir := false, loc := 21, size := 3, date := imDate, content := [7, 7, 7] }
    kids := fun d => if d = 0 then [1] else []
    parent := fun _ => 0 }
private def imI : ImageIn :=
  { t := imT, bs := 2048, dirs := [0], files := [1]
    pvd := { sysId := zeros 32, volId := zeros 32, volSize := 22, setSize := 1, seqNo := 1, blocksize := 2048, ptSize := 10,
             ptL := 19, ptLopt := 0, ptM := 20, ptMopt := 0, root := imT.selfRec 0, tail := zeros 1858 }
    ptLBytes := [1, 0, 18, 0, 0, 0, 1, 0, 0, 0], ptMBytes := [1, 0, 0, 0, 0, 18, 0, 1, 0, 0] }

private theorem imLen : (imT.dirBytes 2048 0).length = 104 := by decide

private theorem imPlaced : imI.Placed := by
  apply placed_of_offsets
  simp only [ImageIn.mid, imI, List.map_cons, List.map_nil, List.cons_append, List.nil_append, padBlock_length, imLen]
  simp [seqAlloc, blocksFor, dataStartSector, imT]

private theorem imWF : imT.WF := by unfold PTree.WF; decide

private theorem imOK : imI.pvd.WF ∧ (∀ d ∈ imI.dirs, (imT.ent d).size = (imT.dirBytes 2048 d).length) ∧
    imT.Fits 2 0 := by
  refine ⟨by simp [PVD.WF, imI, imT, PTree.selfRec, PTree.recOf, imDate], fun d hd => ?_,
    by simp [PTree.Fits, imT]⟩
  simp [imI] at hd; subst hd
  exact imLen.symm ▸ rfl

example : readImageP imI.image (16 * 2048) 2 = some (imI.pvd, imT.walk 2 [] 0) :=
  reader_finds_layout imI 2 (by decide) imWF imOK.1 rfl rfl (by decide) rfl (by decide) (by decide) imOK.2.1 (by decide)
    imPlaced imOK.2.2
example : imT.walk 2 [] 0 = [{ path := [[65, 59, 49]], isDir := false, loc := 21, size := 3, data := [7, 7, 7] }] := by decide

/-- the same instance on a device that held 0xFF everywhere -/
example : readImageP (imI.imageOn (fun _ => 255)) (16 * 2048) 2 = some (imI.pvd, imT.walk 2 [] 0) :=
  reader_finds_layout_any_device imI _ 2 (by decide) imWF imOK.1 rfl rfl (by decide) rfl (by decide) (by decide) imOK.2.1
    (by decide) imPlaced imOK.2.2
-- its Go write list starts at: system area, root directory, L and M path table, the file's chunk and fill, PVD, terminator
example : imI.writesGo.map (·.off) = [0, 36864, 38912, 40960, 43008, 43011, 32768, 34816] := by decide
-- `copyFileData` with a chunk of 4: a file of 10 bytes at byte 100 is written as 4 + 4 + 2 bytes; with 8-byte blocks the fill is 6 bytes
example : (chunkWrs 4 10 100 [1, 2, 3, 4, 5, 6, 7, 8, 9, 10]).map (fun w => (w.off, w.data)) =
    [(100, [1, 2, 3, 4]), (104, [5, 6, 7, 8]), (108, [9, 10])] := by decide
example : (fileWrs 8 96 [1, 2, 3, 4, 5, 6, 7, 8, 9, 10]).map (fun w => (w.off, w.data.length)) = [(96, 10), (106, 6)] := by decide

/-- **workspace_roundtrip** (plain configuration).  Take ANY workspace tree `w` (entries with host
    names of any code points, kinds, file contents, dates; children in WalkDir order), let
    `calculateShortnameExtension` + collision resolution name the children of every directory (`fin`,
    for ANY processing order of the collision groups under which resolution succeeds: `Resolved`),
    lay directories, path tables and files out one after the other from block 18 in ANY order that
    lists every directory and every file once (`OK`; `collapseAndSortChildren`'s order is
    one), encode directory extents, path tables and the primary volume descriptor, issue the WriteAt
    calls of Finalize as the Go code does (2048-byte copy chunks, zero fill) onto a device holding
    ANYTHING (`d0`), and start the reader at sector 16.  Then
    (1) the reader returns the descriptor and the depth-first listing of the tree `w.ptree …`, whose
        shape, kinds and file CONTENTS are the workspace's by definition (`kids := w.kids`,
        `content := w.content`, record order = WalkDir order), whose sizes are the content lengths and
        whose names are `w.ident`;
    (2) `w.ident` of a child is the documented rule — `isoIdent` (SHORT for directories, SHORT.EXT;1
        for files) of the resolved 8.3 name, which is valid — and siblings get DIFFERENT identifiers
        (composition of `short_name_valid`, `resolve_injective` and injectivity of the identifier
        syntax; extensions survive resolution);
    (3) every piece behind the descriptor set (directory extents, both path tables, file extents, each
        in whole blocks) starts at or after block 18, ends inside the declared volume size
        (`w.total` = the PVD's volume size) and they follow each other without overlap.
    Stated limits: block size 2048 ≤ bs < 65536; the image is smaller than 4 GiB
    (`w.total * bs < 2^32`: hence every file below 4 GiB, every location and directory size in 32
    bits); nesting depth ≤ `fuel` (8 without DeepDirectories); 7-byte dates; the workspace is a tree
    (`OK`).  NOT in this theorem: Rock Ridge / Joliet / El Torito, and that the real Finalize computes
    this `ImageIn` — that is the correspondence op iso.compose on real images. -/
theorem workspace_roundtrip (w : WTree) (order : Nat → List Nm) (fin : Nat → Nat → Nm) (bs : Nat) (o : Order)
    (sysId volId tail : Bytes) (d0 : Dev) (fuel : Nat)
    (hbs : 2048 ≤ bs) (hbs16 : bs < 2 ^ 16) (hok : w.OK o) (hr : w.Resolved order fin)
    (hlim : w.total fin bs o * bs < 2 ^ 32) (hs : sysId.length = 32) (hv : volId.length = 32) (ht : tail.length = 1858)
    (hfit : w.Fits fuel 0) :
    readImageP ((w.image fin bs o sysId volId tail).imageOn d0) (16 * bs) fuel =
      some ((w.image fin bs o sysId volId tail).pvd, (w.ptree fin (w.loc fin bs o) (w.size fin bs)).walk fuel [] 0) ∧
    (∀ d, d < w.n → w.isDir d = true →
      (∀ c ∈ w.kids d, w.ident fin c = strBytes (isoIdent (fin d ((w.kids d).idxOf c)) (w.isDir c)) ∧
        Valid83 (fin d ((w.kids d).idxOf c))) ∧
      (∀ c1 ∈ w.kids d, ∀ c2 ∈ w.kids d, c1 ≠ c2 → w.ident fin c1 ≠ w.ident fin c2)) ∧
    ((∀ x ∈ (w.image fin bs o sysId volId tail).mid,
        (dataStartSector + 2) * bs ≤ x.off ∧ x.off + x.data.length ≤ w.total fin bs o * bs) ∧
      (w.image fin bs o sysId volId tail).mid.Pairwise (fun a b => a.off + a.data.length ≤ b.off)) :=
  ⟨compose_reader hbs hbs16 hok hr (small_of_4g (by omega) hok hlim) hs hv ht d0 fuel hfit,
   fun d hd hdir => ⟨fun c hc => ⟨((ident_kids hok hr d hd hdir).1 c hc).2,
      (hr.spec d hd hdir).2.1 _ (List.idxOf_lt_length_of_mem hc)⟩,
     (ident_kids hok hr d hd hdir).2⟩,
   compose_extents (by omega) hok⟩

private def wsDate : Bytes := [126, 1, 1, 0, 0, 0, 0]
/-- workspace: a.txt (3 bytes) and directory d holding b (1 byte) -/
private def ws : WTree :=
  { n := 4
    name := fun i => if i = 1 then [97, 46, 116, 120, 116] else if i = 2 then [100] else if i = 3 then [98] else []
    isDir := fun i => i = 0 ∨ i = 2
    content := fun i => if i = 1 then [7, 7, 7] else if i = 3 then [9] else []
    date := fun _ => wsDate
    kids := fun d => if d = 0 then [1, 2] else if d = 2 then [3] else []
    parent := fun c => if c = 3 then 2 else 0 }
private def wsO : Order := { dirs := [0, 2], files := [1, 3], pt := [0, 2] }
private def wsFin : Nat → Nat → Nm := fun d => ws.orig d

private theorem wsOK : ws.OK wsO :=
  { pos := by decide, rootDir := by decide, kidsLt := by decide, kidsPar := by decide, kidsNodup := by decide,
    parLt := by decide, inKids := by decide, date7 := by decide, dirsNodup := by decide, filesNodup := by decide,
    dirsOK := fun d => ⟨(by decide : ∀ d ∈ wsO.dirs, d < ws.n ∧ ws.isDir d = true) d,
      fun h => (by decide : ∀ d, d < ws.n → ws.isDir d = true → d ∈ wsO.dirs) d h.1 h.2⟩
    filesOK := fun d => ⟨(by decide : ∀ d ∈ wsO.files, d < ws.n ∧ ws.isDir d = false) d,
      fun h => (by decide : ∀ d, d < ws.n → ws.isDir d = false → d ∈ wsO.files) d h.1 h.2⟩ }

private theorem wsRes : ws.Resolved (fun _ => []) wsFin :=
  { res := fun _ _ _ => rfl
    cover := fun d hd _ i hi hm => absurd hm ((by decide : ∀ d, d < ws.n → ∀ i, i < (ws.kids d).length →
      ¬ 1 < (members (ws.kids d).length (ws.orig d) (ws.orig d i)).length) d hd i hi) }

private theorem wsFits : ws.Fits 3 0 := by
  simp only [WTree.Fits]
  decide
private theorem wsLim : ws.total wsFin 2048 wsO * 2048 < 2 ^ 32 := by decide +kernel
example : ws.total wsFin 2048 wsO * 2048 < 2 ^ 32 := wsLim
example : (List.range 4).map (ws.ident wsFin) = [[0], [65, 46, 84, 88, 84, 59, 49], [68], [66, 46, 59, 49]] := by decide +kernel
example : (List.range 6).map (ws.loc wsFin 2048 wsO) = [18, 22, 19, 23, 20, 21] := by decide +kernel

/-- the hypotheses of `workspace_roundtrip` are satisfiable (device pre-filled with 0xFF) -/
example : readImageP ((ws.image wsFin 2048 wsO (zeros 32) (zeros 32) (zeros 1858)).imageOn (fun _ => 255)) (16 * 2048) 3 =
    some ((ws.image wsFin 2048 wsO (zeros 32) (zeros 32) (zeros 1858)).pvd,
      (ws.ptree wsFin (ws.loc wsFin 2048 wsO) (ws.size wsFin 2048)).walk 3 [] 0) :=
  (workspace_roundtrip ws (fun _ => []) wsFin 2048 wsO (zeros 32) (zeros 32) (zeros 1858) (fun _ => 255) 3
    (by decide) (by decide) wsOK wsRes wsLim (zeros_length _) (zeros_length _) (zeros_length _) wsFits).1

/-- on component records: ANY components that are non-empty, free of slashes and at most 248
    bytes long, behind an optional root record, come back as the target they spell -/
theorem sl_components_roundtrip (root : Bool) (comps : List Bytes) (hc : ∀ c ∈ comps, c ≠ [] ∧ 47 ∉ c ∧ c.length ≤ 248) :
    ∃ ps, parseAll (slPack (((if root then [none] else []) ++ comps.map some).map encItem) []) = some ps ∧
      readLink ps = some (slRender ((if root then [none] else []) ++ comps.map some) []) := by
  have hitems := itemOK_root_comps (if root then [none] else []) (by cases root <;> simp) comps hc
  -- a root record always joins the first entry
  have hpk : packS ((if root then [none] else []) ++ comps.map some) [] =
      packS (comps.map some) (if root then [none] else []) := by
    cases root <;> simp [packS, encItem, encLen, slMaxComp]
  have hinv : PInv (if root then [none] else []) [] false :=
    ⟨Or.inl rfl, fun _ => ⟨rfl, by cases root <;> simp [slRender, Good]⟩, fun h => nomatch h⟩
  have hg := packS_groups _ hitems [] (fun _ h => nomatch h) (Nat.zero_le _)
  rw [hpk] at hg
  refine ⟨(packS (comps.map some) (if root then [none] else [])).map toSl, ?_, readLink_packS comps hc _ [] false hinv⟩
  rw [show slPack _ [] = _ from slPack_packS _ [], hpk]
  exact parseAll_map _ _ _ fun p hp => parseEnt_slEntry p.1 p.2 (hg p hp).1 (hg p hp).2

/-- **sl_roundtrip**: for EVERY link target whose components (`splitPath`: the non-empty parts between
    slashes — and, for `uni = true`, the rule before fix 93c881c, backslashes) are at most 248 bytes long, the SL entries
    `rockRidgeSymlink.Bytes` makes (root record, `.`, `..`, name records; an entry is closed and flagged
    "continued" when the next record would make its component area longer than 247 bytes; a record is
    never split, fix 62ffa5f) are well-formed system use entries (so `susp_split_roundtrip` /
    `ce_roundtrip` carry them through areas), each parses as an SL entry, and `ReadLink`
    (`joinSymlinkParts`, fix 0fd6be8) returns exactly the target the component records spell:
    `slRender` = "/" for the root record, the components joined by "/".  That is the target itself
    when it is in normal form (`sl_normal_form` below); empty components and a trailing slash are not
    representable in component records and are dropped. -/
theorem sl_roundtrip (uni : Bool) (t : Bytes) (hlen : ∀ c ∈ slComps uni t, c.length ≤ 248) :
    (∀ e ∈ slEntries uni t, EntOK e) ∧
    ∃ ps, parseAll (slEntries uni t) = some ps ∧ readLink ps = some (slRender (slItems uni t) []) := by
  refine ⟨fun e he => ?_, ?_⟩
  · obtain ⟨cont, g, _, hl, rfl⟩ := slEntries_mem uni t hlen e he
    exact slEntry_ok cont g hl
  · have := sl_components_roundtrip (decide (t.head? = some 47)) (slComps uni t) (slItems_ok uni t hlen).1
    simp only [decide_eq_true_eq] at this
    exact this

/-- **the exact set Finalize refuses** (recorded finding iso-rr-symlink-over-block, fix 6475c24 turned the
    panic into an error): the SL entries of one target are ONE extension for
    `dirEntryExtensionsToBytes`; when they are longer than a block, then whatever stands before them
    (PX, TF, NM), whatever room of at most a block the record has and however many continuation blocks there are, the
    call fails — and when they fit a block they are placed whole in a continuation area of their own -/
theorem sl_refused (bs : Nat) (sl : Bytes) (fuel : Nat) (exts : List Bytes) (maxSize : Nat) (ce : List Nat)
    (hm : maxSize ≤ bs) :
    (sl.length > bs → assemble true bs fuel (exts ++ [sl]) maxSize ce = none) ∧
    (sl.length ≤ bs → assemble true bs (fuel + 1) [sl] bs ce = some [sl]) :=
  ⟨fun h => assemble_refuses bs sl h fuel exts maxSize ce hm, fun h => assemble_single bs fuel sl ce h⟩

/-- **sl_normal_form**: the targets spelled by an optional root record and components that are non-empty,
    free of slashes and at most 248 bytes long ("/", "a", "../b/c", "/usr/lib", ...) are the normal
    forms: with the splitting rule the tree has (`uni = false`: only "/" separates, fix 93c881c) such a target splits
    into exactly these records again, so by `sl_roundtrip` ReadLink returns it BYTE FOR BYTE (not stated here: under
    the earlier rule `uni = true` the same holds when the target contains no backslash) -/
theorem sl_normal_form (root : Bool) (comps : List Bytes) (hc : ∀ c ∈ comps, c ≠ [] ∧ 47 ∉ c ∧ c.length ≤ 248) :
    ∃ ps, parseAll (slEntries false (slRender ((if root then [none] else []) ++ comps.map some) [])) = some ps ∧
      readLink ps = some (slRender ((if root then [none] else []) ++ comps.map some) []) := by
  have h := slItems_render root comps hc
  have := sl_components_roundtrip root comps hc
  unfold slEntries
  rw [h]
  exact this

-- "../lib/x" : three records in one entry; comes back unchanged
example : slBytes true [46, 46, 47, 108, 105, 98, 47, 120] = [83, 76, 15, 1, 0, 4, 0, 0, 3, 108, 105, 98, 0, 1, 120] := by decide
example : (parseAll (slEntries true [46, 46, 47, 108, 105, 98, 47, 120])).bind readLink = some [46, 46, 47, 108, 105, 98, 47, 120] := by decide
-- "/" alone and "/a": the root record
example : (parseAll (slEntries true [47])).bind readLink = some [47] := by decide
example : (parseAll (slEntries true [47, 97])).bind readLink = some [47, 97] := by decide
-- "a//b/" is stored as a, b: it comes back as "a/b" (not representable otherwise)
example : (parseAll (slEntries true [97, 47, 47, 98, 47])).bind readLink = some [97, 47, 98] := by decide
-- before fix 93c881c (`uni = true`) a backslash split the target (a\b came back as a/b: finding iso-rr-symlink-backslash); now it does not
example : (parseAll (slEntries true [97, 92, 98])).bind readLink = some [97, 47, 98] := by decide
example : (parseAll (slEntries false [97, 92, 98])).bind readLink = some [97, 92, 98] := by decide
-- a component of 249 bytes: the length byte of its entry wraps to 0 (recorded finding iso-rr-symlink-long-component)
example : ((slEntries true (List.replicate 249 120)).map fun e => (e.getD 2 0).toNat) = [5, 0] := by decide +kernel
example : ((slEntries true (List.replicate 248 120)).map fun e => (e.getD 2 0).toNat) = [5, 255] := by decide +kernel

/-- **pathtable_lookup_is_walk**: in EVERY well-formed path table (`PtWF`: a directory's record comes
    after its parent's, two records with the same parent number have different names, none is named
    "." — what `createPathTable` produces for every laid-out tree: level order, sibling identifiers
    distinct by `workspace_roundtrip` (2); checked on the tables of real images by iso.ptwalk), for
    EVERY chain of directories root → b₁ → … → bₘ (each record the child of the one before),
    `pathTable.getLocation` (fix 80ad899: one forward pass, the parent number must be the record
    matched last) on the path spelled by their names returns the extent recorded for bₘ — the extent a
    walk through the directory records along the same names arrives at (`reader_walks_tree`). -/
theorem pathtable_lookup_is_walk (T : List PtRec) (hwf : PtWF T) (b : Nat) (rest : List Nat) (hch : IsChain T 1 (b :: rest)) :
    ptLookup T ((b :: rest).map fun k => (ptRec T k).name) = (ptRec T ((b :: rest).getLast (by simp))).loc := by
  cases T with
  | nil => exact absurd (Nat.le_trans hch.1 hch.2.1) (by decide)
  | cons r0 rs =>
    simp only [ptLookup, List.map_cons]
    rw [if_neg (hwf.noDot b hch.1 hch.2.1)]
    exact ptScan_chain (r0 :: rs) hwf (r0 :: rs) 0 1 b rest rfl hch (Nat.lt_of_lt_of_le (by decide) hch.1)

/-- ... and every directory other than the root is the end of such a chain: the lookup reaches every
    record of the table -/
theorem pathtable_reaches_every_directory (T : List PtRec) (hwf : PtWF T) (i : Nat) (h2 : 2 ≤ i) (hl : i ≤ T.length) :
    ∃ l, IsChain T 1 (l ++ [i]) := chain_exists T hwf i i (Nat.le_refl _) h2 hl

private def exPT : List PtRec := [⟨[0], 18, 1⟩, ⟨[65], 19, 1⟩, ⟨[66], 20, 1⟩, ⟨[67], 21, 2⟩, ⟨[67], 22, 3⟩]
private theorem exPTwf : PtWF exPT := ptWF_of_bounded exPT (by decide) (by decide)
/-- the hypotheses are satisfiable: /B/C (records 3, 5) is found at block 22, not the C below A -/
example : ptLookup exPT [[66], [67]] = 22 :=
  pathtable_lookup_is_walk exPT exPTwf 3 [5] (by simp [IsChain, exPT, ptRec])

/-- **layout_pathtable**: the path table `createPathTable` makes for EVERY laid-out workspace tree of
    `workspace_roundtrip` (`WTree.ptRecs`: one record per directory with its identifier, its extent and
    the number of its parent's record) is well formed for every table order that lists the
    directories once, the root first and a directory after its parent (`PtOK`; the Go order — by
    depth, then parents' order, then name — is one: `WTree.ptOrder`, tied by iso.compose), so for
    every chain of directories from the root the lookup through the table returns the extent the
    layout gave the last one — the same extent its directory record carries in the tree the reader
    walks (`workspace_roundtrip` (1)): lookup through the path table = directory tree walk. -/
theorem layout_pathtable (w : WTree) (order : Nat → List Nm) (fin : Nat → Nat → Nm) (bs : Nat) (o : Order)
    (hok : w.OK o) (hr : w.Resolved order fin) (hpt : w.PtOK o.pt) :
    PtWF (w.ptRecs fin (w.loc fin bs o) o.pt) ∧
    ∀ b rest, IsChain (w.ptRecs fin (w.loc fin bs o) o.pt) 1 (b :: rest) →
      ptLookup (w.ptRecs fin (w.loc fin bs o) o.pt)
        ((b :: rest).map fun k => w.ident fin (dirOf o.pt k)) =
        w.loc fin bs o (dirOf o.pt ((b :: rest).getLast (by simp))) := by
  have hwf := ptRecs_wf w order fin (w.loc fin bs o) o.pt o hok hr hpt
  refine ⟨hwf, ?_⟩
  intro b rest hch
  have hlen : (w.ptRecs fin (w.loc fin bs o) o.pt).length = o.pt.length := by simp [WTree.ptRecs]
  have hmem : ∀ k ∈ b :: rest, 1 ≤ k ∧ k ≤ o.pt.length := fun k hk =>
    have := isChain_mem _ _ 1 hch k hk
    ⟨Nat.le_of_succ_le this.1, hlen ▸ this.2⟩
  have h := pathtable_lookup_is_walk _ hwf b rest hch
  have hnames : ((b :: rest).map fun k => (ptRec (w.ptRecs fin (w.loc fin bs o) o.pt) k).name) =
      (b :: rest).map fun k => w.ident fin (dirOf o.pt k) := by
    apply List.map_congr_left
    intro k hk
    rw [ptRec_ptRecs w fin _ o.pt k (hmem k hk).1 (hmem k hk).2]
  rw [hnames] at h
  rw [h]
  have hl := hmem _ (List.getLast_mem (List.cons_ne_nil b rest))
  rw [ptRec_ptRecs w fin _ o.pt _ hl.1 hl.2]

example : ws.PtOK wsO.pt :=
  { nodup := by decide, head := by decide
    dirs := by decide, parent := by decide }

/-- facts regenerated from rockridge.go / finalize.go: the room for component records in one SL
    entry (`directoryEntryMaxSize - headerSize`, headerSize evaluated from its literal sum) is the model's
    `slMaxComp`, the bound 248 of `sl_roundtrip` is what keeps an entry's length byte (room + 5 + 3) below
    256, and `copyFileData` copies in chunks of the model's `copyChunk` -/
theorem facts_agree_sl :
    Generated.Iso.directoryEntryMaxSize - Generated.Iso.slHeaderSize = slMaxComp ∧
    Generated.Iso.slMaxComponent_expr = "directoryEntryMaxSize - headerSize" ∧
    248 + 2 + 5 = 255 ∧ Generated.Iso.copyChunkSize = copyChunk := by decide

/-- **rr_record_roundtrip** (names and link targets are preserved exactly under Rock Ridge, at the level
    of one directory record): the extensions in the order `GetFileExtensions` makes them — entries the
    reader keeps by signature (PX, TF, ...), the NM entries of ANY non-empty name (any length), the SL
    entries of ANY target whose components are at most 248 bytes — spread by `dirEntryExtensionsToBytes`
    (as found or repaired rule) over the record's area and continuation areas of any block size, each
    area returned by the device at the block its CE entry names (at most 64 areas): `parseDirEntry`'s
    loop returns entries from which `GetFilename` gives EXACTLY the name and `ReadLink` exactly the target
    the component records spell (the target itself when in normal form, `sl_normal_form`).  Composition
    of `nm_roundtrip`, `sl_roundtrip`, `ce_roundtrip`. -/
theorem rr_record_roundtrip (res uni : Bool) (bs : Nat) (rd : Nat → Nat → Nat → Bytes) (fuel : Nat) (pre : List (List Bytes))
    (name t : Bytes) (maxSize : Nat) (ce : List Nat) (a : Bytes) (more : List Bytes)
    (hpre : ∀ r ∈ pre, ∀ e ∈ r, EntOK e ∧ ∃ p, parseEnt e = some p ∧ IsOther p)
    (hn : name ≠ []) (hlen : ∀ c ∈ slComps uni t, c.length ≤ 248) (hce : ∀ c ∈ ce, c < 2 ^ 32)
    (h : assemble res bs fuel ((pre ++ [nmEntries name.length name, slEntries uni t]).map List.flatten) maxSize ce = some (a :: more))
    (hl : ∀ x ∈ more, x.length < 2 ^ 32) (hrd : RdOK rd ce more) (hm : more.length ≤ maxAreas) :
    ∃ ps, readSusp rd a = some ps ∧ getFilename ps = some name ∧ readLink ps = some (slRender (slItems uni t) []) := by
  have hpost : RawOK [slEntries uni t] := fun r hr => List.mem_singleton.1 hr ▸ slEntries_each uni t hlen
  obtain ⟨ps, qs, hread, hqs, hname, hlk⟩ :=
    rr_parts res bs rd fuel pre [slEntries uni t] name maxSize ce a more hpre hpost hn hce h hl hrd hm
  obtain ⟨sp, hsp, hlink⟩ := (sl_roundtrip uni t hlen).2
  rw [List.flatten_singleton, hsp] at hqs
  exact ⟨ps, hread, hname, by rw [hlk, ← Option.some.inj hqs]; exact hlink⟩

/-- the same for an entry that is no symlink: the name comes back, and it is not reported as a link -/
theorem rr_record_name_roundtrip (res : Bool) (bs : Nat) (rd : Nat → Nat → Nat → Bytes) (fuel : Nat) (pre : List (List Bytes))
    (name : Bytes) (maxSize : Nat) (ce : List Nat) (a : Bytes) (more : List Bytes)
    (hpre : ∀ r ∈ pre, ∀ e ∈ r, EntOK e ∧ ∃ p, parseEnt e = some p ∧ IsOther p)
    (hn : name ≠ []) (hce : ∀ c ∈ ce, c < 2 ^ 32)
    (h : assemble res bs fuel ((pre ++ [nmEntries name.length name]).map List.flatten) maxSize ce = some (a :: more))
    (hl : ∀ x ∈ more, x.length < 2 ^ 32) (hrd : RdOK rd ce more) (hm : more.length ≤ maxAreas) :
    ∃ ps, readSusp rd a = some ps ∧ getFilename ps = some name ∧ readLink ps = none := by
  obtain ⟨ps, qs, hread, hqs, hname, hlk⟩ :=
    rr_parts res bs rd fuel pre [] name maxSize ce a more hpre (fun _ hr => nomatch hr) hn hce h hl hrd hm
  exact ⟨ps, hread, hname, by rw [hlk, ← Option.some.inj hqs]; rfl⟩

/-- the hypotheses are satisfiable: a 20-byte PX-like entry, a name of 30 bytes, the target "../a"; 60 bytes of
    room in the record, so the NM and SL entries go to the continuation area at block 50 -/
example : ∃ ps, readSusp (fun loc _ _ => if loc = 50 then nmEntry false (List.replicate 30 120) ++ slBytes true [46, 46, 47, 97] else [])
      (ext20 ++ ceEntry 50 0 45) = some ps ∧
    getFilename ps = some (List.replicate 30 120) ∧ readLink ps = some [46, 46, 47, 97] :=
  rr_record_roundtrip true true 2048 (fun loc _ _ => if loc = 50 then nmEntry false (List.replicate 30 120) ++ slBytes true [46, 46, 47, 97] else [])
    10 [[ext20]] (List.replicate 30 120) [46, 46, 47, 97] 60 [50, 51] _ [nmEntry false (List.replicate 30 120) ++ slBytes true [46, 46, 47, 97]]
    (by
      intro r hr e he
      simp only [List.mem_singleton] at hr; subst hr
      simp only [List.mem_singleton] at he; subst he
      exact ⟨ext20_other.1, _, ext20_other.2, trivial⟩)
    (by decide) (by decide) (by decide) (by decide) (by decide) ⟨by decide, trivial⟩ (by decide)

/-- **layout_pathtable_on_device**: the L and the M path table READ BACK FROM THE DEVICE after the writes
    of `workspace_roundtrip` (any prior contents), at the locations and with the size the primary volume
    descriptor names, decode (`parsePathTable`) to exactly the records of `layout_pathtable` — so every
    lookup of that theorem is a lookup through the bytes on the image.  Further limits: fewer than 65535
    directories (16-bit parent numbers) and no empty identifier (the Go code refuses names whose base
    maps to the empty string). -/
theorem layout_pathtable_on_device (w : WTree) (order : Nat → List Nm) (fin : Nat → Nat → Nm) (bs : Nat) (o : Order)
    (sysId volId tail : Bytes) (d0 : Dev)
    (hbs : 2048 ≤ bs) (hbs16 : bs < 2 ^ 16) (hok : w.OK o) (hr : w.Resolved order fin) (hpt : w.PtOK o.pt)
    (hlim : w.total fin bs o * bs < 2 ^ 32) (hcount : o.pt.length + 1 < 2 ^ 16) (hne : ∀ d ∈ o.pt, w.ident fin d ≠ [])
    (hs : sysId.length = 32) (hv : volId.length = 32) (ht : tail.length = 1858) :
    decodePtTable false (o.pt.length + 1)
        (readAt ((w.image fin bs o sysId volId tail).imageOn d0) ((w.image fin bs o sysId volId tail).pvd.ptL * bs)
          (w.image fin bs o sysId volId tail).pvd.ptSize) = some (w.ptRecs fin (w.loc fin bs o) o.pt) ∧
    decodePtTable true (o.pt.length + 1)
        (readAt ((w.image fin bs o sysId volId tail).imageOn d0) ((w.image fin bs o sysId volId tail).pvd.ptM * bs)
          (w.image fin bs o sysId volId tail).pvd.ptSize) = some (w.ptRecs fin (w.loc fin bs o) o.pt) := by
  have hb0 : 0 < bs := by omega
  have h32 := small_of_4g hb0 hok hlim
  have hdisj := placed_writes_disjoint _ hbs (pvd_wf hb0 hbs16 hok hr h32 hs hv ht)
    (image_placed hb0 hok)
  have hwf := ptRecs_recWF w order fin bs o hb0 hok hr hpt h32.total hcount hne
  have hlen : (w.ptRecs fin (w.loc fin bs o) o.pt).length = o.pt.length := List.length_map ..
  -- each table is one write of Finalize, read back whole
  have rL := readAt_applyWrs_mem d0 _ hdisj _ (ImageIn.mid_sub_writes _ (ImageIn.ptL_mem_mid (w.image fin bs o sysId volId tail)))
  have rM := readAt_applyWrs_mem d0 _ hdisj _ (ImageIn.mid_sub_writes _ (ImageIn.ptM_mem_mid (w.image fin bs o sysId volId tail)))
  have hszM : (encodePtTable true (w.ptRecs fin (w.loc fin bs o) o.pt)).length =
      (encodePtTable false (w.ptRecs fin (w.loc fin bs o) o.pt)).length := ptBytes_length w fin _ _ o.pt true false
  rw [imageOn_eq, ← hlen]
  refine ⟨?_, ?_⟩
  · exact (congrArg _ rL).trans (pathtable_roundtrip false _ hwf)
  · rw [show (w.image fin bs o sysId volId tail).pvd.ptSize = _ from hszM.symm]
    exact (congrArg _ rM).trans (pathtable_roundtrip true _ hwf)

/-- **svd_roundtrip**: the supplementary volume descriptor (`supplementaryVolumeDescriptor.toBytes`: the
    layout of the primary descriptor with type 2, volume flags, and the escape sequences that announce
    Joliet where the primary one has zeros) decodes from its 2048 bytes to the same fields: flags, escape
    sequences, volume size, set/sequence numbers, block size, Joliet path table size and locations, the
    Joliet root directory record (both-endian halves agreeing) -/
theorem svd_roundtrip (s : SVD) (h : s.WF) : decodeSVD (encodeSVD s) = some s ∧ (encodeSVD s).length = 2048 :=
  ⟨decode_encodeSVD s h, encodeSVD_length s h⟩

private def exSVD : SVD :=
  { flags := 0, esc := [37, 47, 69] ++ zeros 29, d := { imI.pvd with volSize := 30, ptL := 27, ptM := 28 } }
example : decodeSVD (encodeSVD exSVD) = some exSVD ∧ isJolietEsc exSVD.esc = true :=
  ⟨(svd_roundtrip exSVD ⟨by decide, by simp [PVD.WF, exSVD, imI, imT, PTree.selfRec, PTree.recOf, imDate]⟩).1, by decide⟩

/-- **workspace_roundtrip_format_limits**: conclusion (1) of `workspace_roundtrip` under the limits of the
    FORMAT instead of "image below 4 GiB" (`WTree.Limits`): the volume has fewer than 2^32 blocks, EVERY FILE
    is smaller than 4 GiB, a directory has at most 2^25 - 2 entries (its extent — at most 96 bytes per
    record, `dsize_le` — then fits 32 bits), the path table lists at most 2^27 directories, all of them
    entries of the workspace.  Conclusions (2) and (3) of `workspace_roundtrip` need no size limit at all. -/
theorem workspace_roundtrip_format_limits (w : WTree) (order : Nat → List Nm) (fin : Nat → Nat → Nm) (bs : Nat) (o : Order)
    (sysId volId tail : Bytes) (d0 : Dev) (fuel : Nat)
    (hbs : 2048 ≤ bs) (hbs16 : bs < 2 ^ 16) (hok : w.OK o) (hr : w.Resolved order fin)
    (hlim : w.Limits fin bs o) (hs : sysId.length = 32) (hv : volId.length = 32) (ht : tail.length = 1858)
    (hfit : w.Fits fuel 0) :
    readImageP ((w.image fin bs o sysId volId tail).imageOn d0) (16 * bs) fuel =
      some ((w.image fin bs o sysId volId tail).pvd, (w.ptree fin (w.loc fin bs o) (w.size fin bs)).walk fuel [] 0) :=
  compose_reader hbs hbs16 hok hr (small_of_limits (by omega) hok hr hlim) hs hv ht d0 fuel hfit

example : ws.Limits wsFin 2048 wsO :=
  { total := Nat.lt_of_le_of_lt (Nat.le_mul_of_pos_right _ (by decide)) wsLim
    files := by decide, kids := by decide, ptLen := by decide, ptIn := by decide }

/-- **workspace_entries_listed** (the statement of C06 for one entry): under the hypotheses of
    `workspace_roundtrip`, for EVERY entry of the workspace reached from the root by a chain of at most
    `fuel` children (each but the last a directory), the reader's listing of the image contains that entry
    under the path made of the mapped identifiers along the chain, with its kind, the extent and size the
    layout gave it, and — for a file — exactly its bytes. -/
theorem workspace_entries_listed (w : WTree) (order : Nat → List Nm) (fin : Nat → Nat → Nm) (bs : Nat) (o : Order)
    (sysId volId tail : Bytes) (d0 : Dev) (fuel : Nat)
    (hbs : 2048 ≤ bs) (hbs16 : bs < 2 ^ 16) (hok : w.OK o) (hr : w.Resolved order fin)
    (hlim : w.total fin bs o * bs < 2 ^ 32) (hs : sysId.length = 32) (hv : volId.length = 32) (ht : tail.length = 1858)
    (hfit : w.Fits fuel 0) (chain : List Nat) (hne : chain ≠ []) (hch : w.Chain 0 chain) (hl : chain.length ≤ fuel) :
    ∃ es, readImageP ((w.image fin bs o sysId volId tail).imageOn d0) (16 * bs) fuel =
        some ((w.image fin bs o sysId volId tail).pvd, es) ∧
      ({ path := chain.map (w.ident fin), isDir := w.isDir (chain.getLast hne), loc := w.loc fin bs o (chain.getLast hne),
         size := w.size fin bs (chain.getLast hne),
         data := if w.isDir (chain.getLast hne) then [] else w.content (chain.getLast hne) } : RE) ∈ es := by
  refine ⟨_, (workspace_roundtrip w order fin bs o sysId volId tail d0 fuel hbs hbs16 hok hr hlim hs hv ht hfit).1, ?_⟩
  have := walk_contains (w.ptree fin (w.loc fin bs o) (w.size fin bs)) chain fuel [] 0 hne
    (chain_ptree w fin _ _ chain 0 hch) hl
  have hp : chain.map (w.ident fin) = [] ++ (w.ptree fin (w.loc fin bs o) (w.size fin bs)).names chain.dropLast ++
      [((w.ptree fin (w.loc fin bs o) (w.size fin bs)).ent (chain.getLast hne)).name] := by
    conv => lhs; rw [← List.dropLast_concat_getLast hne]
    simp [PTree.names, WTree.ptree, WTree.pent]
  rw [hp]
  exact this

/-- for the concrete workspace: D/B.;1 is listed at block 23 with its byte -/
example : ∃ es, readImageP ((ws.image wsFin 2048 wsO (zeros 32) (zeros 32) (zeros 1858)).imageOn (fun _ => 255)) (16 * 2048) 3 =
      some ((ws.image wsFin 2048 wsO (zeros 32) (zeros 32) (zeros 1858)).pvd, es) ∧
    ({ path := [[68], [66, 46, 59, 49]], isDir := false, loc := 23, size := 1, data := [9] } : RE) ∈ es := by
  have h := workspace_entries_listed ws (fun _ => []) wsFin 2048 wsO (zeros 32) (zeros 32) (zeros 1858) (fun _ => 255) 3
    (by decide) (by decide) wsOK wsRes wsLim (zeros_length _) (zeros_length _) (zeros_length _) wsFits [2, 3] (by simp)
    (by simp [WTree.Chain, ws]) (by decide)
  obtain ⟨es, h1, h2⟩ := h
  refine ⟨es, h1, ?_⟩
  have e : RE.mk ([2, 3].map (ws.ident wsFin)) (ws.isDir 3) (ws.loc wsFin 2048 wsO 3) (ws.size wsFin 2048 3)
      (if ws.isDir 3 then [] else ws.content 3) = RE.mk [[68], [66, 46, 59, 49]] false 23 1 [9] := by decide +kernel
  rw [← e]
  exact h2

end Diskfs.Iso.C06
