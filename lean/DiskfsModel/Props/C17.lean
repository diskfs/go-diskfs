/-
  C17 — Concurrent readers of one squashfs image are safe and correct.

  All theorems are about the N-thread small-step machine of Model/Lru.lean (a mirror of
  filesystem/squashfs/lru.go) and hold for EVERY number of threads (`progs : List (List Op)`, one
  program per thread, any length), EVERY program (any mix of `get pos` — with its fetch succeeding
  or failing — and `setMaxBlocks n`, any `n : Int` incl. 0 and negatives), EVERY initial cache size
  and EVERY schedule (`sched : List Tid`, any list of thread ids; a thread that cannot move is
  skipped).  `slack` is the `k` of `add`'s `l.trim(l.maxBlocks - k)`, regenerated from lru.go;
  `facts_agree_add_slack` discharges `1 ≤ slack` for the current source.
  The readers above the cache (File.Read / Seek / SetCacheSize programs on any number of handles) are
  clients of the machine (Model/LruFile.lean); that the cache is the only shared mutable state and that
  cached slices are only read is recorded by `facts_agree_no_shared_writes`, `facts_agree_handle_state`,
  `facts_agree_cached_slices_read_only`.
  Outside the model: data races in the sense of the Go memory model on accesses that are not
  under the modelled locks (e.g. GetCacheSize); the byte-level decoding done by the metadata readers
  (they are covered as arbitrary `Client`s only).
-/
import DiskfsModel.Proofs.LruClient
import DiskfsModel.Generated.Lru
namespace Diskfs.Lru.C17

/-- the states reachable from a fresh cache -/
def reach (disk : Pos → Data) (slack : Nat) (maxBlocks : Int) (progs : List (List Op)) (sched : List Tid) : Sys :=
  run disk slack (init maxBlocks progs) sched

theorem reach_inv (disk : Pos → Data) {slack : Nat} (hs : 1 ≤ slack) (maxBlocks : Int) (progs : List (List Op))
    (sched : List Tid) : Inv disk (reach disk slack maxBlocks progs sched) :=
  run_inv hs sched _ (init_inv disk maxBlocks progs)

/-- lru_inv: in every reachable state the map and the recency list are in bijection, and neither `pop`'s
    "list empty" panic nor a nil dereference in `unlink` has happened. -/
theorem lru_inv (disk : Pos → Data) {slack : Nat} (hs : 1 ≤ slack) (maxBlocks : Int) (progs : List (List Op))
    (sched : List Tid) :
    let s := reach disk slack maxBlocks progs sched
    s.panicked = false ∧ (s.c.cache.map Prod.fst).Nodup ∧ s.c.order.Nodup ∧
      (∀ r, r ∈ s.c.order ↔ r ∈ s.c.cache) ∧ s.c.order.length = s.c.cache.length := by
  have h := reach_inv disk hs maxBlocks progs sched
  refine ⟨h.nopanic, h.cinv.keys, h.cinv.order, h.cinv.same, ?_⟩
  exact ((List.perm_ext_iff_of_nodup h.cinv.order (nodup_of_keys h.cinv.keys)).2 h.cinv.same).length_eq

/-- size_bound: in every reachable state `len(cache) ≤ max(1, maxBlocks)` — in particular after
    every `add`; with `maxBlocks ≤ 0` the cache holds at most the one block just asked for. -/
theorem size_bound (disk : Pos → Data) {slack : Nat} (hs : 1 ≤ slack) (maxBlocks : Int) (progs : List (List Op))
    (sched : List Tid) :
    let s := reach disk slack maxBlocks progs sched
    (s.c.cache.length : Int) ≤ max 1 s.maxBlocks :=
  (reach_inv disk hs maxBlocks progs sched).size

/-- … and the step that performs `l.maxBlocks = n; l.trim(n)` of `setMaxBlocks n` leaves at most
    `max(0, n)` blocks (so `setMaxBlocks 0` or a negative `n` empties the cache). -/
theorem size_after_setMaxBlocks (disk : Pos → Data) {slack : Nat} (hs : 1 ≤ slack) (maxBlocks : Int)
    (progs : List (List Op)) (sched : List Tid) (t : Tid) (th : Thread) (n : Int) (s' : Sys)
    (hth : (reach disk slack maxBlocks progs sched).threads[t]? = some th) (hpc : th.pc = .sSet n)
    (hstep : step disk slack (reach disk slack maxBlocks progs sched) t = some s') :
    s'.maxBlocks = n ∧ (s'.c.cache.length : Int) ≤ max 0 n := by
  have h := reach_inv disk hs maxBlocks progs sched
  generalize reach disk slack maxBlocks progs sched = s at *
  unfold step at hstep
  rw [if_neg (by rw [h.nopanic]; exact Bool.false_ne_true)] at hstep
  obtain ⟨prog, pc, rets⟩ := th
  cases hpc
  simp only [hth] at hstep
  obtain ⟨c', hrun, _, hc, _⟩ := trim_spec n s.c h.cinv
  rw [hrun] at hstep
  cases Option.some.inj hstep
  refine ⟨rfl, ?_⟩
  show (c'.cache.length : Int) ≤ max 0 n
  rcases trimCond_false hc with h1 | h1 <;> omega

/-- data_correct: whatever a block holds is the disk's data for the block's position — for cached
    blocks and for blocks evicted while their fetch was in flight alike — and every call that has
    returned, returned the right thing: `get pos` the disk's data for `pos` (or the fetch error, only
    if its own fetch was attempted and failed). -/
theorem data_correct (disk : Pos → Data) {slack : Nat} (hs : 1 ≤ slack) (maxBlocks : Int) (progs : List (List Op))
    (sched : List Tid) :
    let s := reach disk slack maxBlocks progs sched
    (∀ (b : Nat) (blk : Block) (d : Data), s.blocks[b]? = some blk → blk.data = some d → d = disk blk.pos) ∧
    (∀ (t : Tid) (th : Thread), s.threads[t]? = some th → ∀ x ∈ th.rets, retOk disk x.1 x.2) := by
  have h := reach_inv disk hs maxBlocks progs sched
  exact ⟨h.dcorr, fun t th ht => (h.tok t th ht).2⟩

/-- mutual exclusion: at most one thread is inside the cache's critical section and at most one
    inside any block's (the thread that checks, fetches and stores the block's data). -/
theorem mutual_exclusion (disk : Pos → Data) {slack : Nat} (hs : 1 ≤ slack) (maxBlocks : Int)
    (progs : List (List Op)) (sched : List Tid) (t1 t2 : Tid) (th1 th2 : Thread) :
    let s := reach disk slack maxBlocks progs sched
    s.threads[t1]? = some th1 → s.threads[t2]? = some th2 →
    (holdsCache th1.pc = true → holdsCache th2.pc = true → t1 = t2) ∧
    (∀ b, holdsBlock th1.pc = some b → holdsBlock th2.pc = some b → t1 = t2) := by
  have h := reach_inv disk hs maxBlocks progs sched
  intro s h1 h2
  refine ⟨fun c1 c2 => ?_, fun b b1 b2 => ?_⟩
  · exact Option.some.inj ((h.cown1 t1 th1 h1 c1).symm.trans (h.cown1 t2 th2 h2 c2))
  · obtain ⟨blk1, g1, o1⟩ := h.bown1 t1 th1 b h1 b1
    obtain ⟨blk2, g2, o2⟩ := h.bown1 t2 th2 b h2 b2
    cases g1.symm.trans g2
    exact Option.some.inj (o1.symm.trans o2)

/-- no_deadlock: a reachable state in which some thread has not finished has a thread that can
    move.  (A thread may wait for a block lock while holding the cache lock; the holder of that
    block lock is past its last lock acquisition and never needs the cache lock before releasing.) -/
theorem no_deadlock (disk : Pos → Data) {slack : Nat} (hs : 1 ≤ slack) (maxBlocks : Int) (progs : List (List Op))
    (sched : List Tid) :
    let s := reach disk slack maxBlocks progs sched
    allDone s = false → ∃ t, (step disk slack s t).isSome = true :=
  fun hnd => no_deadlock_inv (reach_inv disk hs maxBlocks progs sched) hnd

/-- progress: every move decreases a measure, so any schedule contains at most
    `8 · (total number of operations)` moves … -/
theorem moves_bounded (disk : Pos → Data) {slack : Nat} (hs : 1 ≤ slack) (maxBlocks : Int) (progs : List (List Op))
    (sched : List Tid) :
    moves disk slack (init maxBlocks progs) sched ≤ 8 * (progs.map List.length).sum := by
  -- `Diskfs.Lru.moves_bounded`: from any state with the invariant (the name is shadowed in this namespace)
  have h := Diskfs.Lru.moves_bounded hs sched _ (init_inv disk maxBlocks progs)
  rw [measure_init] at h
  omega

/-- … and from every reachable state some continuation lets every thread finish: together with
    `no_deadlock`, a scheduler that keeps picking a thread that can move (fetches terminate)
    completes every reader after boundedly many moves. -/
theorem completion_reachable (disk : Pos → Data) {slack : Nat} (hs : 1 ≤ slack) (maxBlocks : Int)
    (progs : List (List Op)) (sched : List Tid) :
    ∃ more, allDone (run disk slack (reach disk slack maxBlocks progs sched) more) = true :=
  -- round-robin, one round per unit of the measure
  let s := reach disk slack maxBlocks progs sched
  ⟨_, Diskfs.Lru.fair_completion hs (List.replicate (measure s) (List.range s.threads.length)) s
    (reach_inv disk hs maxBlocks progs sched)
    (fun r hr t ht => by rw [(List.mem_replicate.1 hr).2]; exact List.mem_range.2 ht) (by simp)⟩

/-- what a call returns to its caller -/
def expected (disk : Pos → Data) : Op → Option Data
  | .get p _ => some (disk p)
  | .setMax _ => none

def allFetchOk (progs : List (List Op)) : Prop := ∀ p ∈ progs, ∀ op ∈ p, ∀ pos, op ≠ .get pos false

/-- every thread's calls are, in order, exactly its program (nothing skipped, repeated or reordered) -/
theorem calls_are_program (disk : Pos → Data) {slack : Nat} (hs : 1 ≤ slack) (maxBlocks : Int)
    (progs : List (List Op)) (sched : List Tid) :
    (reach disk slack maxBlocks progs sched).threads.map Thread.all = progs := by
  unfold reach
  rw [run_all hs sched _ (init_inv disk maxBlocks progs), init_all]

/-- seq_equiv: when all threads have finished (fetches not failing), each thread has received, call by
    call, exactly `disk pos` for each `get pos` of its program — whatever the interleaving, the cache
    size and the resizes were. -/
theorem seq_equiv (disk : Pos → Data) {slack : Nat} (hs : 1 ≤ slack) (maxBlocks : Int) (progs : List (List Op))
    (sched : List Tid) (hok : allFetchOk progs)
    (hdone : allDone (reach disk slack maxBlocks progs sched) = true) :
    (reach disk slack maxBlocks progs sched).threads.map (fun th => th.rets.map fun x => x.2.value) =
      progs.map (fun p => p.map (expected disk)) := by
  have h := reach_inv disk hs maxBlocks progs sched
  have hall := calls_are_program disk hs maxBlocks progs sched
  generalize reach disk slack maxBlocks progs sched = s at *
  rw [← hall, List.map_map]
  apply List.map_congr_left
  intro th hth
  obtain ⟨t, ht⟩ := List.mem_iff_getElem?.1 hth
  have hd := Thread.done_iff.1 (List.all_eq_true.1 hdone th hth)
  have hprog : th.all ∈ progs := by rw [← hall]; exact List.mem_map_of_mem hth
  simp only [Function.comp, Thread.all, hd.1, hd.2, curOp, Option.toList, List.append_nil, List.map_map] at hprog ⊢
  apply List.map_congr_left
  intro x hx
  have hr := (h.tok t th ht).2 x hx
  have hopmem : x.1 ∈ th.rets.map Prod.fst := List.mem_map_of_mem hx
  obtain ⟨op, r⟩ := x
  cases op with
  | setMax n => simp only [retOk] at hr; simp [expected, hr, Ret.value]
  | get p ok =>
    rcases hr with hr | ⟨hf, _⟩
    · simpa [expected] using hr
    · subst hf
      exact absurd rfl (hok _ hprog _ hopmem p)

/-- … and that is what a sequential reader gets: a single thread running the same program alone,
    on a fresh cache of any size, finishes and has received the same values. -/
theorem sequential_reader (disk : Pos → Data) {slack : Nat} (hs : 1 ≤ slack) (maxBlocks : Int) (prog : List Op)
    (hok : allFetchOk [prog]) :
    let s := reach disk slack maxBlocks [prog] (List.replicate (8 * prog.length) 0)
    allDone s = true ∧ s.threads.map (fun th => th.rets.map fun x => x.2.value) = [prog.map (expected disk)] := by
  have hd : allDone (reach disk slack maxBlocks [prog] (List.replicate (8 * prog.length) 0)) = true := by
    have := Diskfs.Lru.fair_completion hs (List.replicate (8 * prog.length) [0]) _ (init_inv disk maxBlocks [prog])
      (fun r hr t ht => by rw [(List.mem_replicate.1 hr).2]; simp [init] at ht ⊢; omega) (by rw [measure_init]; simp)
    simpa [reach] using this
  exact ⟨hd, seq_equiv disk hs maxBlocks [prog] _ hok hd⟩

/-! ### the read paths above the cache: concurrent = sequential

  A goroutine of the squashfs reader touches shared mutable state only through `lru.get` /
  `lru.setMaxBlocks` (`facts_agree_no_shared_writes`, `facts_agree_cached_slices_read_only`): it is
  a `Client` — any deterministic strategy that picks its next cache call from what the earlier calls
  returned.  `File.Read` / `Seek` / `SetCacheSize` programs on one handle are the client `handleC`
  (Model/LruFile.lean: data blocks straight from the device or from the handle's own last block, the
  tail through ONE cache get, `outputBlock` assembling the answer). -/

/-- the machine started on clients: thread `t` runs the calls client `t` makes when it reads alone -/
def reachC {ρ} (disk : Pos → Data) (slack : Nat) (maxBlocks : Int) (cs : List (Client ρ)) (sched : List Tid) : Sys :=
  reach disk slack maxBlocks (cs.map (Client.ops disk)) sched

/-- clients_adaptive: in EVERY reachable state, for every number of clients, every initial cache size
    and every schedule, each client — fed with the values its calls have really returned so far — is
    about to make exactly the call its thread is executing and then the calls its thread still has to
    do, and will give the lone reader's answer.  So running the lone-reader programs on the machine IS
    running the adaptive clients: what a client does next never depends on the other threads. -/
theorem clients_adaptive {ρ} (disk : Pos → Data) {slack : Nat} (hs : 1 ≤ slack) (maxBlocks : Int)
    (cs : List (Client ρ)) (sched : List Tid) (t : Tid) (th : Thread) (c : Client ρ)
    (ht : (reachC disk slack maxBlocks cs sched).threads[t]? = some th) (hc : cs[t]? = some c) :
    ∃ c', c.feed th.rets = some c' ∧ c'.ops disk = (curOp th.pc).toList ++ th.prog ∧
      c'.result disk = c.result disk := by
  -- the thread's whole program (returned calls, call in progress, calls to come) is the client's
  have hall := calls_are_program disk hs maxBlocks (cs.map (Client.ops disk)) sched
  have h1 : ((reachC disk slack maxBlocks cs sched).threads.map Thread.all)[t]? = some th.all := by
    rw [List.getElem?_map, ht]; rfl
  have h2 : (cs.map (Client.ops disk))[t]? = some (c.ops disk) := by rw [List.getElem?_map, hc]; rfl
  rw [reachC, hall, h2] at h1
  have hall' : th.rets.map Prod.fst ++ ((curOp th.pc).toList ++ th.prog) = c.ops disk := by
    rw [Option.some.inj h1, Thread.all, List.append_assoc]
  exact Client.feed_ops disk th.rets c _ hall' ((reach_inv disk hs maxBlocks _ sched).tok t th ht).2

/-- concurrent_equals_sequential: when all have finished, every client has arrived — along the values
    it really received, whatever the interleaving, the cache size and the resizes by other threads were
    — at the answer it gives when it runs alone. -/
theorem concurrent_equals_sequential {ρ} (disk : Pos → Data) {slack : Nat} (hs : 1 ≤ slack) (maxBlocks : Int)
    (cs : List (Client ρ)) (sched : List Tid) (hdone : allDone (reachC disk slack maxBlocks cs sched) = true)
    (t : Tid) (th : Thread) (c : Client ρ)
    (ht : (reachC disk slack maxBlocks cs sched).threads[t]? = some th) (hc : cs[t]? = some c) :
    c.feed th.rets = some (.done (c.result disk)) := by
  obtain ⟨c', hf, ho, hr⟩ := clients_adaptive disk hs maxBlocks cs sched t th c ht hc
  have hd := Thread.done_iff.1 (List.all_eq_true.1 hdone th (List.mem_of_getElem? ht))
  rw [hd.1, hd.2] at ho
  obtain ⟨r, rfl⟩ := (Client.ops_nil_iff disk c').1 (by simpa [curOp] using ho)
  rw [hf, ← hr]; rfl

/-- one goroutine per handle: handle `i` is a file and a program of Read / Seek / SetCacheSize calls -/
def handleClients (im : Image) (hs : List (FileD × List HOp)) : List (Client (List HRes)) :=
  hs.map fun x => handleC im x.1 HSt.fresh x.2 []

/-- handles_sequential: for every number of handles (any of them on the same file), every program of
    Read / Seek / SetCacheSize calls per handle, every initial cache size and every schedule: when all
    have finished, each handle has answered, call by call, what it answers when it is the only reader of
    the image (`(handleC …).result`: bytes, EOF / error, cursor, and which data blocks it read from the
    device).  In particular the answers do not depend on the resize schedule. -/
theorem handles_sequential (im : Image) (disk : Pos → Data) {slack : Nat} (hs : 1 ≤ slack) (maxBlocks : Int)
    (handles : List (FileD × List HOp)) (sched : List Tid)
    (hdone : allDone (reachC disk slack maxBlocks (handleClients im handles) sched) = true)
    (t : Tid) (th : Thread) (f : FileD) (prog : List HOp)
    (ht : (reachC disk slack maxBlocks (handleClients im handles) sched).threads[t]? = some th)
    (hh : handles[t]? = some (f, prog)) :
    (handleC im f HSt.fresh prog []).feed th.rets =
      some (.done ((handleC im f HSt.fresh prog []).result disk)) :=
  concurrent_equals_sequential disk hs maxBlocks _ sched hdone t th _ ht
    (by simp [handleClients, List.getElem?_map, hh])

/-- handle_cache_calls (which reads go through the LRU): every cache call a handle makes — whatever
    its program of Read / Seek / SetCacheSize calls — is a get of ITS OWN file's fragment block
    (`fs.fragments[fl.fragmentBlockIndex].start`) or the `setMaxBlocks` of a `SetCacheSize`; the data
    blocks of a file never pass through the cache (device or the handle's last block), so two handles
    share nothing of them.  The engine's handles family checks the same on the real code: device
    reads of data blocks and fragment fetches are counted per call and the cache's recency order is
    compared after every call. -/
theorem handle_cache_calls (im : Image) (disk : Pos → Data) (f : FileD) (prog : List HOp) :
    ∀ op ∈ (handleC im f HSt.fresh prog []).ops disk,
      (∃ pos foff, f.frag = some (pos, foff) ∧ op = .get pos true) ∨ ∃ c, op = .setMax (cacheBlocks f.bs c) :=
  handleC_ops disk im f prog HSt.fresh []

/-- fair_completion ('always finish'): a schedule made of rounds in each of which every thread gets at
    least one turn completes every call of every thread within `8 · (total number of cache calls)`
    rounds — whatever else the rounds contain, for every cache size and resize pattern (fetches
    terminate).  With `no_deadlock`: a get is never stuck, and is done after boundedly many rounds. -/
theorem fair_completion (disk : Pos → Data) {slack : Nat} (hs : 1 ≤ slack) (maxBlocks : Int)
    (progs : List (List Op)) (rounds : List (List Tid))
    (hf : ∀ r ∈ rounds, FairRound progs.length r) (hk : 8 * (progs.map List.length).sum ≤ rounds.length) :
    allDone (reach disk slack maxBlocks progs rounds.flatten) = true := by
  -- the machine-level theorem of the same name, from the initial state
  exact Diskfs.Lru.fair_completion hs rounds _ (init_inv disk maxBlocks progs)
    (by simpa [init] using hf) (by rw [measure_init]; exact hk)

/-! ### the machine's thread programs are the lock/unlock/fetch sequences of lru.go (regenerated facts) -/

/-- `get`: lock cache; lookup, add | unlink+push; LOCK THE BLOCK WHILE STILL HOLDING THE CACHE LOCK;
    unlock cache; deferred block unlock; hit | fetch; store; return. -/
theorem facts_agree_get_sequence : flat getProgram = Generated.Lru.getSkeleton := rfl
theorem facts_agree_get_stores : getStores = Generated.Lru.getStores := rfl
theorem facts_agree_get_nil_receiver : Generated.Lru.getNilReceiverJustFetches = true := rfl
theorem facts_agree_setMaxBlocks_sequence : flat setMaxProgram = Generated.Lru.setMaxBlocksSkeleton := rfl
theorem facts_agree_add : addSkeleton = Generated.Lru.addSkeleton := rfl
theorem facts_agree_trim : trimSkeleton = Generated.Lru.trimSkeleton := rfl
theorem facts_agree_pop : popSkeleton = Generated.Lru.popSkeleton := rfl
theorem facts_agree_push : pushSkeleton = Generated.Lru.pushSkeleton := rfl
theorem facts_agree_unlink : unlinkSkeleton = Generated.Lru.unlinkSkeleton := rfl
/-- the only caller of setMaxBlocks outside lru.go is SetCacheSize -/
theorem facts_agree_setCacheSize : Generated.Lru.setCacheSizeCalls = ["fs.cache.setMaxBlocks"] := rfl
/-- `add` trims to `maxBlocks - k` with `k ≥ 1` before inserting: the hypothesis `1 ≤ slack` of
    the theorems above holds for the current source -/
theorem facts_agree_add_slack : 1 ≤ Generated.Lru.addTrimSlack := by decide

/-! ### nothing but the cache is shared, and cached data is only read (regenerated facts) -/

/-- no_shared_writes: the only assignments to a field of a `FileSystem` anywhere in the package are in
    the constructor `Read` (before the value is handed out) and in `Finalize` (workspace filesystems,
    not readers of an image); the package has NO package-level variable; its only use of `sync` is
    `sync.Mutex` (the two locks of the machine: no `sync.Pool`, no `sync.Map`, no atomics, no `unsafe`);
    the buffer `readBlock` returns — which `File.Read` keeps as the handle's last block — is a fresh
    allocation on every path (`make` or the decompressor's result), never a pooled or cached one.
    So the LRU is the only mutable state two handles can reach: the `Client` abstraction is complete. -/
theorem facts_agree_no_shared_writes :
    Generated.Lru.fsFieldWriters = ["Finalize:workspace", "Read:rootDir"] ∧
    Generated.Lru.packageVars = [] ∧
    Generated.Lru.syncAndUnsafeUses = ["sync.Mutex"] ∧
    Generated.Lru.readBlockBuffers =
      ["fs.compressor.decompress(b)", "make([]byte, fs.superblock.blocksize)", "make([]byte, size)"] :=
  ⟨rfl, rfl, rfl, rfl⟩

/-- the handle state of the model (`HSt.off`, `HSt.last` = location / size / block) is all that
    `File.Read` / `Seek` assign on a handle (`Close` clears `filesystem`: closed handles are C10's) -/
theorem facts_agree_handle_state :
    Generated.Lru.handleFieldWriters =
      ["Close:filesystem", "Read:block", "Read:blockLocation", "Read:blockSize", "Read:offset", "Seek:offset"] := rfl

/-- cached_slices_read_only (the Go side of 'Data values are immutable'): a def-use scan over the
    package follows every slice that comes out of the cache (`fs.cache.get`, `readMetaBlock`,
    `readFragment`; through sub-slicing, local variables, closures and package functions) and finds no
    use that could write to it or let it escape (element assignment, destination of `copy`, first
    argument of `append`, stored in a field, passed to a function that is not known to only read);
    the uses there are: length, element reads, sub-slicing, source of `copy` / `append`. -/
theorem facts_agree_cached_slices_read_only :
    Generated.Lru.cachedSliceWrites = [] ∧
    Generated.Lru.cachedSliceUses =
      ["Read/outputBlock:copied from (copy source)", "Read/outputBlock:len", "Read:passed to closure outputBlock",
       "parseFragmentEntry:binary.LittleEndian.Uint32", "parseFragmentEntry:binary.LittleEndian.Uint64",
       "parseFragmentEntry:len", "readFragment:len", "readFragment:sub-slice returned", "readFragmentTable:len",
       "readFragmentTable:passed to parseFragmentEntry", "readMetaBlock:returned",
       "readMetadata:copied from (append source)", "readMetadata:len", "readUidsGids:copied from (append source)",
       "readXattrsTable:copied from (append source)"] := ⟨rfl, rfl⟩

/-- two threads, cache of one block: thread 0 starts `get 5` and is in its fetch when thread 1's
    `get 6` evicts block 5; thread 0 still returns the right data, and a later `get 5` refetches. -/
example :
    let s := reach (fun p => (p * 7).toNat) 1 1 [[.get 5 true, .get 5 true], [.get 6 true]]
      ([0, 0, 0, 0, 0, 1, 1, 1, 1, 1, 1, 1, 1, 0, 0, 0, 0, 0, 0, 0, 0, 0, 0, 0])
    allDone s = true ∧
      s.threads.map (fun th => th.rets.map (·.2)) = [[Ret.miss 35, Ret.miss 35], [Ret.miss 42]] ∧
      s.c.cache.length = 1 := by decide
/-- a get waiting for a block lock while holding the cache lock (thread 1): nobody else can enter,
    the block's holder (thread 0, in its fetch) can move -/
example :
    let s := reach (fun p => p.toNat) 1 4 [[.get 5 true], [.get 5 true], [.setMax 0]] ([0, 0, 0, 0, 0, 1, 1, 1, 2])
    s.cacheOwner = some 1 ∧ (step (fun p => p.toNat) 1 s 1).isSome = false ∧
      (step (fun p => p.toNat) 1 s 2).isSome = false ∧ (step (fun p => p.toNat) 1 s 0).isSome = true := by decide
/-- maxBlocks 0 and negative: one block after a get, none after setMaxBlocks -/
example : (reach (fun p => p.toNat) 1 0 [[.get 5 true, .get 6 true]] (List.replicate 16 0)).c.cache.length = 1 := by decide
example : (reach (fun p => p.toNat) 1 (-3) [[.get 5 true, .setMax (-1)]] (List.replicate 16 0)).c.cache.length = 0 := by decide
/-- with `k = 0` in `add` (trim to maxBlocks, then insert) the size bound fails: the hypothesis `1 ≤ slack` is needed -/
example : ((reach (fun p => p.toNat) 0 2 [[.get 1 true, .get 2 true, .get 3 true]] (List.replicate 24 0)).c.cache.length : Int) = 3 := by decide
example : allFetchOk [[.get 1 true, .setMax 0]] := by
  intro p hp op hop pos; simp at hp; subst hp; simp at hop; rcases hop with rfl | rfl <;> simp

/-- a client whose second call depends on what the first returned; two of them and a resizer on a
    one-block cache, interleaved: both end with the lone reader's answer -/
example :
    let disk : Pos → Data := fun p => (p * 7).toNat
    let c : Client Nat := .get 1 fun r => match r with
      | some d => .get (Int.ofNat d) fun r2 => .done (r2.getD 0)
      | none => .done 0
    let z : Client Nat := .setMax 0 (.done 0)
    let s := reachC disk 1 1 [c, c, z] [1, 1, 1, 1, 0, 1, 0, 1, 1, 1, 0, 0, 2, 0, 2, 0, 2, 1, 1, 1, 1, 0, 1, 0, 1, 1, 1, 0, 0, 0, 0]
    allDone s = true ∧ c.result disk = 49 ∧
      s.threads.map (fun th => (c.feed th.rets).map (·.isDone)) = [some true, some true, none] := by decide
/-- a handle on a two-block file with a tail in the fragment block at 500: only the read that reaches the
    tail calls the cache; the lone reader's answers -/
example :
    let im : Image := ⟨fun loc _ _ => List.replicate 16 (UInt8.ofNat loc), fun d => List.replicate 20 (UInt8.ofNat d)⟩
    let f : FileD := ⟨16, 40, 100, [⟨16, false⟩, ⟨16, false⟩], some (500, 3)⟩
    let c := handleC im f HSt.fresh [.read 5, .read 5, .seek .end_ (-3), .read 9, .setCache 0] []
    c.ops (fun _ => 7) = [.get 500 true, .setMax 0] ∧
      (c.result (fun _ => 7)).map (·.devReads) = [1, 0, 0, 0, 0] ∧
      (c.result (fun _ => 7)).map (·.out) =
        [.data (List.replicate 5 100) false, .data (List.replicate 5 100) false, .pos (some 37),
         .data (List.replicate 3 7) true, .resized] := by decide
/-- fair rounds: three threads, round-robin -/
example : FairRound 3 [2, 0, 1, 1] := by intro t ht; have : t = 0 ∨ t = 1 ∨ t = 2 := by omega
                                         rcases this with rfl | rfl | rfl <;> simp

end Diskfs.Lru.C17
