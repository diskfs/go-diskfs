/-
  C20 — ext4 volumes made by the reference mke2fs are read correctly.  Property theorems; the lemmas are in
  Proofs/Ext4*.lean.

  The theorems are about the logic cores of the reader (the mirrors in Model/Ext4/), for all inputs: extent trees
  of every depth and shape, every logical block, every list of directory entries, every hash tree, every feature
  word; and about the SPEC reader (Model/Ext4/SpecGeom, SpecNode, SpecTree, ImageSpec: an ext4 reader over image
  bytes written from the format, run by the driver on every reference image and compared with the library):
  mirror = spec.  That the Go reader computes what the mirror computes is checked on every run by the
  correspondence (hooks on reference images and on synthetic inputs); that whole images read back equal to the
  host tree is the engine's oracle.
-/
import DiskfsModel.Proofs.Ext4Reader
import DiskfsModel.Model.Ext4.ReaderCfg
import DiskfsModel.Proofs.Ext4SparseRead
import DiskfsModel.Proofs.Ext4InodeLoc
import DiskfsModel.Proofs.Ext4Xattr
import DiskfsModel.Proofs.Ext4Spec
import DiskfsModel.Proofs.Ext4ReadSkipNeg
import DiskfsModel.Model.Ext4.ImageSpec
import DiskfsModel.Proofs.Ext4InodeDecode
import DiskfsModel.Proofs.Ext4DirNow
import DiskfsModel.Proofs.Ext4XattrSpec
import DiskfsModel.Proofs.Ext4FeatureGate
import DiskfsModel.Proofs.Ext4HtreeSpec
import DiskfsModel.Proofs.Ext4CsumMirror
import DiskfsModel.Proofs.Ext4InodeFull
import DiskfsModel.Proofs.Ext4InodeFrame
import DiskfsModel.Proofs.MetaInodeBytes
namespace Diskfs.Ext4.Reader.C20

/-- Flattening (extentBlockFinder.blocks: concatenate the leaves, children in order, interior
    nodes of any depth) maps every logical block exactly as a search of the tree from the root does. -/
theorem extent_tree_flatten (d : Nat) (t : TreeD d) (lo hi : Nat) (h : TreeWF d t lo hi) (lb : Nat) :
    leafLookup (mirrorBlocks d t) lb = specLookup d t lb :=
  (treeWF_flat lb d t lo hi h).2

/-- A logical block that the tree does not map reads as zeros through the flattened list
    (for every device content, block size and file size). -/
theorem hole_reads_zero (d : Nat) (t : TreeD d) (lo hi : Nat) (h : TreeWF d t lo hi)
    (dev : Dev) (bs size p : Nat) (hp : p < size) (hole : specLookup d t (p / bs) = none) :
    fileByte (leafLookup (mirrorBlocks d t)) dev bs size p = some 0 := by
  unfold fileByte
  rw [if_pos hp, extent_tree_flatten d t lo hi h, hole]

/-- …and a mapped block reads the device byte the tree search designates. -/
theorem mapped_reads_device (d : Nat) (t : TreeD d) (lo hi : Nat) (h : TreeWF d t lo hi)
    (dev : Dev) (bs size p phys : Nat) (hp : p < size) (hm : specLookup d t (p / bs) = some phys) :
    fileByte (leafLookup (mirrorBlocks d t)) dev bs size p = some (dev (phys * bs + p % bs)) := by
  unfold fileByte
  rw [if_pos hp, extent_tree_flatten d t lo hi h, hm]

/-- The rec_len walk returns exactly the entries that were encoded, in order, whatever slack
    each record carries — for names the configuration can represent (as found: < 248 bytes). -/
theorem dir_linear_roundtrip (cfg : Cfg) (es : List (DirEnt × Nat)) (fuel : Nat)
    (hwf : ∀ p ∈ es, EntWF cfg p) (hf : es.length < fuel) :
    parseEntries cfg fuel (encEntries es) = .ok (es.map Prod.fst) := by
  induction es generalizing fuel with
  | nil =>
    cases fuel with
    | zero => omega
    | succ f => simp [parseEntries, encEntries]
  | cons p rest ih =>
    cases fuel with
    | zero => simp at hf
    | succ f =>
      rw [encEntries, parseEntries_encEnt cfg p.1 p.2 _ f (hwf p (List.mem_cons_self ..)),
        ih f (fun q hq => hwf q (List.mem_cons_of_mem _ hq)) (by simp at hf; omega)]
      rfl

/-- With the repaired name bound all 255 name lengths are covered. -/
theorem dir_linear_roundtrip_fixed (es : List (DirEnt × Nat)) (fuel : Nat)
    (hwf : ∀ p ∈ es, p.1.inode < 4294967296 ∧ p.1.ftype < 256 ∧ p.1.name.length < 256 ∧
      12 ≤ p.2 ∧ 8 + p.1.name.length ≤ p.2 ∧ p.2 < 65536) (hf : es.length < fuel) :
    parseEntries Cfg.fixed fuel (encEntries es) = .ok (es.map Prod.fst) :=
  dir_linear_roundtrip Cfg.fixed es fuel (fun p hp => by simpa [EntWF, Cfg.fixed] using hwf p hp) hf

/-- As found, a 248-byte name makes the walk panic (uint8 overflow of `0x8+nameLength`). -/
theorem long_name_as_found_panics :
    parseEntries Cfg.asFound 2 (encEntries [(⟨12, 1, List.replicate 248 97⟩, 256)]) = .panic := by
  obtain ⟨_, e2, e3, _, _, _, hlen⟩ :=
    dirent_read ⟨12, 1, List.replicate 248 97⟩ 256 [] (by decide) (by decide)
      (by simp only [List.length_replicate]; decide) (by simp only [List.length_replicate]; decide) (by decide)
  have hne : (encEnt ⟨12, 1, List.replicate 248 97⟩ 256 ++ []).isEmpty = false :=
    isEmpty_of_length_pos _ (by omega)
  rw [parseEntries]
  -- record length 256 and name length 248 are read back; then `(8 + 248) % 256 = 0 < 8`
  simp only [encEntries, hne, (hasLen_iff _ _).2 (Nat.le_trans (by decide : 6 ≤ 256) hlen), e2,
    (hasLen_iff _ _).2 hlen, e3, List.length_replicate]
  decide

/-- A successful hash-tree walk returns the linear parses of the leaf blocks it reaches … -/
theorem htree_reaches_leaves (cfg : Cfg) (csum : Bool) (bs : Nat) (data : Bytes) (d : Nat)
    (blks : List Nat) (es : List DirEnt) (h : parseHashed cfg csum bs data d blks = .ok es) :
    ∃ L, leafBlocks bs data d blks = .ok L ∧ concatRes (leafAt cfg csum bs data) L = .ok es := by
  induction d generalizing blks es with
  | zero => exact ⟨blks, rfl, h⟩
  | succ d ih =>
    induction blks generalizing es with
    | nil =>
      refine ⟨[], rfl, ?_⟩
      simpa [parseHashed, concatRes_nil] using h
    | cons blk rest ihr =>
      simp only [parseHashed] at h
      obtain ⟨e1, e2, h1, h2, rfl⟩ := (concatRes_ok_cons _ blk rest es).1 h
      obtain ⟨cs, hcs, hp⟩ := (bind_ok _ _ _).1 h1
      obtain ⟨L1, hL1, hc1⟩ := ih cs e1 hp
      obtain ⟨L2, hL2, hc2⟩ := ihr e2 (by simpa [parseHashed] using h2)
      refine ⟨L1 ++ L2, ?_, concatRes_append_ok _ L1 L2 e1 e2 hc1 hc2⟩
      simp only [leafBlocks]
      refine (concatRes_ok_cons _ blk rest _).2 ⟨L1, L2, ?_, by simpa [leafBlocks] using hL2, rfl⟩
      exact (bind_ok _ _ _).2 ⟨cs, hcs, hL1⟩

/-- … so if the tree references every leaf block of the directory exactly once (`L ~ leaves`), the
    entries reached through the hash tree are the entries of the leaf blocks read linearly. -/
theorem htree_equals_linear (cfg : Cfg) (csum : Bool) (bs : Nat) (data : Bytes) (d : Nat)
    (blks leaves : List Nat) (es es' : List DirEnt)
    (h : parseHashed cfg csum bs data d blks = .ok es)
    (hlin : concatRes (leafAt cfg csum bs data) leaves = .ok es')
    (hperm : ∀ L, leafBlocks bs data d blks = .ok L → L.Perm leaves) :
    es.Perm es' := by
  obtain ⟨L, hL, hc⟩ := htree_reaches_leaves cfg csum bs data d blks es h
  exact concatRes_perm _ L leaves es es' hc hlin (hperm L hL)

/-- 64-bit on-disk numbers (block counts, inode-table locations, file sizes) are the composition of
    their 32-bit halves: composing the halves of `n` gives back `n`. -/
theorem halves_compose32 (n : Nat) (h : n < 18446744073709551616) :
    n % 4294967296 < 4294967296 ∧ n / 4294967296 < 4294967296 ∧
    compose32 (n % 4294967296) (n / 4294967296) = n := by
  unfold compose32; omega

/-- the same for 32-bit numbers stored as 16-bit halves (uid, gid, the counters of a group descriptor) -/
theorem halves_compose16 (n : Nat) (h : n < 4294967296) :
    n % 65536 < 65536 ∧ n / 65536 < 65536 ∧ compose16 (n % 65536) (n / 65536) = n := by
  unfold compose16; omega

/-- the halves are recovered from the composition (so distinct values have distinct encodings) -/
theorem halves_unique32 (lo hi : Nat) (hlo : lo < 4294967296) :
    compose32 lo hi % 4294967296 = lo ∧ compose32 lo hi / 4294967296 = hi := by
  unfold compose32; omega

/-- Feature gate, repaired position: an image without extents or with inline_data is refused. -/
theorem unsupported_rejected (cfg : Cfg) (hx : cfg.gateRequiresExtents = true)
    (hi : cfg.gateRefusesInlineData = true) (incompat : Nat)
    (h : hasBit incompat incompatExtents = false ∨ hasBit incompat incompatInlineData = true) :
    gateAccepts cfg incompat = false := by
  unfold gateAccepts
  rcases h with h | h <;> simp [hx, hi, h]

/-- The gate refuses nothing else: an image with extents and without inline_data is accepted. -/
theorem supported_accepted (cfg : Cfg) (incompat : Nat)
    (h1 : hasBit incompat incompatExtents = true) (h2 : hasBit incompat incompatInlineData = false) :
    gateAccepts cfg incompat = true := by
  unfold gateAccepts; simp [h1, h2]

/-- As found there is no gate: an inline_data image without extents is accepted. -/
theorem as_found_accepts_unsupported : gateAccepts Cfg.asFound incompatInlineData = true := by decide

/-- the superblock decoder refuses a wrong signature or checksum type whatever else the bytes say -/
theorem sb_refuses_bad_signature (csumOk : Bool) (b : Bytes) (h : le16 b 0x38 ≠ 0xef53) :
    sbDecode csumOk b = none := by
  unfold sbDecode; simp [h]

/-- superblockFromBytes: the block count is the low word alone, and both halves with the 64bit feature -/
theorem sb_blocks_composed (csumOk : Bool) (b : Bytes) (i : SbInfo) (h : sbDecode csumOk b = some i) :
    i.blocks = (if hasBit (le32 b 0x60) incompat64Bit then compose32 (le32 b 0x4) (le32 b 0x150) else le32 b 0x4) := by
  unfold sbDecode at h
  simp only [Option.ite_none_left_eq_some, Option.some.injEq] at h
  rw [← h.2.2.2]

/-- 128-byte inodes: accepted exactly when the minimum length is the classic inode size -/
theorem inode128_accepted_iff (cfg : Cfg) : inodeLenAccepted cfg 128 = true ↔ cfg.inodeMinLen ≤ 128 := by
  simp [inodeLenAccepted]

/-- as found the minimum was 160 bytes: inodeFromBytes refused every inode of a volume with 128-byte inodes -/
theorem inode128_as_found_refused : inodeLenAccepted Cfg.asFound 128 = false := by decide

/-! ### facts regenerated from /repo -/
open Diskfs.Generated

/-- constants the mirror repeats are the ones in superblock.go / extent.go / xattr.go -/
theorem facts_agree_constants :
    Ext4Ref.incompatFeatureExtents = incompatExtents ∧ Ext4Ref.incompatFeature64Bit = incompat64Bit ∧
    Ext4Ref.incompatFeatureDataInInode = incompatInlineData ∧
    Ext4Ref.roCompatFeatureMetadataChecksums = roCompatMetadataCsum ∧
    Ext4Ref.superblockSignature = 0xef53 ∧ Ext4Ref.extentHeaderSignature = 0xf30a ∧
    Ext4Ref.xattrHeaderSize = 32 ∧ Ext4Ref.xattrEntrySize = 16 ∧ Ext4Ref.checkSumTypeCRC32c = 1 := by
  decide

/-- the prefix table is well formed: one string per index, indices distinct (so lookup is a function) -/
theorem facts_agree_xattr_table :
    Ext4Ref.xattrPrefixIdx.length = Ext4Ref.xattrPrefixStr.length ∧ Ext4Ref.xattrPrefixIdx.Nodup ∧
    Ext4Ref.xattrPrefixIdx ≠ [] := by
  decide

/-- of the configuration the driver runs (regenerated from the source): the minimum inode length is one of the two
    sizes the theorems speak about, and the two gate switches stand alike; the two Boolean switches of the parsers
    are not constrained here -/
theorem facts_agree_cfg :
    (Cfg.current.inodeMinLen = 160 ∨ Cfg.current.inodeMinLen = 128) ∧
    Cfg.current.gateRequiresExtents = Cfg.current.gateRefusesInlineData := by
  decide

/-- File.Read, groupDescriptorFromBytes and readInodeRaw still have the shape that is mirrored:
    skip test `<=`, holes cleared in two places, high halves read exactly for 64-byte descriptors,
    group by division and slot by remainder of (n-1), slot offset computed in 32 bits -/
theorem facts_agree_read_addressing :
    Ext4Ref.readSkipLe = true ∧ Ext4Ref.readClears = 2 ∧ Ext4Ref.gdWideSize = 64 ∧
    Ext4Ref.inodeGroupByDiv = true ∧ Ext4Ref.inodeSlotByMod = true ∧ Ext4Ref.inodeSlotOffsetWidth = 32 := by
  decide

/-! non-vacuity -/
def exLeafA : TreeD 0 := ([⟨0, 100, 2⟩, ⟨4, 200, 1⟩] : List Extent)
def exLeafB : TreeD 0 := ([⟨8, 300, 4⟩] : List Extent)
def exMid : TreeD 1 := (Sum.inr [(0, exLeafA), (8, exLeafB)] : List Extent ⊕ List (Nat × TreeD 0))
def exMid2 : TreeD 1 := (Sum.inl [⟨20, 900, 3⟩] : List Extent ⊕ List (Nat × TreeD 0))
def exTree : TreeD 2 := (Sum.inr [(0, exMid), (20, exMid2)] : List Extent ⊕ List (Nat × TreeD 1))
example : TreeWF 2 exTree 0 40 := by
  simp [exTree, exMid, exMid2, exLeafA, exLeafB, TreeWF, childrenWF, extsIn]
example : specLookup 2 exTree 9 = some 301 := by decide
example : specLookup 2 exTree 3 = none := by decide
example : mirrorBlocks 2 exTree = [⟨0, 100, 2⟩, ⟨4, 200, 1⟩, ⟨8, 300, 4⟩, ⟨20, 900, 3⟩] := by decide
example : EntWF Cfg.asFound (⟨12, 1, [97, 98]⟩, 12) := by simp [EntWF, Cfg.asFound]
example : parseEntries Cfg.asFound 3 (encEntries [(⟨12, 1, [97, 98]⟩, 12), (⟨0, 0, []⟩, 20)]) =
    .ok [⟨12, 1, [97, 98]⟩, ⟨0, 0, []⟩] := by decide

/-! ### File.Read over a flat extent list with holes (file.go as it is now) -/

/-- read_sparse_spec: for every device content, block size, SORTED NON-OVERLAPPING extent list
    (holes allowed in front, between and behind extents), file size, handle offset and buffer length,
    File.Read returns exactly the bytes of the logical file at the offset — the device byte of a
    mapped block, zero in a hole — clipped to the file size; it advances the offset by that many
    bytes, reports io.EOF exactly when the offset reaches the size, and neither panics nor fails. -/
theorem read_sparse_spec (dev : Dev) (devSize bs : Nat) (es : List Extent) (size off n : Nat)
    (hbs : 0 < bs) (hs : SortedExts es) (hd : ExtsOnDev bs devSize es) :
    ∃ r, sparseRead dev devSize bs es size off n = .ok r ∧
      r.data = window (logicalByte dev bs es) off (min n (size - off)) ∧
      r.off = off + r.data.length ∧ (r.eof = true ↔ size ≤ r.off) := by
  unfold sparseRead
  by_cases hge : off ≥ size
  · rw [if_pos hge]
    refine ⟨_, rfl, ?_, by simp, by simp; omega⟩
    have : min n (size - off) = 0 := by omega
    simp [this, window_zero]
  · rw [if_neg hge]
    simp only []
    generalize hw : (if off + n > size then size - off else n) = want
    have hwant : want = min n (size - off) := by rw [← hw]; split <;> omega
    obtain ⟨st, hst, ⟨hoff, hgot, hlen⟩, hrest⟩ :=
      sparseLoop_spec dev devSize bs off want hbs (logicalByte dev bs es) es ⟨off, [], []⟩ hs hd (fun _ _ => rfl)
        (fun e _ hns => (Nat.div_lt_iff_lt_mul hbs).1 (Nat.lt_of_not_le hns))
        ⟨by simp, by simp [window_zero], by simp⟩
    rw [hst]
    simp only []
    by_cases hpad : st.got.length < want
    · rw [if_pos hpad]
      have hdata : st.got ++ zeros (want - st.got.length) = window (logicalByte dev bs es) off want := by
        have hsplit := window_add (logicalByte dev bs es) off st.got.length (want - st.got.length)
        rw [show st.got.length + (want - st.got.length) = want by omega] at hsplit
        rw [hsplit, ← hgot, ← hoff]
        exact congrArg _ (readAt_zeros fun i _ => hrest hpad _ (Nat.le_add_right ..)).symm
      refine ⟨_, rfl, ?_, ?_, ?_⟩
      · simp only; rw [hdata, hwant]
      · simp only [List.length_append, zeros_length]; omega
      · simp only [decide_eq_true_eq]
    · rw [if_neg hpad]
      have : st.got.length = want := by omega
      refine ⟨_, rfl, ?_, ?_, ?_⟩
      · simp only; rw [hgot, this, hwant]
      · simp only; exact hoff
      · simp only [decide_eq_true_eq]

/-- File.Read never panics and never fails on such a list -/
theorem read_sparse_no_panic (dev : Dev) (devSize bs : Nat) (es : List Extent) (size off n : Nat)
    (hbs : 0 < bs) (hs : SortedExts es) (hd : ExtsOnDev bs devSize es) :
    (∀ o, sparseRead dev devSize bs es size off n ≠ .panic o) ∧
    ∀ k o, sparseRead dev devSize bs es size off n ≠ .ioerr k o := by
  obtain ⟨r, hr, _⟩ := read_sparse_spec dev devSize bs es size off n hbs hs hd
  rw [hr]
  exact ⟨fun _ h => (by cases h), fun _ _ h => (by cases h)⟩

/-- any sequence of Read calls on one handle (buffers of any lengths, zero included) returns, joined
    together, the logical file from the starting offset on, clipped to the file size -/
theorem read_sparse_seq (dev : Dev) (devSize bs : Nat) (es : List Extent) (size : Nat)
    (hbs : 0 < bs) (hs : SortedExts es) (hd : ExtsOnDev bs devSize es) :
    ∀ (ns : List Nat) (off : Nat), readSeq dev devSize bs es size ns off =
      some (window (logicalByte dev bs es) off (min ns.sum (size - off)), off + min ns.sum (size - off)) := by
  intro ns
  induction ns with
  | nil => intro off; simp [readSeq, window_zero]
  | cons n ns ih =>
    intro off
    obtain ⟨r, hr, hdata, hoff, _⟩ := read_sparse_spec dev devSize bs es size off n hbs hs hd
    have hlen : r.data.length = min n (size - off) := by rw [hdata]; simp
    rw [readSeq, hr]
    simp only []
    rw [ih r.off]
    simp only [Option.some.injEq, Prod.mk.injEq, List.sum_cons]
    rw [hoff, hlen, hdata]
    exact ⟨by rw [min_add_clip, Nat.sub_add_eq, window_add], by rw [min_add_clip, Nat.sub_add_eq, Nat.add_assoc]⟩

/-- a caller that reads with a non-empty buffer until io.EOF (io.ReadAll, io.Copy, fs.ReadFile)
    terminates with exactly the logical file from its offset to the end — from offset 0 the whole
    file, every hole as zeros -/
theorem read_sparse_until_eof (dev : Dev) (devSize bs : Nat) (es : List Extent) (size chunk : Nat)
    (hbs : 0 < bs) (hc : 0 < chunk) (hs : SortedExts es) (hd : ExtsOnDev bs devSize es) :
    ∀ (fuel off : Nat) (acc : Bytes), size - off < fuel →
      readUntilEof dev devSize bs es size chunk fuel off acc =
        some (acc ++ window (logicalByte dev bs es) off (size - off)) := by
  intro fuel
  induction fuel with
  | zero => intro off acc h; omega
  | succ f ih =>
    intro off acc hf
    obtain ⟨r, hr, hdata, hoff, heof⟩ := read_sparse_spec dev devSize bs es size off chunk hbs hs hd
    have hro : r.off = off + min chunk (size - off) := by rw [hoff, hdata, window_length]
    obtain ⟨k1, k2⟩ := clip_step size off chunk hc
    rw [readUntilEof, hr]
    simp only []
    by_cases he : r.eof = true
    · rw [if_pos he, hdata, k1 (hro ▸ heof.1 he)]
    · rw [if_neg he]
      obtain ⟨hlt, hk⟩ := k2 fun h => he (heof.2 (hro ▸ h))
      rw [ih r.off (acc ++ r.data) (by rw [hro]; omega), hk, window_add, hdata, hro, List.append_assoc]

/-- the logical file is the one `hole_reads_zero` / `mapped_reads_device` speak about -/
theorem logicalByte_fileByte (dev : Dev) (bs size : Nat) (es : List Extent) (p : Nat) (hp : p < size) :
    fileByte (leafLookup es) dev bs size p = some (logicalByte dev bs es p) := by
  unfold fileByte logicalByte
  rw [if_pos hp]
  cases leafLookup es (p / bs) <;> rfl

/-- Read through a whole extent TREE: when the flattened list of a well-formed tree of any depth is
    sorted, byte `i` of what Read returns is the device byte of the block a search of the tree from
    the root designates for position `off+i`, or zero when the tree maps nothing there. -/
theorem read_tree_spec (d : Nat) (t : TreeD d) (lo hi : Nat) (h : TreeWF d t lo hi)
    (dev : Dev) (devSize bs size off n : Nat) (hbs : 0 < bs)
    (hs : SortedExts (mirrorBlocks d t)) (hd : ExtsOnDev bs devSize (mirrorBlocks d t)) :
    ∃ r, sparseRead dev devSize bs (mirrorBlocks d t) size off n = .ok r ∧
      r.data.length = min n (size - off) ∧
      ∀ i, i < r.data.length → r.data.getD i 0 =
        (match specLookup d t ((off + i) / bs) with
         | some phys => dev (phys * bs + (off + i) % bs)
         | none => 0) := by
  obtain ⟨r, hr, hdata, _, _⟩ := read_sparse_spec dev devSize bs (mirrorBlocks d t) size off n hbs hs hd
  refine ⟨r, hr, by rw [hdata]; simp, ?_⟩
  intro i hlt
  rw [hdata] at hlt ⊢
  rw [window_length] at hlt
  rw [window_getD _ _ _ _ hlt]
  unfold logicalByte
  rw [extent_tree_flatten d t lo hi h]
  cases specLookup d t ((off + i) / bs) <;> rfl

/-- File.Read as the tree has it, with or without the guard `if leftInExtent < 0 { continue }` (the repair of
    finding ext4-read-extent-out-of-order; which one the driver runs is regenerated from file.go:
    Ext4Ref.readSkipsExtentBefore): on every sorted non-overlapping extent list the guarded loop returns exactly
    what the loop without the guard returns — the branch is never reached — so read_sparse_spec, read_sparse_seq,
    read_sparse_until_eof and read_tree_spec hold for the guarded File.Read as well -/
theorem read_sparse_guard_unreached (skip : Bool) (dev : Dev) (devSize bs : Nat) (es : List Extent)
    (size off n : Nat) (hbs : 0 < bs) (hs : SortedExts es) (hd : ExtsOnDev bs devSize es) :
    sparseReadC skip dev devSize bs es size off n = sparseRead dev devSize bs es size off n :=
  sparseReadC_eq skip dev devSize bs es size off n (read_sparse_no_panic dev devSize bs es size off n hbs hs hd).1

/-- on an out-of-order list the two differ: without the guard a negative length reaches `make` (panic), with
    it the extent that lies before the offset is passed over and the rest of the request reads as a hole -/
theorem cex_read_out_of_order :
    sparseReadC false (fun _ => 7) 1000 4 [⟨2, 20, 2⟩, ⟨0, 10, 1⟩] 20 0 20 = .panic 16 ∧
    sparseReadC true (fun _ => 7) 1000 4 [⟨2, 20, 2⟩, ⟨0, 10, 1⟩] 20 0 20 =
      .ok ⟨[0, 0, 0, 0, 0, 0, 0, 0, 7, 7, 7, 7, 7, 7, 7, 7, 0, 0, 0, 0], 20, true, [(80, 8)]⟩ := by
  decide

/-- repaired behaviour: whatever `inode.extents.blocks` hands to File.Read, readFileBytes or Remove
    contains no unwritten extent — a file that has one is refused with an error -/
theorem unwritten_refused (rd : Nat → Option Bytes) (fuel : Nat) (root : Bytes) (es : List Extent)
    (h : flattenC true rd fuel root = .ok es) : ∀ e ∈ es, e.count ≤ 32768 := by
  unfold flattenC at h
  split at h
  · rename_i es' _
    split at h
    · cases h
    · rename_i hany
      simp only [Res.ok.injEq] at h
      subst h
      intro e he
      simp only [Bool.true_and, Bool.not_eq_true, List.any_eq_false] at hany
      have := hany e he
      simpa [Extent.unwritten] using this
  · cases h
  · cases h
  · cases h

/-- as found: an extent of 8 unwritten blocks (length field 32768+8) behind two data blocks is mapped as
    data — Read returns the device bytes of the reserved blocks (here 7) where the file reads as zeros -/
theorem cex_unwritten_read_as_data :
    flattenC false (fun _ => none) 1 (leEnc 2 0xf30a ++ leEnc 2 2 ++ leEnc 2 4 ++ leEnc 2 0 ++ leEnc 4 0 ++
        (leEnc 4 0 ++ leEnc 2 2 ++ leEnc 2 0 ++ leEnc 4 10) ++ (leEnc 4 2 ++ leEnc 2 32776 ++ leEnc 2 0 ++ leEnc 4 20) ++
        zeros 24) = .ok [⟨0, 10, 2⟩, ⟨2, 20, 32776⟩] ∧
    sparseRead (fun _ => 7) 1000 4 [⟨0, 10, 2⟩, ⟨2, 20, 32776⟩] 16 8 4 = .ok ⟨[7, 7, 7, 7], 12, false, [(80, 4)]⟩ ∧
    flattenC true (fun _ => none) 1 (leEnc 2 0xf30a ++ leEnc 2 2 ++ leEnc 2 4 ++ leEnc 2 0 ++ leEnc 4 0 ++
        (leEnc 4 0 ++ leEnc 2 2 ++ leEnc 2 0 ++ leEnc 4 10) ++ (leEnc 4 2 ++ leEnc 2 32776 ++ leEnc 2 0 ++ leEnc 4 20) ++
        zeros 24) = .err := by
  decide

/-- where the switch the driver passes to `flattenC` comes from: `refuseUnwrittenCurrent` is by definition the fact
    regenerated from extent.go (the statement is `rfl` and constrains no value) -/
theorem facts_agree_unwritten : refuseUnwrittenCurrent = Ext4Ref.extentRefusesUnwritten := rfl

/-! non-vacuity: a file with a leading hole, a hole between extents and a trailing hole -/
def exSparse : List Extent := [⟨2, 10, 1⟩, ⟨5, 20, 2⟩]
example : SortedExts exSparse := by simp [exSparse, SortedExts]
example : ExtsOnDev 4 100 exSparse := by simp [exSparse, ExtsOnDev]
example : sparseRead (fun i => UInt8.ofNat i) 100 4 exSparse 34 6 30 =
    .ok ⟨[0, 0, 40, 41, 42, 43, 0, 0, 0, 0, 0, 0, 0, 0, 80, 81, 82, 83, 84, 85, 86, 87, 0, 0, 0, 0, 0, 0],
      34, true, [(40, 4), (80, 8)]⟩ := by decide
example : readUntilEof (fun i => UInt8.ofNat i) 100 4 exSparse 13 5 4 0 [] =
    some [0, 0, 0, 0, 0, 0, 0, 0, 40, 41, 42, 43, 0] := by decide

/-! ### group descriptors and inode addressing (groupdescriptors.go, ext4.go readInodeRaw) -/

/-- a 64-byte descriptor: every field is recovered from its low half in the first 32 bytes and its
    high half behind them (block numbers to 64 bits, counters and bitmap checksums to 32 bits),
    whatever the checksum and reserved words hold and whatever follows the descriptor -/
theorem gd_decode_wide (v : GdInfo) (csum rsv : Nat) (tail : Bytes) (h : GdWF64 v) :
    gdDecode (gdEncode v csum rsv ++ tail) 64 = v := by
  have H := gdEncode_words v csum rsv tail
  simp only [HoldsAt, gdFields, Nat.reduceAdd, Nat.reducePow] at H
  obtain ⟨h1, h2, h3, h4, h5, h6, h7, h8, h9, h10, h11⟩ := h
  simp only [gdDecode, le16, le32, Nat.reduceAdd, H, beq_self_eq_true, if_true, compose32_halves _ h1,
    compose32_halves _ h2, compose32_halves _ h3, compose32_halves _ h4, compose16_halves _ h5,
    compose16_halves _ h6, compose16_halves _ h7, compose16_halves _ h8, compose16_halves _ h9,
    compose16_halves _ h10, Nat.mod_eq_of_lt h11]

/-- any other descriptor size (32 without the 64bit feature): the reader takes the low halves only,
    the bytes behind the first 32 play no role -/
theorem gd_decode_narrow (v : GdInfo) (csum rsv : Nat) (tail : Bytes) (gdSize : Nat) (hg : gdSize ≠ 64) :
    gdDecode (gdEncode v csum rsv ++ tail) gdSize = gdLow v := by
  have H := gdEncode_words v csum rsv tail
  simp only [HoldsAt, gdFields, Nat.reduceAdd, Nat.reducePow] at H
  have hb : (gdSize == 64) = false := by simpa using hg
  simp only [gdDecode, gdLow, le16, le32, Nat.reduceAdd, H, hb, Bool.false_eq_true, if_false, compose32, compose16,
    Nat.zero_mul, Nat.add_zero]

/-- groupDescriptorsFromBytes over a table of 64-byte descriptors returns every descriptor's values -/
theorem gdt_decode_roundtrip (vs : List (GdInfo × Nat × Nat)) (h : ∀ p ∈ vs, GdWF64 p.1) :
    gdtDecode (gdtEncode vs) 64 = some (vs.map (·.1)) := by
  unfold gdtDecode
  rw [if_neg (by decide), gdtEncode_length, Nat.mul_div_cancel_left _ (by decide : 0 < 64)]
  congr 1
  apply List.ext_getElem
  · simp
  · intro i h1 h2
    simp only [List.length_map, List.length_range] at h1
    simp only [List.getElem_map, List.getElem_range]
    rw [gdtEncode_slice vs i h1]
    have := gd_decode_wide vs[i].1 vs[i].2.1 vs[i].2.2 [] (h _ (List.getElem_mem h1))
    rw [List.append_nil] at this
    exact this

/-- readInodeRaw: a valid inode number n (1 ≤ n ≤ groups × inodesPerGroup) is read from
    table(group) × blockSize + index × inodeSize with group = (n−1) / inodesPerGroup and
    index = (n−1) mod inodesPerGroup — inside the table of its own group -/
theorem inode_location (g : InoGeo) (tables : List Nat) (h : TablesWF g tables) (n : Nat)
    (h1 : 1 ≤ n) (h2 : n ≤ tables.length * g.inodesPerGroup) :
    inodeLoc g tables n = some (tables.getD ((n - 1) / g.inodesPerGroup) 0 * g.blockSize +
      (n - 1) % g.inodesPerGroup * g.inodeSize, g.inodeSize) ∧
    (n - 1) % g.inodesPerGroup * g.inodeSize + g.inodeSize ≤ g.inodesPerGroup * g.inodeSize :=
  (inodeLoc_valid g tables h n h1 h2).2

/-- distinct inode numbers are read from disjoint byte ranges of the inode tables -/
theorem inode_ranges_disjoint (g : InoGeo) (tables : List Nat) (h : TablesWF g tables) (n m : Nat)
    (hn1 : 1 ≤ n) (hn2 : n ≤ tables.length * g.inodesPerGroup)
    (hm1 : 1 ≤ m) (hm2 : m ≤ tables.length * g.inodesPerGroup) (hne : n ≠ m) :
    ∃ on om, inodeLoc g tables n = some (on, g.inodeSize) ∧ inodeLoc g tables m = some (om, g.inodeSize) ∧
      (on + g.inodeSize ≤ om ∨ om + g.inodeSize ≤ on) := by
  obtain ⟨hbn, hln, hin⟩ := inodeLoc_valid g tables h n hn1 hn2
  obtain ⟨hbm, hlm, him⟩ := inodeLoc_valid g tables h m hm1 hm2
  refine ⟨_, _, hln, hlm, ?_⟩
  obtain ⟨hipg, hisz, _, _, hdis⟩ := h
  have dn := Nat.div_add_mod (n - 1) g.inodesPerGroup
  have dm := Nat.div_add_mod (m - 1) g.inodesPerGroup
  by_cases hg : (n - 1) / g.inodesPerGroup = (m - 1) / g.inodesPerGroup
  · -- same group: different slots of one table
    rw [hg] at dn ⊢
    have hidx : (n - 1) % g.inodesPerGroup ≠ (m - 1) % g.inodesPerGroup := by omega
    rcases Nat.lt_or_gt_of_ne hidx with hlt | hlt
    · have := slot_end_le _ _ g.inodeSize hlt
      omega
    · have := slot_end_le _ _ g.inodeSize hlt
      omega
  · -- different groups: inside disjoint tables
    rcases Nat.lt_or_gt_of_ne hg with hlt | hlt
    · rcases hdis _ _ hlt hbm with hd | hd <;> omega
    · rcases hdis _ _ hlt hbn with hd | hd <;> omega

/-- inode 0 and numbers beyond the last group are refused (no read is issued) -/
theorem inode_number_refused (g : InoGeo) (tables : List Nat) (n : Nat)
    (h : n = 0 ∨ g.inodesPerGroup = 0 ∨ tables.length * g.inodesPerGroup < n) : inodeLoc g tables n = none := by
  unfold inodeLoc
  by_cases h0 : n = 0 ∨ g.inodesPerGroup = 0
  · rw [if_pos h0]
  · rw [if_neg h0]
    simp only []
    have hipg : 0 < g.inodesPerGroup := by omega
    have : (n - 1) / g.inodesPerGroup ≥ tables.length := by
      rw [ge_iff_le, Nat.le_div_iff_mul_le hipg]; omega
    rw [if_pos this]

/-- from the raw descriptor table to the device read: with 64-byte descriptors holding the values
    `vs`, inode n is read at (inode table of its group, both halves) × blockSize + index × inodeSize -/
theorem inode_raw_from_gdt (g : InoGeo) (vs : List (GdInfo × Nat × Nat)) (hw : ∀ p ∈ vs, GdWF64 p.1)
    (h : TablesWF g (vs.map (·.1.inodeTable))) (devSize n : Nat)
    (h1 : 1 ≤ n) (h2 : n ≤ vs.length * g.inodesPerGroup)
    (hdev : ∀ p ∈ vs, p.1.inodeTable * g.blockSize + g.inodesPerGroup * g.inodeSize ≤ devSize) :
    inodeRawLoc g (gdtEncode vs) 64 devSize n =
      some (((vs.map (·.1.inodeTable)).getD ((n - 1) / g.inodesPerGroup) 0) * g.blockSize +
        (n - 1) % g.inodesPerGroup * g.inodeSize, g.inodeSize) := by
  have hl : (vs.map (·.1.inodeTable)).length = vs.length := by simp
  obtain ⟨hbg, hloc, hin⟩ := inodeLoc_valid g _ h n h1 (by rw [hl]; exact h2)
  unfold inodeRawLoc
  rw [gdt_decode_roundtrip vs hw]
  simp only [List.map_map]
  have hm : (List.map ((fun x => x.inodeTable) ∘ fun x => x.1) vs) = vs.map (·.1.inodeTable) := rfl
  rw [hm, hloc]
  simp only []
  rw [hl] at hbg
  have hmem : vs[(n - 1) / g.inodesPerGroup] ∈ vs := List.getElem_mem hbg
  have hd := hdev _ hmem
  have hget : (vs.map (·.1.inodeTable)).getD ((n - 1) / g.inodesPerGroup) 0 =
      vs[(n - 1) / g.inodesPerGroup].1.inodeTable := by
    simp [List.getD_eq_getElem?_getD, hbg]
  rw [hget]
  have hisz : 0 < g.inodeSize := h.2.1
  rw [if_neg (by omega)]

/-! ### extended attribute entries (xattr.go parseXattrEntries) -/

/-- xattr_parse_roundtrip: parsing an encoded entry table — at any 4-aligned position `pre.length` of
    the entries buffer, followed by a terminator or by fewer than 16 bytes — returns exactly what the
    entries say, in order: full name = prefix of the index ++ name, value = the `size` bytes at `offs`
    of the value buffer (a later entry with the same name replaces the earlier one; an empty value is
    kept when the configuration keeps empty values).  No error, no panic, for every fuel above the
    entry count. -/
theorem xattr_parse_roundtrip (cfg : Cfg) (tbl : List (Nat × String)) (values : Bytes)
    (xs : List XEnt) (pre tail : Bytes) (acc : List (Bytes × Bytes)) (fuel : Nat)
    (hal : pre.length % 4 = 0) (hwf : ∀ x ∈ xs, XWF values x) (hf : xs.length < fuel) (ht : TermOK tail) :
    parseXattrs cfg tbl (pre ++ encXTable xs ++ tail) values fuel pre.length acc =
      .ok (xs.foldl (xaStep cfg tbl values) acc) := by
  induction xs generalizing pre acc fuel with
  | nil =>
    cases fuel with
    | zero => simp at hf
    | succ f =>
      simp only [encXTable, List.append_nil, List.foldl_nil]
      rw [parseXattrs]
      by_cases h16 : pre.length + 16 > (pre ++ tail).length
      · rw [if_pos h16]
      · rw [if_neg h16]
        simp only [List.length_append] at h16
        rcases ht with ht | ⟨h0, h1⟩
        · omega
        · have e0 : u8 (pre ++ tail) pre.length = 0 := by
            have := u8_shift pre tail 0; rw [Nat.add_zero] at this; rw [this, h0]
          have e1 : u8 (pre ++ tail) (pre.length + 1) = 0 := by rw [u8_shift, h1]
          simp only [e0, e1, and_self, if_true]
  | cons x rest ih =>
    cases fuel with
    | zero => simp at hf
    | succ f =>
      obtain ⟨hnl, hidx, hnz, hoffs, hsize, hval⟩ := hwf x (List.mem_cons_self ..)
      obtain ⟨e0, e1, e2, e3, e4, e5, hin, hnext, hal2, hbuf⟩ := xent_read x rest pre tail hnl hidx hoffs hsize hal
      rw [parseXattrs, if_neg (by omega)]
      simp only [e0, e1, e2, e3, e4, e5]
      rw [if_neg hnz, if_neg (by omega), if_neg (by simp),
        if_neg (by intro ⟨h1, h2⟩; have := hval h1; omega), hnext, hbuf,
        ih (pre ++ encXEnt x) _ f hal2 (fun y hy => hwf y (List.mem_cons_of_mem _ hy)) (by simp at hf; omega)]
      simp only [List.foldl_cons, xaStep]

/-- in-inode variant (readIbodyXattrs: parseXattrEntries(data, data)): value offsets count from the
    first entry, entries and values share one buffer -/
theorem xattr_ibody_roundtrip (cfg : Cfg) (tbl : List (Nat × String)) (xs : List XEnt) (tail : Bytes)
    (hwf : ∀ x ∈ xs, XWF (encXTable xs ++ tail) x) (ht : TermOK tail) :
    parseXattrs cfg tbl (encXTable xs ++ tail) (encXTable xs ++ tail) (xs.length + 1) 0 [] =
      .ok (xs.foldl (xaStep cfg tbl (encXTable xs ++ tail)) []) := by
  simpa using xattr_parse_roundtrip cfg tbl (encXTable xs ++ tail) xs [] tail [] (xs.length + 1) rfl hwf (by omega) ht

/-- block variant (readBlockXattrs: parseXattrEntries(block[32:], block)): value offsets count from the
    start of the block, i.e. from 32 bytes before the first entry -/
theorem xattr_block_roundtrip (cfg : Cfg) (tbl : List (Nat × String)) (xs : List XEnt) (hdr tail : Bytes)
    (hwf : ∀ x ∈ xs, XWF (hdr ++ (encXTable xs ++ tail)) x) (ht : TermOK tail) :
    parseXattrs cfg tbl (encXTable xs ++ tail) (hdr ++ (encXTable xs ++ tail)) (xs.length + 1) 0 [] =
      .ok (xs.foldl (xaStep cfg tbl (hdr ++ (encXTable xs ++ tail))) []) := by
  simpa using
    xattr_parse_roundtrip cfg tbl (hdr ++ (encXTable xs ++ tail)) xs [] tail [] (xs.length + 1) rfl hwf (by omega) ht

/-- with pairwise distinct full names (and empty values kept, the repaired position of the switch)
    the result lists every attribute exactly once, in table order -/
theorem xattr_distinct_all_listed (cfg : Cfg) (hk : cfg.xattrKeepEmpty = true) (tbl : List (Nat × String))
    (values : Bytes) (xs : List XEnt)
    (hd : (xs.map fun x => xattrPrefix tbl x.idx ++ x.name).Nodup) :
    xs.foldl (xaStep cfg tbl values) [] =
      xs.map fun x => (xattrPrefix tbl x.idx ++ x.name, if x.size > 0 then slice values x.offs (x.offs + x.size) else []) := by
  simpa using xaStep_foldl_distinct cfg hk tbl values xs [] hd (by simp)

/-! non-vacuity -/
def exGeo : InoGeo := ⟨1024, 256, 8⟩
example : TablesWF exGeo [10, 40] := by
  refine ⟨by decide, by decide, by decide, ?_, ?_⟩
  · intro i hi
    have : i = 0 ∨ i = 1 := by simp at hi; omega
    rcases this with rfl | rfl <;> decide
  · intro i j hij hj
    have : i = 0 ∧ j = 1 := by simp at hj; omega
    obtain ⟨rfl, rfl⟩ := this
    decide
example : inodeLoc exGeo [10, 40] 9 = some (40960, 256) := by decide
example : inodeLoc exGeo [10, 40] 17 = none := by decide
def exX : XEnt := ⟨1, [102, 111, 111], 40, 3, 0⟩
def exXbuf : Bytes := encXTable [exX] ++ zeros 44
example : XWF exXbuf exX := by simp [XWF, exX, exXbuf, encXTable, encXEnt_length, xPad]
example : TermOK (zeros 44) := Or.inr ⟨by decide, by decide⟩

/-! ### the SPEC reader: mirror = spec, addressing under the validity checks of ext4.Read -/
open Diskfs.Ext4.Spec

/-- the one-pass node decoder the SPEC reader executes is the mirror of parseExtents (header, entry count
    against the block length, 12-byte leaf / index entries with 48-bit block numbers), for all bytes -/
theorem spec_node_decoder (b : Bytes) : seqNode b = parseNode b  := by
  unfold seqNode parseNode
  have hm : leDec ((b.take 12).take 2) = le16 b 0 := by
    unfold le16 slice; rw [List.take_take]; simp
  have he : leDec (((b.take 12).drop 2).take 2) = le16 b 2 := by
    unfold le16 slice; rw [take_drop_take _ _ _ _ (by omega)]
  have hd : leDec (((b.take 12).drop 6).take 2) = le16 b 6 := by
    unfold le16 slice; rw [take_drop_take _ _ _ _ (by omega)]
  simp only [hm, he, hd]
  have hl := chunkMap_eq leafOfChunk (leafEntry b) b (leafOfChunk_eq b) (le16 b 2) 0
  have hi := chunkMap_eq indexOfChunk (indexEntry b) b (indexOfChunk_eq b) (le16 b 2) 0
  simp only [Nat.mul_zero, Nat.add_zero, Nat.zero_add] at hl hi
  rw [hl, hi]

/-- SEARCHING the tree from the root for one logical block (one child per level, the kernel's way, what
    the SPEC reader does on the image) finds what a lookup in the fully decoded tree finds — for every
    depth, every block reader, every leaf interpretation -/
theorem spec_tree_search {α : Type} (look : List Extent → Nat → α) (rd : Nat → Option Bytes) (d : Nat)
    (b : Bytes) (t : TreeD d) (lb : Nat) (h : decodeTree rd d b = .ok t) :
    treeSearchG look rd d b lb = .ok (specG look d t lb) := by
  induction d generalizing b lb with
  | zero =>
    simp only [decodeTree] at h
    simp only [treeSearchG, spec_node_decoder]
    split at h <;> cases h
    rename_i hp
    rw [hp]
    rfl
  | succ d ih =>
    simp only [decodeTree] at h
    simp only [treeSearchG, spec_node_decoder]
    split at h <;> try cases h
    · rename_i hp
      rw [hp]
      rfl
    · rename_i cs hp
      obtain ⟨cs', hm, rfl⟩ := (map_ok _ _ _).1 h
      obtain ⟨hnone, hsome⟩ := pick_mapRes rd (decodeTree rd d) cs cs' hm lb
      rw [hp]
      simp only [specG]
      cases hpc : pickChild cs lb with
      | none => rw [hnone hpc]
      | some blk =>
        obtain ⟨cb, t0, hr, hd, hsel⟩ := hsome blk hpc
        simp only [hsel, hr]
        exact ih cb t0 lb hd

/-- mirror = spec for extent trees of depth ≥ 0: on a well-formed tree that the Go reader's flattening
    decodes, scanning the flattened list (extentBlockFinder.blocks + the scan of File.Read) maps every
    logical block exactly as the SPEC reader's search from the root does -/
theorem spec_tree_search_equals_flatten (rd : Nat → Option Bytes) (d : Nat) (root : Bytes) (t : TreeD d)
    (lo hi : Nat) (hdec : decodeTree rd d root = .ok t) (hwf : TreeWF d t lo hi) (lb : Nat) :
    flatten rd d root = .ok (mirrorBlocks d t) ∧
    treeSearch rd d root lb = .ok (leafLookup (mirrorBlocks d t) lb) := by
  constructor
  · simp [flatten, hdec, Res.map]
  · unfold treeSearch
    rw [spec_tree_search leafLookup rd d root t lb hdec, specG_leafLookup, extent_tree_flatten d t lo hi hwf lb]

/-- holes: on a list without unwritten extents the SPEC reader reads a block as data exactly where the
    mirror maps it and as zeros (hole) exactly where the mirror maps nothing -/
theorem spec_block_class (es : List Extent) (lb : Nat) (h : ∀ e ∈ es, e.count ≤ 32768) :
    blockRef es lb = (match leafLookup es lb with | some p => .data p | none => .hole) := by
  unfold blockRef leafLookup
  have hc : es.find? (fun e => decide (e.fileBlock ≤ lb ∧ lb < e.fileBlock + extLen e)) =
      es.find? (fun e => decide (e.fileBlock ≤ lb ∧ lb < e.fileBlock + e.count)) := by
    induction es with
    | nil => rfl
    | cons a as ih =>
      have ha := h a (List.mem_cons_self ..)
      have hl : extLen a = a.count := by simp only [extLen, if_neg (by omega : ¬ a.count > 32768)]
      simp only [List.find?_cons, hl]
      rw [ih (fun e he => h e (List.mem_cons_of_mem _ he))]
  rw [hc]
  cases hf : es.find? (fun e => decide (e.fileBlock ≤ lb ∧ lb < e.fileBlock + e.count)) with
  | none => rfl
  | some e =>
    have := h e (List.mem_of_find?_eq_some hf)
    simp only [if_neg (by omega : ¬ e.count > 32768)]

/-- unwritten extents read as zeros only inside their real length (length field − 32768) -/
theorem spec_unwritten_range (es : List Extent) (lb : Nat) (h : blockRef es lb = .unwritten) :
    ∃ e ∈ es, e.count > 32768 ∧ e.fileBlock ≤ lb ∧ lb < e.fileBlock + (e.count - 32768) := by
  unfold blockRef at h
  cases hf : es.find? (fun e => decide (e.fileBlock ≤ lb ∧ lb < e.fileBlock + extLen e)) with
  | none => rw [hf] at h; cases h
  | some e =>
    rw [hf] at h
    simp only at h
    have hp := List.find?_some hf
    simp only [decide_eq_true_eq] at hp
    by_cases hu : e.count > 32768
    · refine ⟨e, List.mem_of_find?_eq_some hf, hu, hp.1, ?_⟩
      have := hp.2
      simp only [extLen, if_pos hu] at this
      exact this
    · rw [if_neg hu] at h; cases h

/-- descriptor inside the GDT: for every superblock that passes the validity checks of ext4.Read (volume
    size `size`, 0 = unknown) every descriptor below the group count lies inside the table that was read,
    is at least 32 bytes (64 with the 64bit feature), and the table fits the volume -/
theorem spec_gd_inside_table (g : Geo) (size : Nat) (h : readAccepts g size = true) (grp : Nat)
    (hg : grp < g.groupsGo) :
    g.gdtStart ≤ g.gdOff grp ∧ g.gdOff grp + g.gdSize ≤ g.gdtStart + g.gdSize * g.groupsGo ∧
    (0 < size → g.gdSize * g.groupsGo ≤ size) ∧ 32 ≤ g.gdSize ∧ (g.is64 = true → 64 ≤ g.gdSize) := by
  obtain ⟨_, _, h32, h64, _, _, _, hsz⟩ := readAccepts_fields g size h
  unfold Geo.gdOff
  have := slot_end_le grp g.groupsGo g.gdSize hg
  rw [Nat.mul_comm g.groupsGo] at this
  exact ⟨by omega, by omega, fun hs => (hsz hs).1, h32, h64⟩

/-- inode offset inside the inode table of its group, total for every inode number: under the same checks
    the slot is below inodesPerGroup, slot × inodeSize + inodeSize stays within the table's
    inodesPerGroup × inodeSize bytes, and these fit the blocks of the table -/
theorem spec_inode_inside_table (g : Geo) (size : Nat) (h : readAccepts g size = true) (n : Nat) :
    g.inoSlot n < g.inodesPerGroup ∧
    g.inoSlot n * g.inodeSize + g.inodeSize ≤ g.inodesPerGroup * g.inodeSize ∧
    g.inodesPerGroup * g.inodeSize ≤ g.itableBlocks * g.blockSize := by
  obtain ⟨_, hi, _, _, h128, hle, _, _⟩ := readAccepts_fields g size h
  have hs : g.inoSlot n < g.inodesPerGroup := Nat.mod_lt _ hi
  exact ⟨hs, slot_end_le _ _ _ hs, (ceil_bounds _ _ (by omega)).1⟩

/-- mirror = spec for inode addressing: readInodeRaw's ReadAt offset (with its uint32 / uint64 arithmetic)
    is the format's offset, and it refuses exactly the numbers that are not inodes of the volume, whenever
    a group's table is at most 2^32 bytes and ends below 2^64 -/
theorem spec_inode_offset_equals_mirror (g : Geo) (tables : List Nat) (n : Nat) (hz : 0 < g.inodeSize)
    (hw : g.inodesPerGroup * g.inodeSize ≤ 4294967296)
    (ht : ∀ t ∈ tables, t * g.blockSize + g.inodesPerGroup * g.inodeSize ≤ 18446744073709551616) :
    (inodeLoc ⟨g.blockSize, g.inodeSize, g.inodesPerGroup⟩ tables n).map (·.1) = inodeOff g tables n := by
  unfold inodeLoc inodeOff Geo.inoGroup Geo.inoSlot
  simp only
  by_cases h0 : n = 0 ∨ g.inodesPerGroup = 0
  · rw [if_pos h0, if_pos h0]; rfl
  · rw [if_neg h0, if_neg h0]
    have hi : 0 < g.inodesPerGroup := by omega
    by_cases hb : (n - 1) / g.inodesPerGroup ≥ tables.length
    · rw [if_pos hb, List.getElem?_eq_none hb]; rfl
    · rw [if_neg hb]
      have hlt : (n - 1) / g.inodesPerGroup < tables.length := by omega
      rw [List.getElem?_eq_getElem hlt]
      simp only [Option.map_some, List.getD_eq_getElem?_getD, List.getElem?_eq_getElem hlt, Option.getD_some]
      have hmem := ht _ (List.getElem_mem hlt)
      have hmul := slot_end_le _ _ g.inodeSize (Nat.mod_lt (n - 1) hi)
      generalize tables[(n - 1) / g.inodesPerGroup] * g.blockSize = tb at *
      generalize (n - 1) % g.inodesPerGroup * g.inodeSize = so at *
      generalize g.inodesPerGroup * g.inodeSize = tot at *
      rw [Nat.mod_eq_of_lt (by omega : tb < 18446744073709551616), Nat.mod_eq_of_lt (by omega : so < 4294967296),
        Nat.mod_eq_of_lt (by omega)]

/-- the number of groups of the format never exceeds the number superblock.blockGroupCount computes … -/
theorem spec_groups_le (g : Geo) : g.groups ≤ g.groupsGo  := by
  unfold Geo.groups Geo.groupsGo
  apply Nat.div_le_div_right
  omega

/-- … and can be one less: with 1 KiB blocks (first data block 1) and a block count of one above a multiple
    of the group size the library expects one descriptor more than the volume has (mke2fs never makes such
    a volume: it drops a last group that small) -/
theorem cex_groups_go_one_more :
    (⟨1024, 256, 2048, 8192, 1, 4096, 16385, 32, 0, 0x40, 0, 0⟩ : Geo).groups = 2 ∧
    (⟨1024, 256, 2048, 8192, 1, 4096, 16385, 32, 0, 0x40, 0, 0⟩ : Geo).groupsGo = 3 := by decide

/-- the table sits behind the block that holds the superblock: block 2 with 1 KiB blocks, block 1 above,
    which is what ext4.Read computes -/
theorem spec_gdt_start (g : Geo) (k : Nat) (h : g.blockSize = 1024 * 2 ^ k) : g.gdtStart = g.gdtStartGo := by
  unfold Geo.gdtStart Geo.gdtStartGo
  cases k with
  | zero => simp [h]
  | succ k =>
    have h2 : 2 ≤ 2 ^ (k + 1) := by
      have := Nat.one_le_two_pow (n := k)
      rw [Nat.pow_succ]; omega
    have hne : g.blockSize ≠ 1024 := by omega
    have hdiv : 1024 / g.blockSize = 0 := Nat.div_eq_of_lt (by omega)
    rw [if_neg hne, hdiv]

/-- the source text of the six validity checks ext4.Read has now, in source order: `readAccepts` (SpecGeom.lean) was
    written from these lines and is compared with them by reading, the theorem pins the text; the second conjunct
    records that the switch of DirEntry.Info the driver follows is by definition the regenerated fact -/
theorem facts_agree_read_checks :
    Ext4Ref.readChecks = ["sb.blocksPerGroup == 0 || sb.inodesPerGroup == 0",
      "sb.groupDescriptorSize < 32 || (sb.features.fs64Bit && sb.groupDescriptorSize < 64)",
      "sb.inodeSize < uint16(ext2InodeSize) || uint32(sb.inodeSize) > sb.blockSize",
      "size > 0 && sb.blockCount > uint64(size)/uint64(sb.blockSize)+1",
      "size > 0 && gdtSize > uint64(size)", "gdtSize == 0"] ∧
    dirInfoModeFromTypeCurrent = Ext4Ref.dirEntryInfoModeFromType :=
  ⟨rfl, rfl⟩

/-! non-vacuity -/
def exSGeo : Geo := ⟨1024, 256, 2048, 8192, 1, 4096, 16384, 64, 0, 0xc2, 0x400, 0⟩
example : readAccepts exSGeo 16777216 = true := by decide
example : exSGeo.groupsGo = 2 ∧ exSGeo.groups = 2 ∧ exSGeo.gdtStart = 2048 ∧ exSGeo.gdOff 1 = 2112 := by decide
example : inodeOff exSGeo [35, 8227] 2050 = some (8227 * 1024 + 256) := by decide
example : inodeOff exSGeo [35, 8227] 4097 = none := by decide
/-- a depth-1 tree: the root (in i_block) indexes one leaf block (number 7) that maps blocks 0..1 and 5 -/
def exLeafBlk : Bytes := leEnc 2 0xf30a ++ leEnc 2 2 ++ leEnc 2 4 ++ leEnc 2 0 ++ leEnc 4 0 ++
  (leEnc 4 0 ++ leEnc 2 2 ++ leEnc 2 0 ++ leEnc 4 100) ++ (leEnc 4 5 ++ leEnc 2 1 ++ leEnc 2 0 ++ leEnc 4 300)
def exRootBlk : Bytes := leEnc 2 0xf30a ++ leEnc 2 1 ++ leEnc 2 4 ++ leEnc 2 1 ++ leEnc 4 0 ++
  (leEnc 4 0 ++ leEnc 4 7 ++ leEnc 2 0 ++ leEnc 2 0) ++ zeros 36
def exRd (n : Nat) : Option Bytes := if n = 7 then some exLeafBlk else none
set_option maxRecDepth 8192 in
example : flatten exRd 1 exRootBlk = .ok [⟨0, 100, 2⟩, ⟨5, 300, 1⟩] := by decide
set_option maxRecDepth 8192 in
example : treeSearch exRd 1 exRootBlk 5 = .ok (some 300) ∧ treeSearch exRd 1 exRootBlk 3 = .ok none := by decide
example : blockRef [⟨0, 100, 2⟩, ⟨2, 200, 32770⟩] 3 = .unwritten ∧ blockRef [⟨0, 100, 2⟩, ⟨2, 200, 32770⟩] 4 = .hole := by decide

/-! ### inode decoding: mirror of inodeFromBytes = SPEC decoder, field by field -/
open Diskfs.Ext4.InodeDec Diskfs.Ext4.InodeCodec

/-- the image-level checksum of the SPEC reader (crc over a byte range of the image with positions skipped)
    is crc32c of the record with those fields cleared -/
theorem spec_inode_csum_range (i : Img) (o isz : Nat) (hi : Bool) (c : UInt32) :
    i.crcRange (fun p => p == o + 0x7c || p == o + 0x7d || hi && (p == o + 0x82 || p == o + 0x83)) o isz c =
      crc32c c (clearCsum hi (i.bytes o isz)) := by
  rw [crcRange_mapIdx]
  unfold clearCsum
  congr 2
  funext k x
  simp

/-- the SPEC reader's readInode (over the image, at the inode's offset) IS the byte-level SPEC decoder applied
    to the record: every field, the i_extra_isize rule and the crc32c checksum with its cleared fields -/
theorem spec_inode_of_bytes (f : Fs) (n o : Nat) (ho : inodeOff f.geo f.tables n = some o)
    (hr : f.img.inRange o f.geo.inodeSize = true) (hisz : f.geo.inodeSize = 128 ∨ 132 ≤ f.geo.inodeSize) :
    readInode f n = .ok (specInode f.geo f.seed n o (f.img.bytes o f.geo.inodeSize)) := by
  have h128 : 128 ≤ f.geo.inodeSize := by omega
  have e16 : ∀ k, k + 2 ≤ 128 → le16 (f.img.bytes o f.geo.inodeSize) k = f.img.u16 (o + k) :=
    fun k hk => le16_bytes f.img o _ k (by omega)
  have e32 : ∀ k, k + 4 ≤ 128 → le32 (f.img.bytes o f.geo.inodeSize) k = f.img.u32 (o + k) :=
    fun k hk => le32_bytes f.img o _ k (by omega)
  have eextra : (if f.geo.inodeSize > 128 then le16 (f.img.bytes o f.geo.inodeSize) 0x80 else 0) =
      (if f.geo.inodeSize > 128 then f.img.u16 (o + 0x80) else 0) := by
    split
    · rw [le16_bytes f.img o _ 0x80 (by omega)]
    · rfl
  have hib : slice (f.img.bytes o f.geo.inodeSize) 40 100 = f.img.bytes (o + 40) 60 :=
    slice_bytes f.img o f.geo.inodeSize 40 60 (by omega)
  unfold readInode
  simp only [ho, hr, Bool.not_true, Bool.false_eq_true, if_false]
  show Except.ok _ = Except.ok _
  congr 1
  unfold specInode
  simp only [eextra, fitsIn_le32_bytes, e16 0 (by decide), e16 2 (by decide), e16 0x78 (by decide), e16 0x18 (by decide),
    e16 0x7a (by decide), e32 4 (by decide), e32 0x6c (by decide), e16 0x1a (by decide), e32 0x20 (by decide),
    e32 0x1c (by decide), e16 0x74 (by decide), e32 0x64 (by decide), e32 0x68 (by decide), e16 0x76 (by decide),
    e32 0x8 (by decide), e32 0xc (by decide), e32 0x10 (by decide)]
  simp only [Nat.add_zero, fitsIn, Inode.mk.injEq, true_and]
  refine ⟨rfl, rfl, rfl, ?_, ?_, ?_⟩
  · refine ite_congr rfl (fun hc => ?_) (fun _ => rfl)
    simp only [Bool.and_eq_true, decide_eq_true_eq] at hc
    rw [le32_bytes f.img o _ 0x90 (by omega)]
    rfl
  · rw [hib]
  · unfold specCsumOk inodeCrc
    simp only [spec_inode_csum_range, fitsIn, eextra, e16 0x7c (by decide), e32 0x64 (by decide)]
    by_cases hm : f.geo.metadataCsum = true
    · rw [if_pos hm, if_pos hm]
      refine congrArg (_ == _ + ·) (ite_congr rfl (fun hc => ?_) (fun _ => rfl))
      simp only [Bool.and_eq_true, decide_eq_true_eq] at hc
      rw [le16_bytes f.img o _ 0x82 (by omega)]
    · rw [if_neg hm, if_neg hm]

/-- mirror = spec, the classic fields: for EVERY record of the inode size (128, or at least 132 bytes), the
    mirror of inodeFromBytes and the SPEC decoder return the same mode, owner and group (both halves), size
    (both halves), link count, flags, i_blocks in 512-byte units (huge_file scaling), generation, xattr
    block (both halves), i_block and — on large inodes — i_extra_isize -/
theorem mirror_inode_fields_eq_spec (guarded : Bool) (g : Geo) (seed : UInt32) (n o : Nat) (raw : Bytes)
    (hl : raw.length = g.inodeSize) (hisz : g.inodeSize = 128 ∨ 132 ≤ g.inodeSize) :
    let gi := goDecode guarded g.hugeFile g.inodeSize raw
    let si := specInode g seed n o raw
    si.mode = gi.mode ∧ si.uid = gi.uid ∧ si.gid = gi.gid ∧ si.size = gi.size ∧ si.links = gi.links ∧
    si.flags = gi.flags ∧ si.blocks512 = gi.blocks512 g.blockSize ∧ si.gen = gi.gen ∧ si.fileAcl = gi.fileAcl ∧
    si.iblock = gi.iblock ∧ (g.inodeSize > 128 → si.extra = gi.extra) := by
  have p16 : ∀ k, k + 2 ≤ 128 → le16 (pad256 raw) k = le16 raw k := fun k hk => le16_pad256 raw k (by omega)
  have p32 : ∀ k, k + 4 ≤ 128 → le32 (pad256 raw) k = le32 raw k := fun k hk => le32_pad256 raw k (by omega)
  simp only [goDecode, specInode, GoInode.blocks512, p16 0 (by decide), p16 2 (by decide), p16 0x78 (by decide),
    p16 0x18 (by decide), p16 0x7a (by decide), p32 4 (by decide), p32 0x6c (by decide), p16 0x1a (by decide),
    p32 0x20 (by decide), p32 0x1c (by decide), p16 0x74 (by decide), p32 0x64 (by decide), p32 0x68 (by decide),
    p16 0x76 (by decide), slice_pad256 raw 0x28 0x64 (by omega), true_and]
  intro h
  rw [if_pos h, le16_pad256 raw 0x80 (by omega)]

/-- mirror = spec, the four 34-bit timestamps with nanoseconds: equal on every record for the REPAIRED reader
    (extra words honoured only where i_extra_isize reaches them); for the reader AS FOUND on 128-byte inodes
    and on every inode whose i_extra_isize covers the timestamp words (≥ 24, what mke2fs and current kernels
    write: 32) -/
theorem mirror_inode_times_eq_spec (guarded : Bool) (g : Geo) (seed : UInt32) (n o : Nat) (raw : Bytes)
    (hl : raw.length = g.inodeSize) (hisz : g.inodeSize = 128 ∨ 132 ≤ g.inodeSize)
    (hfit : guarded = true ∨ g.inodeSize = 128 ∨ (0x98 ≤ 128 + le16 raw 0x80 ∧ 0x98 ≤ g.inodeSize)) :
    let gi := goDecode guarded g.hugeFile g.inodeSize raw
    let si := specInode g seed n o raw
    si.atime = gi.atime ∧ si.ctime = gi.ctime ∧ si.mtime = gi.mtime ∧ si.crtime = gi.crtime := by
  have p32 : ∀ k, k + 4 ≤ 128 → le32 (pad256 raw) k = le32 raw k := fun k hk => le32_pad256 raw k (by omega)
  have x := goExtraWord_pad256 guarded g.inodeSize raw hl hisz hfit
  simp only [goDecode, specInode, p32 8 (by decide), p32 0xc (by decide), p32 0x10 (by decide),
    x 0x8c (by decide) (by decide), x 0x84 (by decide) (by decide), x 0x88 (by decide) (by decide),
    x 0x90 (by decide) (by decide), x 0x94 (by decide) (by decide), true_and]
  -- crtime: where its first word does not exist neither does the second
  cases hc : fitsIn g.inodeSize (if g.inodeSize > 128 then le16 raw 0x80 else 0) 0x94
  · have := fitsIn_mono g.inodeSize (if g.inodeSize > 128 then le16 raw 0x80 else 0) 0x94 (0x94 + 4) (by decide)
    simp_all [tsDec_zero]
  · simp

/-- a 256-byte inode with i_extra_isize = 4 and one byte in use at 0x88, behind the extra area -/
def exSmallExtra : Bytes := zeros 0x80 ++ [4, 0] ++ zeros 6 ++ [1, 0, 0, 0] ++ zeros (256 - 0x8c)
/- finding ext4-inode-extra-isize-ignored: as found, a 256-byte inode with i_extra_isize = 4 (legal: e2fsck accepts it,
   debugfs makes it) whose bytes behind the extra area are in use (here one byte of an in-inode attribute at 0x88)
   gets a modification time 2^32 seconds off, where the format — and the repaired reader — say the extra word does
   not exist -/
set_option maxRecDepth 8192 in
theorem cex_extra_isize_ignored :
    (goDecode false false 256 exSmallExtra).mtime = ⟨4294967296, 0⟩ ∧
    (specInode ⟨1024, 256, 2048, 8192, 1, 4096, 16384, 64, 0, 0xc2, 0x400, 0⟩ 0 12 0 exSmallExtra).mtime = ⟨0, 0⟩ ∧
    (goDecode true false 256 exSmallExtra).mtime = ⟨0, 0⟩ := by decide

/-- symbolic links: the Go reader takes the target from i_block when size < 60, the kernel (and the SPEC
    reader) when the inode owns no data blocks beyond its xattr block.  On a symlink inode the two rules
    differ EXACTLY when a short link owns data blocks or a long link owns none -/
theorem symlink_rules_differ_exactly (mode size blocks512 ea : Nat) (hl : mode / 4096 = 10) :
    goFast mode size ≠ specFast mode blocks512 ea ↔
      (size < 60 ∧ ea < blocks512) ∨ (60 ≤ size ∧ blocks512 ≤ ea) := by
  unfold goFast specFast
  simp only [hl, beq_self_eq_true, Bool.true_and]
  by_cases h1 : size < 60 <;> by_cases h2 : blocks512 - ea = 0 <;> simp [h1, h2] <;> omega

/-- … so they agree on every inode whose i_blocks is the xattr block plus the data blocks and whose writer
    keeps targets below 60 bytes in the inode (ext2fs_symlink and the kernel without encryption / inline
    data): in particular on a fast symlink WITH an external xattr block (i_blocks ≠ 0, the regime of 128-byte
    inodes), where a reader testing `i_blocks == 0` would go wrong -/
theorem symlink_rules_agree_on_wellformed (mode size blocks512 ea data : Nat) (hacc : blocks512 = ea + data)
    (hw : data = 0 ↔ size < 60) : goFast mode size = specFast mode blocks512 ea := by
  unfold goFast specFast
  by_cases hm : mode / 4096 = 10
  · simp only [hm, beq_self_eq_true, Bool.true_and]
    by_cases h1 : size < 60
    · have : data = 0 := hw.2 h1
      simp [h1, hacc, this]
    · have : data ≠ 0 := fun h => h1 (hw.1 h)
      simp [h1, hacc]; omega
  · have : (mode / 4096 == 10) = false := by simp [hm]
    simp [this]

/-- checksum VERIFICATION decision, equal as functions of the bytes: for every record, seed and inode number
    the mirror of inodeFromBytes' check (crc32c over seed, number, generation and the record with the checksum
    fields cleared; all 32 bits when the record has 0x84 bytes, else the low 16) decides as the format does,
    on 128-byte inodes and wherever i_extra_isize ≥ 4 (e2fsck's minimum) -/
theorem mirror_inode_csum_eq_spec (seed : UInt32) (n isz : Nat) (raw : Bytes) (hl : raw.length = isz)
    (h : isz = 128 ∨ (132 ≤ isz ∧ 4 ≤ le16 raw 0x80)) :
    goCsumOk seed n raw = specCsumOk seed n isz raw := by
  unfold goCsumOk specCsumOk
  have hg : le32 (pad256 raw) 0x64 = le32 raw 0x64 := le32_pad256 raw 0x64 (by omega)
  rw [hg]
  rcases h with h | ⟨h1, h2⟩
  · have a : decide (raw.length ≥ 0x84) = false := by simp; omega
    have b : fitsIn isz (if isz > 128 then le16 raw 0x80 else 0) 0x84 = false := by simp [fitsIn, h]
    simp only [a, b]
  · have a : decide (raw.length ≥ 0x84) = true := by simp; omega
    have b : fitsIn isz (if isz > 128 then le16 raw 0x80 else 0) 0x84 = true := by
      rw [if_pos (by omega)]
      simp only [fitsIn, Bool.and_eq_true, decide_eq_true_eq]; omega
    simp only [a, b]

/-! non-vacuity -/
example : goFast 0xa1ff 5 = true ∧ specFast 0xa1ff 2 2 = true ∧ specFast 0xa1ff 2 0 = false := by decide
example : (0x98 ≤ 128 + 32 ∧ 0x98 ≤ 256) := by decide

/-! ### directory blocks: mirror of parseDirEntriesLinear (as it is now) = SPEC walk -/

/-- mirror = spec for one directory block: on EVERY block whose rec_len chain tiles it (records of at least 12
    bytes, multiples of 4, inside the block, covering their names — unused records with inode 0, the checksum
    tail and names up to 255 bytes included) the mirror of parseDirEntriesLinear's loop succeeds and its entries
    in use are exactly what the rec_len walk of the SPEC reader returns, in order -/
theorem mirror_dir_block_eq_spec (bs : Nat) (blk : Bytes) (h : Tiles blk) (hl : blk.length = bs) :
    ∃ es, parseEntriesNow (bs / 8 + 2) blk = .ok es ∧
      dirWalk bs (bs / 8 + 2) blk 0 [] = .ok (liveEntries es) := by
  simpa using tiles_block bs blk [] h (by simpa using hl) 1 (by omega) fun f acc => dirWalk_end bs f _ _ acc (by omega)

/-! ### extended attributes: mirror of parseXattrEntries = SPEC walk -/

/-- in-inode table (readIbodyXattrs hands parseXattrEntries the bytes behind the magic as entries AND values;
    the SPEC reader walks the whole record with the position of the first entry as value base): for every
    well-formed table with distinct names, ended by four zero bytes or the end of the record, both return the
    same list of (name, value) — given that the two prefix tables name the indices alike (`hpre`; the
    correspondence compares the names on every attribute of the images) -/
theorem mirror_xattr_ibody_eq_spec (cfg : Cfg) (hk : cfg.xattrKeepEmpty = true) (tbl : List (Nat × String))
    (xs : List XEnt) (pre tail : Bytes) (hal : pre.length % 4 = 0)
    (hwf : ∀ x ∈ xs, XWF (encXTable xs ++ tail) x) (ht : TermZero tail)
    (hd : (xs.map fun x => xattrPrefix tbl x.idx ++ x.name).Nodup)
    (hpre : ∀ x ∈ xs, xattrPrefix tbl x.idx = xattrPrefixSpec x.idx) :
    ∃ L, parseXattrs cfg tbl (encXTable xs ++ tail) (encXTable xs ++ tail) (xs.length + 1) 0 [] = .ok L ∧
      xattrWalk (pre ++ (encXTable xs ++ tail)) pre.length (pre ++ (encXTable xs ++ tail)).length
        (xs.length + 1) pre.length [] = .ok L := by
  refine ⟨_, xattr_ibody_roundtrip cfg tbl xs tail hwf (termZero_termOK tail ht), ?_⟩
  rw [xattr_distinct_all_listed cfg hk tbl _ xs hd]
  exact xattrWalk_table tbl xs pre tail _ pre.length hal hwf ht hpre (fun lo hi => slice_shift pre _ lo hi) (by simp)

/-- xattr block (readBlockXattrs: entries behind the 32-byte header, value offsets from the start of the block;
    the SPEC reader walks the block from byte 32 with value base 0) -/
theorem mirror_xattr_block_eq_spec (cfg : Cfg) (hk : cfg.xattrKeepEmpty = true) (tbl : List (Nat × String))
    (xs : List XEnt) (hdr tail : Bytes) (hal : hdr.length % 4 = 0)
    (hwf : ∀ x ∈ xs, XWF (hdr ++ (encXTable xs ++ tail)) x) (ht : TermZero tail)
    (hd : (xs.map fun x => xattrPrefix tbl x.idx ++ x.name).Nodup)
    (hpre : ∀ x ∈ xs, xattrPrefix tbl x.idx = xattrPrefixSpec x.idx) :
    ∃ L, parseXattrs cfg tbl (encXTable xs ++ tail) (hdr ++ (encXTable xs ++ tail)) (xs.length + 1) 0 [] = .ok L ∧
      xattrWalk (hdr ++ (encXTable xs ++ tail)) 0 (hdr ++ (encXTable xs ++ tail)).length
        (xs.length + 1) hdr.length [] = .ok L := by
  refine ⟨_, xattr_block_roundtrip cfg tbl xs hdr tail hwf (termZero_termOK tail ht), ?_⟩
  rw [xattr_distinct_all_listed cfg hk tbl _ xs hd]
  exact xattrWalk_table tbl xs hdr tail _ 0 hal hwf ht hpre (fun lo hi => by rw [Nat.zero_add, Nat.zero_add])
    (by simp)

/-! non-vacuity: a block of two records (a file "a", then the 12-byte checksum tail), an attribute table -/
def exDirBlk : Bytes := [12, 0, 0, 0, 12, 0, 1, 1, 97, 0, 0, 0] ++ [0, 0, 0, 0, 12, 0, 0, 0xde, 1, 2, 3, 4]
example : Tiles exDirBlk :=
  Tiles.cons _ (by decide) (by decide) (by decide) (by decide)
    (Tiles.cons _ (by decide) (by decide) (by decide) (by decide)
      (by
        have h : List.drop (le16 (List.drop (le16 exDirBlk 4) exDirBlk) 4) (List.drop (le16 exDirBlk 4) exDirBlk) = [] := by
          decide
        rw [h]; exact Tiles.nil))
example : parseEntriesNow 5 exDirBlk = .ok [⟨12, 1, [97]⟩, ⟨0, 0xde, []⟩] ∧
    (dirWalk 24 5 exDirBlk 0 []).toOption = some [⟨12, 1, [97]⟩] := by decide
example : TermZero (zeros 44) := Or.inr ⟨zeros 40, rfl⟩

/-! ### the feature gate as a decision table (regenerated from features.go / ext4.Read) -/

/-- a bit the table lists as refused makes ext4.Read fail whenever it is set, whatever else the word holds -/
theorem gate_refuses_listed (t : GateTbl) (word b : Nat) (hb : b ∈ t.refused) (hs : hasBit word b = true) :
    gateAcceptsT t word = false :=
  gate_table_refuses t word b hb hs

/-- … and a bit it lists as required makes it fail whenever it is clear -/
theorem gate_requires_listed (t : GateTbl) (word b : Nat) (hb : b ∈ t.required) (hs : hasBit word b = false) :
    gateAcceptsT t word = false := by
  unfold gateAcceptsT
  have : t.required.all (fun b => hasBit word b) = false := by
    rw [List.all_eq_false]
    exact ⟨b, hb, by simp [hs]⟩
  simp [this]

/-- the unsupported-feature clause, for every gate table: IF the table refuses every single-bit position of the
    INCOMPAT word outside the supported set (`gateUncovered t = []`), THEN an image whose INCOMPAT word has any
    bit outside the supported set is refused -/
theorem gate_refuses_outside_supported (t : GateTbl) (hcover : gateUncovered t = []) (word k : Nat) (hk : k < 32)
    (hbit : hasBit word (2 ^ k) = true) (hns : supportedIncompat.contains (2 ^ k) = false) :
    gateAcceptsT t word = false :=
  Reader.gate_refuses_outside_supported t hcover word k hk hbit hns

/-- the table ext4.Read has NOW: INCOMPAT refuses inline_data and demands extents, nothing else; no RO_COMPAT and
    no COMPAT bit is looked at.  It is the gate the mirror `gateAccepts` (unsupported_rejected /
    supported_accepted) speaks about -/
theorem facts_agree_gate_table :
    GateTbl.incompatCurrent = ⟨[0x8000], [0x40]⟩ ∧ GateTbl.roCompatCurrent = ⟨[], []⟩ ∧
    GateTbl.compatCurrent = ⟨[], []⟩ ∧
    Ext4Ref.featIncompatBits = [1, 2, 4, 8, 16, 64, 128, 256, 512, 1024, 4096, 8192, 16384, 32768, 65536] ∧
    Ext4Ref.featIncompatNames.length = Ext4Ref.featIncompatBits.length ∧
    Ext4Ref.featRoCompatNames.length = Ext4Ref.featRoCompatBits.length ∧
    Ext4Ref.featCompatNames.length = Ext4Ref.featCompatBits.length := by
  decide

/-- on the INCOMPAT word the regenerated table decides as the mirror `gateAccepts` does under the regenerated
    configuration -/
theorem gate_table_is_mirror (incompat : Nat) :
    gateAcceptsT GateTbl.incompatCurrent incompat = gateAccepts Cfg.current incompat := by
  have h1 : Cfg.current.gateRequiresExtents = true := by decide
  have h2 : Cfg.current.gateRefusesInlineData = true := by decide
  rw [facts_agree_gate_table.1]
  simp [gateAcceptsT, gateAccepts, h1, h2, incompatExtents, incompatInlineData, Bool.and_comm]

/-- the gap, exactly: the single-bit positions of the INCOMPAT word that ext4.Read lets pass although the
    reader does not implement them — compression (bit 0), journal to replay (2), journal device (3), meta_bg (4),
    ea_inode (10), dirdata (12), encrypt (16), casefold (17) and every bit the format has not assigned — so
    `gate_refuses_outside_supported` does NOT apply to the gate as it is.  The reference images carrying
    meta_bg, ea_inode, encrypt and casefold are read in every run: meta_bg with several meta groups fails at the
    descriptor checksums, an EA-inode value is refused at its entry, encrypt / casefold set by mke2fs alone
    change nothing on disk -/
theorem gate_current_uncovered :
    gateUncovered GateTbl.incompatCurrent =
      [0, 2, 3, 4, 5, 10, 11, 12, 16, 17, 18, 19, 20, 21, 22, 23, 24, 25, 26, 27, 28, 29, 30, 31] := by
  decide

/-- e.g. meta_bg | extents | 64bit | filetype passes the gate -/
theorem cex_gate_accepts_meta_bg : gateAcceptsT GateTbl.incompatCurrent (0x10 + 0x40 + 0x80 + 0x2) = true := by
  decide

example : gateUncovered ⟨[1, 4, 8, 16, 32, 1024, 2048, 4096, 32768, 65536, 131072] ++
    (List.range 14).map (fun i => 2 ^ (i + 18)), [64]⟩ = [] := by decide

/-! ### hash-indexed directories: the Go reader's hash-tree walk = the SPEC reader's linear walk of the leaves -/

/-- one leaf: the Go reader's linear parser (tail stripped) and the SPEC walk of the whole block -/
theorem leaf_block_mirror_eq_spec (csum : Bool) (bs : Nat) (data : Bytes) (b : Nat)
    (hin : b * bs + bs ≤ data.length) (ht : LeafOK csum bs (dirBlock bs data b)) :
    leafAt Cfg.fixed csum bs data b = .ok (leafEntriesNow csum bs data b) ∧
    dirWalk bs (bs / 8 + 2) (dirBlock bs data b) 0 [] = .ok (liveEntries (leafEntriesNow csum bs data b)) := by
  have hl : (dirBlock bs data b).length = bs := by
    unfold dirBlock; rw [slice_length _ _ _ (by omega) hin]; omega
  have hin' : ¬ b * bs + bs > data.length := Nat.not_lt.2 hin
  unfold leafAt leafEntriesNow leafBody
  rw [if_neg hin']
  show parseLinear Cfg.fixed csum bs (dirBlock bs data b) = _ ∧ _
  unfold parseLinear
  generalize dirBlock bs data b = blk at *
  cases csum with
  | false =>
    have ht' : Tiles blk := by simpa [LeafOK] using ht
    obtain ⟨es, h1, h2⟩ := mirror_dir_block_eq_spec bs blk ht' hl
    simp only [Bool.false_eq_true, if_false, h1]
    exact ⟨by rw [parseEntries_eq_now _ ht' (blk.length + 1) (bs / 8 + 2) (by omega) (by omega), h1], h2⟩
  | true =>
    obtain ⟨h12, htb, htt⟩ : 12 ≤ bs ∧ Tiles (blk.take (bs - 12)) ∧ CsTail (blk.drop (bs - 12)) := by
      simpa [LeafOK] using ht
    have hbl : (blk.take (bs - 12)).length = bs - 12 := by simp; omega
    -- the SPEC walk passes over the body, then over the tail as over a record not in use
    obtain ⟨es, h1, h2⟩ := tiles_block bs _ (blk.drop (bs - 12)) htb (by simp; omega) 2 (by omega)
      fun f acc => by rw [hbl]; exact csTail_walk bs _ htt h12 f acc
    rw [List.take_append_drop] at h2
    simp only [if_true, h1, if_neg (by omega : ¬ bs < 12), stripTails_block bs blk hl h12, Res.bind]
    exact ⟨by rw [parseEntries_eq_now _ htb _ (bs / 8 + 2) (by omega) (by omega), h1], h2⟩

/-- the key reader equivalence for large directories.  Let the directory data hold a hash tree of any depth whose
    walk (the mirror of parseDirEntriesHashed: the dx entries of every node in order, leaf blocks parsed by the
    linear parser, checksum tails stripped with metadata_csum) succeeds with `es`.  If the tree references every
    leaf block of `leaves` exactly once and every leaf is well formed (its records tile it; with metadata_csum they
    tile the part in front of the 12-byte tail), then the SPEC reader's rec_len walk succeeds on every leaf and
    the entries in use the hash-tree walk returned are, up to order, exactly the entries the linear walk of the
    leaf blocks returns — nothing lost, nothing duplicated, nothing invented -/
theorem htree_equals_spec_linear (csum : Bool) (bs : Nat) (data : Bytes) (d : Nat) (blks leaves : List Nat)
    (es : List DirEnt) (h : parseHashed Cfg.fixed csum bs data d blks = .ok es)
    (hperm : ∀ L, leafBlocks bs data d blks = .ok L → L.Perm leaves)
    (htile : ∀ b ∈ leaves, b * bs + bs ≤ data.length ∧ LeafOK csum bs (dirBlock bs data b)) :
    (∀ b ∈ leaves, dirWalk bs (bs / 8 + 2) (dirBlock bs data b) 0 [] =
        .ok (liveEntries (leafEntriesNow csum bs data b))) ∧
    (liveEntries es).Perm ((leaves.map fun b => liveEntries (leafEntriesNow csum bs data b)).flatten) := by
  obtain ⟨L, hL, hc⟩ := htree_reaches_leaves Cfg.fixed csum bs data d blks es h
  have hp := hperm L hL
  constructor
  · intro b hb
    exact (leaf_block_mirror_eq_spec csum bs data b (htile b hb).1 (htile b hb).2).2
  · have hall : ∀ b ∈ L, leafAt Cfg.fixed csum bs data b = .ok (leafEntriesNow csum bs data b) := by
      intro b hb
      have hb' : b ∈ leaves := hp.mem_iff.1 hb
      exact (leaf_block_mirror_eq_spec csum bs data b (htile b hb').1 (htile b hb').2).1
    have hes : es = (L.map (leafEntriesNow csum bs data)).flatten := by
      unfold concatRes at hc
      rw [mapRes_ok_of_forall _ _ L hall] at hc
      simp only [Res.map, Res.ok.injEq] at hc
      exact hc.symm
    rw [hes, liveEntries_flatten, List.map_map]
    exact (hp.map _).flatten

/-- on tiling data the earlier mirror of the entry loop (dir_linear_roundtrip is about it) and the mirror of the
    loop as the source has it now agree -/
theorem dir_mirrors_agree (r : Bytes) (h : Tiles r) (f1 f2 : Nat) (h1 : r.length < 12 * f1) (h2 : r.length < 12 * f2) :
    parseEntries Cfg.fixed f1 r = parseEntriesNow f2 r :=
  parseEntries_eq_now r h f1 f2 h1 h2

/-! non-vacuity: the two-record block above is a well-formed leaf of a 24-byte "block size" with a checksum tail -/
example : LeafOK true 24 exDirBlk := by
  refine ⟨by decide, ?_, ?_⟩
  · exact Tiles.cons _ (by decide) (by decide) (by decide) (by decide) (by
      have h : List.drop (le16 (List.take (24 - 12) exDirBlk) 4) (List.take (24 - 12) exDirBlk) = [] := by decide
      rw [h]; exact Tiles.nil)
  · exact ⟨by decide, by decide, by decide, by decide⟩

/-! ### checksum verification decisions: Go reader = SPEC reader, as functions of the bytes -/

/-- superblock: for every image, the SPEC reader's check (crc32c with seed 0xffffffff over the 0x3fc bytes in
    front of s_checksum, read off the image) is the mirror of superblockFromBytes' check on the superblock bytes -/
theorem csum_superblock_eq (i : Img) :
    ((i.crcRange (fun _ => false) 1024 0x3fc 0xFFFFFFFF).toNat == i.u32 (1024 + 0x3fc)) =
      goSbCsumOk (i.bytes 1024 1024) := by
  rw [goSbCsumOk, crcRange_bytes, take_bytes i 1024 1024 0x3fc (by decide), le32_bytes i 1024 1024 0x3fc (by decide)]

/-- the seed of every other checksum: the Go reader takes s_checksum_seed when the field is not zero, the format
    when the csum_seed feature is set — the same seed exactly when the field is non-zero with the feature and
    zero without it (what mke2fs and tune2fs maintain) -/
theorem csum_seed_eq (feat : Bool) (sb : Bytes) (h : feat = true ↔ le32 sb 0x270 ≠ 0) :
    goSeed sb = specSeed feat sb := by
  unfold goSeed specSeed
  cases feat with
  | true => have := h.1 rfl; simp [this]
  | false =>
    have : le32 sb 0x270 = 0 := by
      by_cases hz : le32 sb 0x270 = 0
      · exact hz
      · exact absurd (h.2 hz) (by simp)
    simp [this]

/-- group descriptors: the SPEC reader's check over the image is the format's check over the descriptor bytes
    (crc32c over seed, le32 group number, the descriptor with its checksum field cleared; low 16 bits) … -/
theorem csum_gd_spec (img : Img) (g : Geo) (seed : UInt32) (grp : Nat) (h32 : 0x20 ≤ g.gdSize) :
    (gdRead img g seed grp).2 = specGdCsumOk seed grp (img.bytes (g.gdOff grp) g.gdSize) := by
  unfold gdRead specGdCsumOk
  simp only []
  rw [crcRange_clearGd, le16_bytes img (g.gdOff grp) g.gdSize 0x1e (by omega)]

/-- … and the mirror of groupDescriptorFromBytes' check decides the same for every descriptor of 32 or 64 bytes
    and every group number below 65536 (the Go code feeds the group number into the crc as 16 bits: beyond, on
    volumes of more than 65535 groups, it refuses descriptors the reference tools wrote — an error, not wrong data) -/
theorem csum_gd_mirror_eq_spec (seed : UInt32) (grp gdSize : Nat) (raw : Bytes) (hl : raw.length = gdSize)
    (hs : gdSize = 32 ∨ gdSize = 64) (hg : grp < 65536) :
    goGdCsumOk seed grp gdSize raw = specGdCsumOk seed grp raw := by
  unfold goGdCsumOk specGdCsumOk le32Bytes
  rw [leEnc4_small grp hg]
  have : (if gdSize = 64 then raw.take 64 else raw.take 32) = raw := by
    rcases hs with h | h
    · rw [if_neg (by omega)]; exact List.take_of_length_le (by omega)
    · rw [if_pos h]; exact List.take_of_length_le (by omega)
  simp only [this]

/-- directory leaves: on every block that ends in the checksum tail (inode 0, rec_len 12, name_len 0, type 0xde)
    the SPEC reader verifies exactly what parseDirEntriesLinear verifies: crc32c over seed, inode number,
    generation and the block without the tail, against the last four bytes -/
theorem csum_dir_block_eq (f : Fs) (d : Inode) (blk : Bytes) (h12 : 12 ≤ f.bs)
    (ht : le32 blk (f.bs - 12) = 0 ∧ le16 blk (f.bs - 12 + 4) = 12 ∧ u8 blk (f.bs - 12 + 6) = 0 ∧
      u8 blk (f.bs - 12 + 7) = 0xde) :
    dirTailOk f d blk = some (goDirCsumOk f.seed d.num d.gen f.bs blk) := by
  unfold dirTailOk goDirCsumOk
  simp only []
  rw [if_pos ht]
  have : f.bs - 12 + 8 = f.bs - 4 := by omega
  rw [this]

/-! ### the inode codec for all fields, and the frame of the attribute setters on everything that is decoded -/

/-- round trip for ALL fields of the 160 fixed bytes of an inode: the record that holds the numbers `g` at the
    offsets of the format (mode; uid, gid, size, i_blocks, xattr block and version as low / high halves; links,
    flags, generation, dtime, i_extra_isize, project id; the four timestamps as 32 low bits plus the extra word
    with two epoch bits and 30 bits of nanoseconds; the 60 bytes of i_block), with ANY values in the words the
    decoder does not interpret (checksum halves, obsolete fragment address, reserved) and ANY bytes behind
    (in-inode attributes), decodes through the mirror of inodeFromBytes to exactly `g` — as found and, where
    i_extra_isize covers the timestamp words, repaired -/
theorem inode_codec_roundtrip_all_fields (guarded : Bool) (g : GoInode) (cl ch ob rs : Nat) (tail : Bytes)
    (h : FullWF g) (hx : guarded = false ∨ 0x98 ≤ 128 + g.extra) :
    goDecode guarded true (160 + tail.length) (encFull g cl ch ob rs tail) = g := by
  obtain ⟨hmode, huid, hgid, hsize, hlinks, hflags, hblocks, hgen, hacl, hver, hextra, hdtime, hproj,
    hat, hct, hmt, hcr, hib, hfsb⟩ := h
  have hxw := fun fe hf => extraWord_taken guarded (160 + tail.length) g.extra fe hx (by omega) hf
  obtain ⟨tail', hpad⟩ := pad256_encFull g cl ch ob rs tail
  obtain ⟨HA, hI, HB⟩ := encFull_words g cl ch ob rs tail' hib
  simp only [HoldsAt, fieldsA, fieldsB, Nat.reduceAdd, Nat.reducePow] at HA HB
  simp only [goDecode, goExtraWord, hpad, le16, le32, Nat.reduceAdd, HA, HB, hI, Nat.mod_eq_of_lt hextra,
    hxw 0x88 (by decide), hxw 0x8c (by decide), hxw 0x90 (by decide), hxw 0x94 (by decide), hxw 0x98 (by decide),
    Bool.false_eq_true, if_false, if_true, tsDec_mod _ hat, tsDec_mod _ hct, tsDec_mod _ hmt, tsDec_mod _ hcr,
    Nat.mod_mod, halves_join g.uid 65536 65536 huid, halves_join g.gid 65536 65536 hgid,
    halves_join g.size 4294967296 4294967296 hsize, halves_join g.blocks 4294967296 65536 hblocks,
    halves_join g.fileAcl 4294967296 65536 hacl, halves_join g.version 4294967296 4294967296 hver,
    Nat.mod_eq_of_lt hmode, Nat.mod_eq_of_lt hlinks, Nat.mod_eq_of_lt hflags, Nat.mod_eq_of_lt hgen,
    Nat.mod_eq_of_lt hdtime, Nat.mod_eq_of_lt hproj, Bool.true_and, ← hfsb]

/-- frame, decoded level: records of at least 256 bytes that agree on the byte ranges `keep` decode to the same
    value of every field whose words are such ranges (field by field: Proofs/Ext4InodeFrame.lean goDecode_frame);
    for Chmod on the record: nothing inodeFromBytes decodes changes but the mode word -/
theorem chmod_changes_only_mode (guarded huge : Bool) (isz : Nat) (b : Bytes) (perm : Nat) (h256 : 256 ≤ b.length) :
    let d := goDecode guarded huge isz b
    let d' := goDecode guarded huge isz (chmodBytes b perm)
    d'.uid = d.uid ∧ d'.gid = d.gid ∧ d'.size = d.size ∧ d'.links = d.links ∧ d'.flags = d.flags ∧
    d'.fsBlocks = d.fsBlocks ∧ d'.blocks = d.blocks ∧ d'.gen = d.gen ∧ d'.fileAcl = d.fileAcl ∧
    d'.version = d.version ∧ d'.extra = d.extra ∧ d'.dtime = d.dtime ∧ d'.project = d.project ∧
    d'.atime = d.atime ∧ d'.ctime = d.ctime ∧ d'.mtime = d.mtime ∧ d'.crtime = d.crtime ∧ d'.iblock = d.iblock := by
  have hwf : RecordWF b := by unfold RecordWF; omega
  have H := goDecode_frame guarded huge isz b (chmodBytes b perm) h256 (fun lo _ => 2 ≤ lo)
    (fun lo hi h i h1 _ => chmodBytes_frame b perm i hwf (by omega)) (by decide)
  simp (decide := true) only [forall_const, false_implies, true_and] at H
  exact H

/-- Chown: only the owner and the group -/
theorem chown_changes_only_ids (guarded huge : Bool) (isz : Nat) (b : Bytes) (uid gid : Option Nat)
    (h256 : 256 ≤ b.length) :
    let d := goDecode guarded huge isz b
    let d' := goDecode guarded huge isz (chownBytes b uid gid)
    d'.mode = d.mode ∧ d'.size = d.size ∧ d'.links = d.links ∧ d'.flags = d.flags ∧
    d'.fsBlocks = d.fsBlocks ∧ d'.blocks = d.blocks ∧ d'.gen = d.gen ∧ d'.fileAcl = d.fileAcl ∧
    d'.version = d.version ∧ d'.extra = d.extra ∧ d'.dtime = d.dtime ∧ d'.project = d.project ∧
    d'.atime = d.atime ∧ d'.ctime = d.ctime ∧ d'.mtime = d.mtime ∧ d'.crtime = d.crtime ∧ d'.iblock = d.iblock := by
  have hwf : RecordWF b := by unfold RecordWF; omega
  have H := goDecode_frame guarded huge isz b (chownBytes b uid gid) h256
    (fun lo hi => hi ≤ 0x2 ∨ (0x4 ≤ lo ∧ hi ≤ 0x18) ∨ (0x1a ≤ lo ∧ hi ≤ 0x78) ∨ 0x7c ≤ lo)
    (fun lo hi h i h1 h2 => chownBytes_frame b uid gid i hwf (by omega)) (by decide)
  simp (decide := true) only [forall_const, false_implies, true_and] at H
  exact H

/-- Chtimes: only the access, modification and creation times (the change time and everything else stay) -/
theorem chtimes_changes_only_times (guarded huge : Bool) (isz : Nat) (b : Bytes) (cr at' mt : Ts)
    (h256 : 256 ≤ b.length) :
    let d := goDecode guarded huge isz b
    let d' := goDecode guarded huge isz (chtimesBytes b cr at' mt)
    d'.mode = d.mode ∧ d'.uid = d.uid ∧ d'.gid = d.gid ∧ d'.size = d.size ∧ d'.links = d.links ∧ d'.flags = d.flags ∧
    d'.fsBlocks = d.fsBlocks ∧ d'.blocks = d.blocks ∧ d'.gen = d.gen ∧ d'.fileAcl = d.fileAcl ∧
    d'.version = d.version ∧ d'.extra = d.extra ∧ d'.dtime = d.dtime ∧ d'.project = d.project ∧
    d'.ctime = d.ctime ∧ d'.iblock = d.iblock := by
  have hwf : RecordWF b := by unfold RecordWF; omega
  have H := goDecode_frame guarded huge isz b (chtimesBytes b cr at' mt) h256
    (fun lo hi => hi ≤ 0x8 ∨ (0xc ≤ lo ∧ hi ≤ 0x10) ∨ (0x14 ≤ lo ∧ hi ≤ 0x88) ∨ 0x98 ≤ lo)
    (fun lo hi h i h1 h2 => chtimesBytes_frame b cr at' mt i hwf (by omega)) (by decide)
  simp (decide := true) only [forall_const, false_implies, true_and] at H
  exact H

/-! non-vacuity: an inode with ids above 16 bits, a size above 32 bits, times before 1970 and after 2038 -/
example : FullWF ⟨0x81a4, 70000, 100000, 5000000000, 2, 0x80000, 8, false, 7, 0, 1, 32, 0, 0,
    ⟨-5, 1⟩, ⟨4294967300, 999999999⟩, ⟨0, 0⟩, ⟨1700000000, 5⟩, zeros 60⟩ := by
  refine ⟨by decide, by decide, by decide, by decide, by decide, by decide, by decide, by decide, by decide,
    by decide, by decide, by decide, by decide, ?_, ?_, ?_, ?_, by decide, by decide⟩ <;> simp [TsWF]

end Diskfs.Ext4.Reader.C20
