/-
  C14 — Reproducible mode yields byte-identical images.
  What is a theorem here: the timestamp packing as a total function of the epoch
  (what the 16-bit words are at epoch 0, before 1980, for odd seconds); that the
  volume bytes FAT12/FAT16/FAT32 Create produces (`createImage`, a function of
  kind, size, label and epoch) do not depend on where the volume starts nor, where
  Create writes, on the prior content; that writing an MBR read from disk changes
  no byte (for every device content) and that a table written twice is as written
  once; that the set of nondeterminism sources in the FAT/GPT/MBR write paths is
  exactly the guarded one.
  What is NOT a theorem: that a process has no further hidden input (static fact
  + two-process differential), GPT write-after-read (Props/C02.lean
  `gpt_write_idempotent`; here the differential only), whole FAT histories (no FAT
  mirror in this file; C01's model).
-/
import DiskfsModel.Proofs.Repro
import DiskfsModel.Proofs.Detect
import DiskfsModel.Proofs.MbrRewrite
import DiskfsModel.Generated.Repro
import DiskfsModel.Generated.Detect
namespace Diskfs.Repro.C14
open Diskfs.Repro Diskfs.Detect

/-- the packed words are a function of the epoch alone (nothing else is an argument); epoch 0 packs to
    date 0xEC21 (the year field wraps: (1970-1980)<<9 truncated to 16 bits), time 0 -/
theorem pack_epoch0 : timeToDateTime 0 = (0xEC21, 0) := by decide

/-- last second before 1980-01-01 and the first one after -/
theorem pack_around_1980 : timeToDateTime 315532799 = (0xFF9F, 0xBF7D) ∧ timeToDateTime 315532800 = (0x0021, 0) := by
  decide

/-- before 1980 the date word wraps around 2^16 (no error, no clamp): the exact value -/
theorem date_word_pre1980 (c : Civil) (h1 : c.year < 1980) (h2 : 1853 ≤ c.year) (hm : c.month ≤ 12) (hd : c.day ≤ 31) :
    dateWord c = 65536 - (1980 - c.year) * 512 + c.month * 32 + c.day := by
  unfold dateWord
  rw [← Int.add_mul_emod_self_left _ 65536 1, Int.emod_eq_of_lt (by omega) (by omega)]
  omega

/-- inside FAT's range the word is the plain packing -/
theorem date_word_in_range (c : Civil) (h1 : 1980 ≤ c.year) (h2 : c.year ≤ 2107) (hm : c.month ≤ 12) (hd : c.day ≤ 31) :
    dateWord c = (c.year - 1980) * 512 + c.month * 32 + c.day := by
  unfold dateWord
  rw [Int.emod_eq_of_lt (by omega) (by omega)]
  omega

theorem time_word_exact (c : Civil) (h : c.hour < 24) (hm : c.minute < 60) (hs : c.second < 60) :
    timeWord c = c.hour * 2048 + c.minute * 32 + c.second / 2 :=
  Nat.mod_eq_of_lt (by omega)

/-- an odd second packs exactly like the even second before it (2-second resolution), date included:
    for every even epoch -/
theorem odd_second_same_words (e : Nat) (h : e % 2 = 0) : timeToDateTime (e + 1) = timeToDateTime e := by
  have hd : (e + 1) / 86400 = e / 86400 := by omega
  have hr : (e + 1) % 86400 = e % 86400 + 1 := by omega
  have hc : civil (e + 1) = { civil e with second := (civil e).second + 1 } := by
    unfold civil
    simp only [hd, hr]
    congr 1 <;> omega
  have hs : (civil e).second % 2 = 0 := by unfold civil; simp only; omega
  rw [timeToDateTime, timeToDateTime, hc]
  -- only the seconds differ, and the time word holds them halved
  generalize civil e = c at hs
  simp only [dateWord, timeWord, show (c.second + 1) / 2 = c.second / 2 by omega]

/-- the calendar fields are in range for every epoch (so time_word_exact applies to every real call) -/
theorem civil_time_in_range (e : Nat) : (civil e).hour < 24 ∧ (civil e).minute < 60 ∧ (civil e).second < 60 := by
  unfold civil; simp only; omega

/-! ### Create does not depend on where the volume starts -/

/-- the write list of FAT12/FAT16 Create at `start` is the list at 0 shifted: same lengths, same data -/
theorem create_start_independent (is16 : Bool) (L : Layout) (serial : Nat) (label : List Nat) (fat rootDir : Bytes)
    (start : Nat) :
    (shift start (createWrs1x is16 L serial label fat rootDir)).map (·.data) = (createWrs1x is16 L serial label fat rootDir).map (·.data) ∧
    (shift start (createWrs1x is16 L serial label fat rootDir)).map (·.off) =
      (createWrs1x is16 L serial label fat rootDir).map (start + ·.off) := by
  simp [shift, List.map_map, Function.comp_def]

/-- hence byte `i` of the volume after Create at `start` equals byte `i` after Create at 0 applied to
    the same prior volume content — for every prior device, every start, every byte -/
theorem create_image_start_independent (d : Dev) (is16 : Bool) (L : Layout) (serial : Nat) (label : List Nat)
    (fat rootDir : Bytes) (start i : Nat) :
    applyWrs d (shift start (createWrs1x is16 L serial label fat rootDir)) (start + i) =
    applyWrs (fun j => d (start + j)) (createWrs1x is16 L serial label fat rootDir) i :=
  applyWrs_shift d start _ i

/-- two blank devices: the volume bytes agree whatever the two starts are -/
theorem create_blank_two_starts (is16 : Bool) (L : Layout) (serial : Nat) (label : List Nat) (fat rootDir : Bytes)
    (s1 s2 i : Nat) :
    applyWrs (fun _ => 0) (shift s1 (createWrs1x is16 L serial label fat rootDir)) (s1 + i) =
    applyWrs (fun _ => 0) (shift s2 (createWrs1x is16 L serial label fat rootDir)) (s2 + i) := by
  rw [applyWrs_shift, applyWrs_shift]

/-! ### the WHOLE image Create writes — FAT12, FAT16 and FAT32 — as a function of (size, label, epoch)

  `createImage` (Model/Repro.lean) is every WriteAt of Create in reproducible mode with its full data: boot sector
  (FAT32: backup, FSInfo, FSInfo backup), both FAT copies from the fresh table, the zeroed root directory, then
  SetLabel: boot sector(s) with the label and the root directory holding the volume-label entry whose five date /
  time words are the packing of SOURCE_DATE_EPOCH.  Its arguments are the size, the label and the epoch: neither
  the wall clock nor the start offset nor the prior device content is one.  The run compares the CRC32 of every
  real WriteAt of fat12/fat16/fat32.Create, in both child processes, with this function (op repro.image). -/

/-- start offset: the volume bytes after Create at `start` are the image applied to the volume's own prior content -/
theorem create_whole_image_start_independent (P : Detect.Params) (k : FatKind) (size : Nat) (label : List Nat) (epoch : Nat)
    (img : List Wr) (_h : createImage P k size label epoch = some img) (d : Dev) (start i : Nat) :
    applyWrs d (shift start img) (start + i) = applyWrs (fun j => d (start + j)) img i :=
  applyWrs_shift d start img i

/-- two blank devices, two different starts: every byte of the volume agrees (FAT32 included) -/
theorem create_whole_image_blank_two_starts (P : Detect.Params) (k : FatKind) (size : Nat) (label : List Nat) (epoch : Nat)
    (img : List Wr) (_h : createImage P k size label epoch = some img) (s1 s2 i : Nat) :
    applyWrs (fun _ => 0) (shift s1 img) (s1 + i) = applyWrs (fun _ => 0) (shift s2 img) (s2 + i) := by
  rw [applyWrs_shift, applyWrs_shift]

/-- two runs over DIFFERENT prior device contents at different starts: every volume byte Create writes agrees -/
theorem create_whole_image_two_runs (P : Detect.Params) (k : FatKind) (size : Nat) (label : List Nat) (epoch : Nat)
    (img : List Wr) (_h : createImage P k size label epoch = some img) (d1 d2 : Dev) (s1 s2 i : Nat) (hc : Covered img i) :
    applyWrs d1 (shift s1 img) (s1 + i) = applyWrs d2 (shift s2 img) (s2 + i) := by
  rw [applyWrs_shift, applyWrs_shift]
  exact applyWrs_covered img i _ _ (Or.inr hc)

/-- …and for FAT32 that is: the boot sector, the FSInfo sector, their backups in sectors 6 and 7, both FATs and
    the root directory cluster -/
theorem create32_covers (P : Detect.Params) (size : Nat) (label : List Nat) (epoch : Nat) (img : List Wr)
    (h : createImage P .f32 size label epoch = some img) :
    ∃ L, layout32 P size 512 = some L ∧
      ∀ i, (i < 2 * L.bps ∨ (6 * L.bps ≤ i ∧ i < 8 * L.bps) ∨
            (32 * L.bps ≤ i ∧ i < 32 * L.bps + 2 * (L.spf * L.bps) + L.spc * L.bps)) → Covered img i := by
  obtain ⟨L, hl, rfl⟩ := Option.map_eq_some_iff.1 h
  refine ⟨L, hl, fun i hi => ?_⟩
  -- covered by the list = inside the range of one of its writes; the seven ranges named are those of
  -- writes 0, 4, 1, 5, 2, 3, 6
  simp only [Covered, createWrs32, List.mem_cons, List.not_mem_nil, or_false, exists_eq_or_imp, exists_eq_left,
    sectorBytes_length, take_pad_length, zeros_length]
  omega

/-- …and for FAT12 / FAT16: the boot sector, both FATs and the whole fixed root directory -/
theorem create1x_covers (P : Detect.Params) (is16 : Bool) (size : Nat) (label : List Nat) (epoch : Nat) (img : List Wr)
    (h : createImage P (if is16 then .f16 else .f12) size label epoch = some img) :
    ∃ L, (if is16 then layout16 P size else layout12 P size) = some L ∧
      ∀ i, (i < 512 ∨ (L.reserved * 512 ≤ i ∧ i < L.reserved * 512 + 2 * (L.spf * 512) + L.rootEnts * 32)) → Covered img i := by
  -- the ranges of writes 0 .. 3 of the list
  have key : ∀ (L : Layout) (fat rootDir : Bytes) (i : Nat),
      (i < 512 ∨ (L.reserved * 512 ≤ i ∧ i < L.reserved * 512 + 2 * (L.spf * 512) + L.rootEnts * 32)) →
      Covered (createWrs1x is16 L 0 label fat rootDir) i := by
    intro L fat rootDir i hi
    simp only [Covered, createWrs1x, List.mem_cons, List.not_mem_nil, or_false, exists_eq_or_imp, exists_eq_left,
      sectorBytes_length, take_pad_length, zeros_length]
    omega
  cases is16 <;> simp only [createImage, Bool.false_eq_true, if_true, if_false] at h ⊢ <;>
    obtain ⟨L, hl, rfl⟩ := Option.map_eq_some_iff.1 h <;> exact ⟨L, hl, key L _ _⟩

/-- clock: the image of an odd epoch is the image of the even second before it, and nothing finer than the epoch
    enters (FAT's two-second resolution; `odd_second_same_words` lifted to the whole image) -/
theorem create_whole_image_odd_epoch (P : Detect.Params) (k : FatKind) (size : Nat) (label : List Nat) (e : Nat)
    (he : e % 2 = 0) : createImage P k size label (e + 1) = createImage P k size label e := by
  unfold createImage labelEntry
  rw [odd_second_same_words e he]

/-! ### MBR: write (read img) changes nothing -/

/-- for every device content on which mbr.Read succeeds, writing the table that was read leaves every
    byte as it was (boot code and disk signature included: Write only touches 446..511) -/
theorem mbr_write_idempotent (d : Dev) (t : MbrTable) (h : mbrRead d = some t) (i : Nat) :
    applyWrs d t.write i = d i := by
  rw [MbrTable.write, mbrRead_toBytes d t h]
  exact congrFun (applyWr_readback d ⟨446, readAt d 446 66⟩ (by rw [readAt_length])) i

/-- the same at the Table level of the model the C02 / C15 checks tie to the code (Model/MbrTable.lean: mbr.Read stamps
    the caller's sector sizes, Table.Write refuses more than four partitions): for ANY device content mbr.Read accepts,
    with any sector sizes, the Write of the table just read is accepted and changes no byte of the device (op
    repro.mbrrw compares the real rewrite's WriteAt with the model's on the sector of every generated table) -/
theorem mbr_table_rewrite_idempotent (d : Dev) (devSize : Nat) (lbs pbs : Int) (t : Mbr.Table)
    (h : (Mbr.readT d devSize lbs pbs).1 = .ok t) : ∃ ws, Mbr.writeT t = some ws ∧ applyWrs d ws = d :=
  Mbr.readT_rewrite_noop d devSize lbs pbs t h

/-- writing the same table twice gives the same bytes (the encoder is a function of the table) -/
theorem mbr_write_twice (d : Dev) (t : MbrTable) (i : Nat) :
    applyWrs (applyWrs d t.write) t.write i = applyWrs d t.write i :=
  congrFun (applyWrs_twice d t.write) i

/-! ### tables: the bytes a Write leaves are a function of the table alone -/

/-- GPT: `Gpt.write` takes (behaviour switches, CRC function, table incl. every GUID, disk size) and nothing else — no
    clock, no random source, no prior device content.  Hence: on two devices with ANY prior contents the bytes of every
    region Table.Write writes (protective MBR, both headers, both entry arrays) agree, and writing the same table a
    second time changes nothing (the model is tied to the real Table.Write by op gpt.write of the C02 check; here the
    real code is exercised by the two-process differential) -/
theorem gpt_write_image_function (c : Gpt.Cfg) (crc : Bytes → Nat) (t : Gpt.Table) (size : Nat) (ws : List Wr) (t' : Gpt.Table)
    (_h : Gpt.write c crc t size = .ok (ws, t')) (d1 d2 : Dev) :
    (∀ i, Covered ws i → applyWrs d1 ws i = applyWrs d2 ws i) ∧ applyWrs (applyWrs d1 ws) ws = applyWrs d1 ws :=
  ⟨fun i hc => applyWrs_covered ws i d1 d2 (Or.inr hc), applyWrs_twice d1 ws⟩

/-- MBR at the Table level and the Create images alike: any accepted write list applied twice equals once -/
theorem mbr_table_write_twice (t : Mbr.Table) (ws : List Wr) (_h : Mbr.writeT t = some ws) (d : Dev) :
    applyWrs (applyWrs d ws) ws = applyWrs d ws :=
  applyWrs_twice d ws

/-- every call to time.Now / uuid.New* / rand.* / process identity in the FAT, GPT, MBR, partition,
    disk.go and timestamp code is under one of the three admissible guards (`!reproducible`,
    `GUID == ""`, SOURCE_DATE_EPOCH unset); none is unguarded; no range over a map -/
theorem facts_agree_nondet :
    Generated.Repro.nondetUnguarded = 0 ∧
    Generated.Repro.nondetGuardKinds.all (fun k => k == "not-reproducible" || k == "guid-empty" || k == "epoch-unset") = true ∧
    Generated.Repro.mapRanges = [] := by decide

/-- disk.CreateFilesystem hands spec.Reproducible to all three FAT Creates; the FAT directory code
    takes its clock from timestamp.GetTime -/
theorem facts_agree_plumbing :
    Generated.Repro.reproduciblePlumbedCreates = 3 ∧ 0 < Generated.Repro.fatDirectoryGetTimeUses := by decide

/-! non-vacuity -/
example : timeToDateTime 1700000001 = timeToDateTime 1700000000 := odd_second_same_words 1700000000 (by decide)
example : (civil 4354819199).year = 2107 := by decide
example : mbrRead (fun i => if i = 510 then 0x55 else if i = 511 then 0xAA else if i = 446 then 0x80 else 0) ≠ none := by
  decide

end Diskfs.Repro.C14
