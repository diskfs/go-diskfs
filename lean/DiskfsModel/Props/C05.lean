/-
  C05 — every ext4 image the library produces is clean for e2fsck.
  e2fsck itself is outside Lean: it is the property's own observation point and the engine's oracle.
  Proved here, for all inputs, about the logic that decides whether pass 5 (group summary) and the layout can
  be right at all:

  * the accounting machine (Model/Ext4/Alloc.lean): `AccInv` — every group's free counters equal the number of
    clear bits of its bitmaps and the superblock counters equal the sums — is preserved by allocateExtents for
    every answer of the allocation policy, by deallocateExtents, by allocateInode, by Remove's release of an
    inode and its blocks (repaired bookkeeping, `remove_restores_inv`) and by every REFUSED call
    (`accounting_inv`, `accounting_inv_history` for all sequences of these); Remove's accounting as found
    (before fix cde94d7) breaks it on a concrete state (`cex_ext4_remove_accounting`).  allocateExtents carried out
    with its own choice of blocks is accepted by the machine unless fewer than `n` blocks are free or more than
    65535 are asked for (`alloc_policy_accepted`); deallocateExtents on absolute block numbers keeps the invariant
    with the repaired group arithmetic, and breaks it as found when firstDataBlock = 0 (`dealloc_restores_inv`,
    `cex_ext4_dealloc_block_group`).
  * the mkfs layout arithmetic (Model/Ext4/Mkfs.lean) for every accepted parameter set: counts are consistent
    (inodes per group a multiple of 8, inode count = groups × inodes per group, the block count lies between
    groups - 1 and groups times the blocks per group), and — when the metadata fits behind the flex owner (`Fits`, decidable, checked by the driver for
    every generated parameter set) — the per-group metadata regions are pairwise disjoint, lie behind the
    superblock / GDT copy and inside the owner's block group (`mkfs_regions_disjoint`, `mkfs_layout_inside`).
  * the block bitmap of every group as Create builds it (Model/Ext4/MkfsBitmap.lean: `mkBitmaps`, `markedBit`): under
    `Fits` the marked bits among a group's real blocks are exactly the prefix of length `overhead` — superblock,
    ceil(groups × descriptor size / block size) GDT blocks and the reserved GDT blocks in a group with a backup,
    then the slots of the group itself / of its whole flex group (`mkfs_bitmap_marked`,
    `mkfs_bitmap_backup_group`, `_noflex`) — and the descriptor's free count is the group size minus the
    number of marked bits (`mkfs_free_is_unmarked`).
  * link counts and used-directories counters (Model/Ext4/Links.lean): the bookkeeping of Mkdir / create / Symlink
    and Remove keeps "a directory has 2 + #sub-directories links, everything else 1, each group's counter is the
    number of its directory inodes" along every history (`links_inv`, `links_inv_history`).
  * writeDirectory's decision about a directory's blocks (Model/Ext4/DirGrow.lean) on the accounting machine, for
    every answer of the allocator: `AccInv` in every branch (`dir_write_keeps_inv`), what growth and relocation own
    and release (`dir_grown_owns_old_and_extra`, `dir_relocated_accounting`), and the blocks the two refusals inside
    the relocation left without an owner before fix b3817b1, which the model mirrors without a switch for that fix
    (`dir_refused_relocation_orphans`, `cex_ext4_dir_relocate_leak`).
  * ownership (Model/Ext4/Own.lean): every file owns a list of blocks; create, growth by one allocateExtents answer
    and Remove keep `AccInv` together with "owned blocks are pairwise distinct and marked, i_blocks counts them"
    (`ownership_inv`, `ownership_inv_history`), so the guard of `remove_restores_inv` on the blocks - marked, pairwise
    distinct - holds for the machine's file records (`remove_guard_from_ownership`).

  PARTIAL: journal, resize inode, the contents of extent-tree blocks, directory blocks and checksums are
  not modelled; that the machine's file records are the inodes on disk, and that the inode Remove releases is
  marked, stay hypotheses (checked on every grow step and Remove of the sampled histories by the correspondence).
-/
import DiskfsModel.Proofs.Ext4Alloc
import DiskfsModel.Proofs.Ext4AllocSlow
import DiskfsModel.Proofs.Ext4Mkfs
import DiskfsModel.Proofs.Ext4MkfsBitmap
import DiskfsModel.Proofs.Ext4Links
import DiskfsModel.Proofs.Ext4Own
import DiskfsModel.Proofs.Ext4DirGrow
namespace Diskfs.Ext4.C05
open Diskfs.Ext4 Diskfs.Ext4.Alloc Diskfs.Ext4.Mkfs

/-- accounting_inv: every operation of the machine — carried out or refused — keeps counters = bitmaps -/
theorem accounting_inv (s : Acc) (op : Op) (h : AccInv s) : AccInv (step s op).state := by
  cases op with
  | alloc n c => exact allocExtents_inv s n c h
  | dealloc rs => exact deallocExtents_inv s rs h
  | newInode d => exact allocInode_inv s d h
  | remove geo ino blocks d => exact removeOp_inv geo s ino blocks d h
  | free geo blocks => exact freeBlocksOp_inv geo s blocks h

/-- a refused allocation leaves the state untouched -/
theorem alloc_refused_unchanged (s : Acc) (n : Nat) (c : Option (List Run)) (s' : Acc)
    (h : allocExtents s n c = .refused s') : s' = s :=
  allocExtents_refused h

/-- histories: the invariant survives every sequence of operations -/
theorem accounting_inv_history (ops : List Op) (s : Acc) (h : AccInv s) :
    AccInv (ops.foldl (fun s op => (step s op).state) s) := by
  induction ops generalizing s with
  | nil => exact h
  | cons op ops ih => exact ih _ (accounting_inv s op h)

/-- alloc_policy_accepted: with consistent counters, allocateExtents carried out with its own choice of blocks
    (fast path, else slow path, any order of the sort) is accepted by the machine whenever it finds blocks, keeps
    `counters = bitmaps`, lowers the superblock counter by exactly `n`, and is refused — leaving the state
    untouched — only when fewer than `n` blocks are free or more than 65535 are asked for. -/
theorem alloc_policy_accepted (order : Nat → List (Nat × Nat) → List (Nat × Nat))
    (horder : ∀ g l, (order g l).Perm l) (s : Acc) (n : Nat) (hn : 0 < n) (h : AccInv s) :
    (∃ s', allocExtents s n (allocPolicy order (s.groups.map (·.bbm)) n) = .ok s' ∧ AccInv s' ∧
      s'.sbFreeBlocks + n = s.sbFreeBlocks) ∨
    (allocExtents s n (allocPolicy order (s.groups.map (·.bbm)) n) = .refused s ∧
      (maxUint16 < n ∨ s.sbFreeBlocks < n)) := by
  have htot := totalFree_of_accInv s h
  obtain ⟨h1, h2⟩ := allocPolicy_spec order horder s n hn
  by_cases hfree : s.sbFreeBlocks < n
  · right
    exact ⟨by simp [allocExtents, hfree], Or.inr hfree⟩
  · cases hp : allocPolicy order (s.groups.map (·.bbm)) n with
    | none =>
      right
      refine ⟨by simp [allocExtents, hfree], ?_⟩
      rcases h2 hp with h3 | h3
      · exact Or.inl h3
      · right; omega
    | some rs =>
      left
      obtain ⟨_, _, hsum, hok⟩ := h1 rs hp
      have hinv := allocExtents_inv s n (some rs) h
      have hres : allocExtents s n (some rs) =
          .ok { rs.foldl markRun s with sbFreeBlocks := (rs.foldl markRun s).sbFreeBlocks - n } := by
        simp [allocExtents, hfree, hok, hsum]
      rw [hres] at hinv ⊢
      refine ⟨_, rfl, hinv, ?_⟩
      simp only [foldl_markRun_sb]
      omega

/-- remove_restores_inv: Remove's bookkeeping as it is now — every block of the inode (data and extent-tree
    blocks) cleared at bit `(b - firstDataBlock) % blocksPerGroup` of group `(b - firstDataBlock) / blocksPerGroup`,
    that group's counter moved by one per cleared bit, the inode's bit `(ino-1) % inodesPerGroup` cleared, the
    group's free-inode counter and both superblock counters (the used-directories counter, which `AccInv` does
    not speak of, is Model/Ext4/Links.lean's) moved by exactly what was
    released — keeps `counters = bitmaps` from EVERY state that satisfies it, for every inode that is marked and
    every list of marked, pairwise distinct blocks (`blocksMarked` threads the state, so a block listed twice is
    not marked the second time), for any geometry. -/
theorem remove_restores_inv (geo : Geom) (s : Acc) (ino : Nat) (blocks : List Nat) (blocks512 : Nat) (isDir : Bool)
    (h : AccInv s) (hb : blocksMarked geo s blocks = true) (hi : inodeMarked geo s ino = true) :
    AccInv (removeInode true geo s ino blocks blocks512 isDir) :=
  removeInode_fixed_inv geo s ino blocks blocks512 isDir h hb hi

/-- and it releases exactly what it says: the superblock counters move by the number of blocks and by one inode -/
theorem remove_counts (geo : Geom) (s : Acc) (ino : Nat) (blocks : List Nat) (blocks512 : Nat) (isDir : Bool) :
    (removeInode true geo s ino blocks blocks512 isDir).sbFreeBlocks = s.sbFreeBlocks + blocks.length ∧
    (removeInode true geo s ino blocks blocks512 isDir).sbFreeInodes = s.sbFreeInodes + 1 := by
  obtain ⟨h1, h2, _⟩ := freeBlocks_frame true geo blocks s
  simp only [removeInode, if_true, h1, h2]
  exact ⟨trivial, trivial⟩

/-- dealloc_restores_inv: deallocateExtents with the repaired arithmetic (group and bit from `b - firstDataBlock`)
    keeps `counters = bitmaps` for every geometry, state and list of marked, pairwise distinct blocks; the
    arithmetic as found (`(b-1)/bpg`) is the same function when firstDataBlock = 1 (1 KiB blocks) … -/
theorem dealloc_restores_inv (geo : Geom) (s : Acc) (blocks : List Nat) (h : AccInv s)
    (hm : blocksMarkedD geo s blocks = true) :
    AccInv (deallocBlocks true geo s blocks) ∧
    (geo.fdb = 1 → deallocBlocks false geo s blocks = deallocBlocks true geo s blocks) := by
  refine ⟨deallocBlocks_fixed_inv geo blocks s h hm, fun h1 => ?_⟩
  have : deallocBlock false geo = deallocBlock true geo := by
    funext t b; exact deallocBlock_asfound_eq geo t b h1
  simp only [deallocBlocks, this]

def dGeo : Geom := ⟨0, 8, 8⟩
/-- two groups of 8 blocks, firstDataBlock = 0; block 8, the first block of group 1, is marked -/
def dState : Acc :=
  ⟨[{ bbm := [true, true, true, false, false, false, false, false], ibm := List.replicate 8 false,
      freeBlocks := 5, freeInodes := 8, usedDirs := 0 },
    { bbm := [true, false, false, false, false, false, false, false], ibm := List.replicate 8 false,
      freeBlocks := 7, freeInodes := 8, usedDirs := 0 }], 12, 16⟩
/-- … and wrong when firstDataBlock = 0 (2 and 4 KiB blocks): as found, the release of block 8 credits group 0
    (whose bitmap has no such bit) and leaves the block marked — counters ≠ bitmaps (finding
    ext4-dealloc-block-group); repaired, the invariant holds. -/
theorem cex_ext4_dealloc_block_group :
    AccInv dState ∧ blocksMarkedD dGeo dState [8] = true ∧
    ¬ AccInv (deallocBlocks false dGeo dState [8]) ∧ AccInv (deallocBlocks true dGeo dState [8]) := by
  refine ⟨by decide, by decide, by decide, by decide⟩

def wGeo : Geom := ⟨1, 8, 8⟩
/-- the witness state: one group of 8 blocks (1 KiB geometry: firstDataBlock = 1) and 8 inodes; inode 3 owns
    blocks 4 and 5 -/
def wState : Acc :=
  ⟨[{ bbm := [true, true, true, true, true, false, false, false],
      ibm := [true, true, true, false, false, false, false, false],
      freeBlocks := 3, freeInodes := 5, usedDirs := 1 }], 3, 5⟩

/-- Remove as found: wrong inode bit, wrong block bit, counters incremented twice — counters ≠ bitmaps -/
theorem cex_ext4_remove_accounting :
    AccInv wState ∧ blocksMarked wGeo wState [4, 5] = true ∧
    ¬ AccInv (removeInode false wGeo wState 3 [4, 5] 4 false) ∧
    AccInv (removeInode true wGeo wState 3 [4, 5] 4 false) := by
  refine ⟨by decide, by decide, by decide, by decide⟩

/-! the repaired Remove as a step of the machine, on the same state -/
example : AccInv wState ∧ blocksMarked wGeo wState [4, 5] = true ∧ inodeMarked wGeo wState 3 = true := by decide
example : (step wState (.remove wGeo 3 [4, 5] false)).state =
    ⟨[{ bbm := [true, true, true, false, false, false, false, false],
        ibm := [true, true, false, false, false, false, false, false],
        freeBlocks := 5, freeInodes := 6, usedDirs := 1 }], 5, 6⟩ := by decide

/-- a block listed twice is refused by the guard (the code would count it twice) -/
example : step wState (.remove wGeo 3 [4, 4] false) = .refused wState := by decide

/-- links_inv: the bookkeeping of Mkdir / create / Symlink (mkDirEntry + initFile: new directory 2 links, anything
    else 1, parent +1 for a directory, the new inode's group's used-directories counter +1) and of Remove (parent
    −1 and counter −1 for a directory) keeps what e2fsck's passes 2–4 compare — every directory has 2 + (number of
    sub-directories) links, everything else 1, every group's counter is the number of its directory inodes, every
    entry's directory exists — for every state, parent, inode number and kind, and every call that is refused. -/
theorem links_inv (s : Links.LState) (op : Links.LOp) (h : Links.LinkInv s) : Links.LinkInv (Links.lstep s op) := by
  cases op with
  | mk p k dir =>
    simp only [Links.lstep]
    split
    · rename_i hg; exact Links.mkEntry_inv s p k dir h hg
    · exact h
  | rm k =>
    simp only [Links.lstep]
    split
    · rename_i hg; exact Links.rmEntry_inv s k h hg
    · exact h

theorem links_inv_history (ops : List Links.LOp) (s : Links.LState) (h : Links.LinkInv s) :
    Links.LinkInv (ops.foldl Links.lstep s) := by
  induction ops generalizing s with
  | nil => exact h
  | cons op ops ih => exact ih _ (links_inv s op h)

/-- a small tree for non-vacuity: the root (inode 2) with one sub-directory, inode 11, in it - a fresh volume after
    one Mkdir (ext4.Create itself leaves the root alone: 2 links, one directory in group 0) -/
def fresh : Links.LState :=
  ⟨[2, 11], fun i => i == 2 || i == 11, fun _ => 2, fun i => if i == 2 then 3 else 2, fun g => if g == 0 then 2 else 0, 1024⟩

theorem fresh_inv : Links.LinkInv fresh := by
  refine ⟨by decide, ?_, ?_, ?_, ?_⟩
  · intro n hn; simp [fresh] at hn ⊢
  · intro d hd _
    simp only [fresh, List.mem_cons, List.not_mem_nil, or_false] at hd
    rcases hd with hd | hd <;> subst hd <;> decide
  · intro n hn hf
    simp only [fresh, List.mem_cons, List.not_mem_nil, or_false] at hn
    rcases hn with hn | hn <;> subst hn <;> simp [fresh] at hf
  · intro g
    by_cases hg : g = 0
    · subst hg; decide
    · have h2 : ((2 - 1) / 1024 == g) = false := by simp; omega
      have h11 : ((11 - 1) / 1024 == g) = false := by simp; omega
      simp [fresh, Links.dirsIn, Links.groupOf, hg, h2]

/-- Mkdir / Remove of a directory move the counters as the code does -/
example : (Links.lstep fresh (.mk 2 12 true)).links 2 = 4 ∧ (Links.lstep fresh (.mk 2 12 true)).links 12 = 2 ∧
    (Links.lstep fresh (.mk 2 12 true)).usedDirs 0 = 3 ∧
    (Links.lstep (Links.lstep fresh (.mk 2 12 true)) (.rm 12)).links 2 = 3 ∧
    (Links.lstep (Links.lstep fresh (.mk 2 12 true)) (.rm 12)).usedDirs 0 = 2 := by decide

/-- mkfs_counts_consistent: inodes per group a multiple of 8, inode count = groups × inodes per group, at least one
    group, and `(groups - 1) × blocks per group < block count ≤ groups × blocks per group` (firstDataBlock is not
    in it: with 1 KiB blocks and a block count of k × blocks per group + 1 the last group holds no block) -/
theorem mkfs_counts_consistent (p : Params) (l : Layout) (h : mkLayout p = .ok l) :
    l.ipg % 8 = 0 ∧ l.inodeCount = l.ipg * l.groups ∧ 0 < l.groups ∧ 0 < l.bpg ∧
    (l.groups - 1) * l.bpg < l.numBlocks ∧ l.numBlocks ≤ l.groups * l.bpg ∧ 0 < l.flexSize := by
  obtain ⟨rfl, h1, _, _, _, hg, _⟩ := mkLayout_guards p l h
  have hbpg := chooseBpg_pos p (chooseBs_ge p h1)
  have hc := ceilDiv_spec (numBlocksOf p) (chooseBpg p) hbpg (Nat.pos_of_ne_zero hg)
  refine ⟨?_, rfl, Nat.pos_of_ne_zero hg, hbpg, hc.1, hc.2, flexSizeOf_pos p⟩
  simp only [layoutOf, ipgOf]; omega

/-- mkfs_regions_disjoint (flex_bg): the metadata slots (block bitmap, inode bitmap, inode table) of two
    different groups never overlap -/
theorem mkfs_regions_disjoint (l : Layout) (hf : 0 < l.flexSize) (hfit : Fits l true)
    (g1 g2 : Nat) (h1 : g1 < l.groups) (h2 : g2 < l.groups) (hne : g1 ≠ g2) :
    metaBase l true g1 + perGroupMeta l ≤ metaBase l true g2 ∨
    metaBase l true g2 + perGroupMeta l ≤ metaBase l true g1 := by
  by_cases ho : flexOwner l g1 = flexOwner l g2
  · rcases Nat.lt_or_gt_of_ne hne with h | h
    · left; exact flex_slots_ordered l g1 g2 ho h
    · right; exact flex_slots_ordered l g2 g1 ho.symm h
  · have i1 := flex_slot_inside l hf hfit g1 h1
    have i2 := flex_slot_inside l hf hfit g2 h2
    have b1 := blocksInGroup_le l (flexOwner l g1)
    have b2 := blocksInGroup_le l (flexOwner l g2)
    rcases Nat.lt_or_gt_of_ne ho with h | h
    · left; have := groupStart_mono l _ _ h; omega
    · right; have := groupStart_mono l _ _ h; omega

/-- mkfs_layout_inside (flex_bg): every group's metadata lies behind the superblock / GDT copy of its flex
    owner and inside that owner's block group -/
theorem mkfs_layout_inside (l : Layout) (hf : 0 < l.flexSize) (hfit : Fits l true) (g : Nat) (hg : g < l.groups) :
    groupStart l (flexOwner l g) + metaBlocks l (flexOwner l g) ≤ metaBase l true g ∧
    metaBase l true g + perGroupMeta l ≤ groupStart l (flexOwner l g) + blocksInGroup l (flexOwner l g) :=
  flex_slot_inside l hf hfit g hg

/-- without flex_bg the same two facts hold group by group -/
theorem mkfs_layout_inside_noflex (l : Layout) (hfit : Fits l false) (g : Nat) (hg : g < l.groups) :
    groupStart l g + metaBlocks l g ≤ metaBase l false g ∧
    metaBase l false g + perGroupMeta l ≤ groupStart l g + blocksInGroup l g := by
  have := hfit g hg
  simp only [Bool.false_eq_true, if_false] at this
  unfold metaBase
  simp only [Bool.false_eq_true, if_false]
  omega

/-! the default 16 MiB volume -/
def p16 : Params := ⟨16 * 1024 * 1024, 0, 0, 0, 0, 0, true, true, true⟩
example : groupsOf p16 = 2 ∧ ipgOf p16 = 1024 ∧ chooseBs p16 = 1024 ∧ flexSizeOf p16 = 8 := by decide
example : Fits ⟨1024, 16384, 8192, 2, 1024, 2048, 1, 256, 64, 1, 256, 8, true⟩ true := by decide

theorem mkLayout_ok (p : Params) (l : Layout) (h : mkLayout p = .ok l) : l = layoutOf p :=
  (mkLayout_guards p l h).1

/-- mkfs_bitmap_marked: when the metadata fits its groups (Fits), the bits buildBlockBitmapForGroup sets among the
    real blocks of group g are exactly the first `overhead` ones: superblock + GDT + reserved GDT blocks if the group
    holds a backup, then the (block bitmap, inode bitmap, inode table) slots of the group itself (no flex_bg) or of
    every group of its flex group (flex_bg, first group of the flex group only) -/
theorem mkfs_bitmap_marked (l : Layout) (flex : Bool) (hf : 0 < l.flexSize) (hfit : Fits l flex) (g : Nat)
    (hg : g < l.groups) (j : Nat) (hj : j < blocksInGroup l g) :
    markedBit l flex g j = true ↔ j < overhead l flex g := by
  cases flex
  · exact markedBit_noflex l hfit g hg j hj
  · exact markedBit_flex l hf hfit g hg j hj

/-- mkfs_bitmap_backup_group (flex_bg): in a group with a superblock backup that is not the first of its flex group,
    exactly 1 + ceil(groups * descriptor size / block size) + reserved GDT blocks are marked and nothing else, for
    every layout Create computes -/
theorem mkfs_bitmap_backup_group (p : Params) (l : Layout) (hl : mkLayout p = .ok l) (hfit : Fits l true) (g : Nat)
    (hg : g < l.groups) (hs : hasSuper g = true) (hno : g ≠ flexOwner l g) (j : Nat) (hj : j < blocksInGroup l g) :
    markedBit l true g j = true ↔ j < 1 + ceilDiv (l.groups * l.descSize) l.bs + l.rsvGdt := by
  have hf := (mkfs_counts_consistent p l hl).2.2.2.2.2.2
  rw [mkfs_bitmap_marked l true hf hfit g hg j hj]
  have hgdt : l.gdtBlocks = ceilDiv (l.groups * l.descSize) l.bs := by
    rw [mkLayout_ok p l hl]; rfl
  unfold overhead metaBlocks
  simp only [hs, if_true, if_neg hno, hgdt, Nat.add_zero]

/-- the same without flex_bg: the backup's blocks, then the group's own two bitmaps and inode table of
    ceil(inodes per group * 256 / block size) blocks -/
theorem mkfs_bitmap_backup_group_noflex (p : Params) (l : Layout) (hl : mkLayout p = .ok l) (hfit : Fits l false)
    (g : Nat) (hg : g < l.groups) (hs : hasSuper g = true) (j : Nat) (hj : j < blocksInGroup l g) :
    markedBit l false g j = true ↔
      j < 1 + ceilDiv (l.groups * l.descSize) l.bs + l.rsvGdt + (2 + ceilDiv (l.ipg * 256) l.bs) := by
  have hf := (mkfs_counts_consistent p l hl).2.2.2.2.2.2
  rw [mkfs_bitmap_marked l false hf hfit g hg j hj]
  have hgdt : l.gdtBlocks = ceilDiv (l.groups * l.descSize) l.bs := by
    rw [mkLayout_ok p l hl]; rfl
  have hitb : l.itb = ceilDiv (l.ipg * 256) l.bs := by
    rw [mkLayout_ok p l hl]; rfl
  unfold overhead metaBlocks perGroupMeta
  simp only [hs, if_true, Bool.false_eq_true, if_false, hgdt, hitb]

/-- mkfs_free_is_unmarked: the free count buildGroupDescriptorsFromSuperblock records for a group is the number of
    its real blocks minus the number of marked bits of its bitmap -/
theorem mkfs_free_is_unmarked (l : Layout) (flex : Bool) (hf : 0 < l.flexSize) (hfit : Fits l flex) (g : Nat)
    (hg : g < l.groups) :
    markedCount l flex g ≤ blocksInGroup l g ∧ initialFree l flex g = blocksInGroup l g - markedCount l flex g := by
  have hc : markedCount l flex g = min (overhead l flex g) (blocksInGroup l g) :=
    filter_prefix_length _ _ _ (fun j hj => mkfs_bitmap_marked l flex hf hfit g hg j hj)
  rw [hc]
  -- `initialFree` computes `overhead` again in a `let` of its own: the two texts agree, hence `rfl`
  exact ⟨Nat.min_le_right _ _, rfl⟩

/-! non-vacuity: 32 MiB, 1 KiB blocks, 2048 blocks per group: 16 groups = one full GDT block of 64-byte descriptors -/
def p32 : Params := ⟨32 * 1024 * 1024, 0, 2048, 0, 0, 0, false, true, true⟩
def l32 : Layout := ⟨1024, 32768, 2048, 16, 256, 4096, 1, 0, 64, 1, 64, 8, false⟩
example : mkLayout p32 = .ok l32 := by rfl
example : Fits l32 true := by decide
/-- group 1 holds a backup and is not the first of its flex group: superblock and one GDT block, the third block free -/
example : hasSuper 1 = true ∧ 1 ≠ flexOwner l32 1 ∧ markedBit l32 true 1 1 = true ∧ markedBit l32 true 1 2 = false := by decide
/-- groups / descriptors per block + 1 is not the number of GDT blocks when the division is exact -/
example : 16 / (1024 / 64) + 1 ≠ ceilDiv (16 * 64) 1024 := by decide
example : initialFree l32 true 1 = 2046 ∧ initialFree l32 true 0 = 2048 - (2 + 8 * 66) := by decide

end Diskfs.Ext4.C05

/-! ### writeDirectory: growth and relocation of a directory (Model/Ext4/DirGrow.lean)

  `DirGrow.writeDir` mirrors the decision writeDirectory takes about a directory's blocks (padding, in place,
  growth by allocateExtents + mergeExtents, relocation when the merged list has more than 4 extents) on the
  accounting machine; `pol` is allocateExtents' choice of blocks - the theorems hold for every `pol`. -/
namespace Diskfs.Ext4.C05
open Diskfs.Ext4 Diskfs.Ext4.Alloc Diskfs.Ext4.DirGrow

/-- dir_write_keeps_inv: `counters = bitmaps` survives writeDirectory in every branch - padded, in place, grown,
    relocated, and every refused call, whatever it leaves behind -/
theorem dir_write_keeps_inv (geo : Geom) (pol : Acc → Nat → Option (List Run)) (bs : Nat) (s : Acc)
    (old : List Extent) (nbytes : Nat) (h : AccInv s) : AccInv (writeDir geo pol bs s old nbytes).state := by
  have hr := writeDir_run geo pol bs s old nbytes
  generalize writeDir geo pol bs s old nbytes = out at hr ⊢
  cases hr with
  | padded _ | inplace _ | refusedExtra _ _ => exact h
  | grown _ _ _ h1 _ | refusedFresh _ _ _ h1 _ _ => exact (allocCall_spec h1).1 h
  | refusedMany _ _ _ _ _ h1 _ h2 _ | guard _ _ _ _ h1 h2 => exact (allocCall_spec h2).1 ((allocCall_spec h1).1 h)
  | relocated _ _ _ _ _ h1 _ h2 _ hm =>
    exact deallocBlocks_fixed_inv geo _ _ ((allocCall_spec h2).1 ((allocCall_spec h1).1 h)) hm

/-- dir_merge_keeps_blocks: mergeExtents (sort by file block, merge extents adjacent in file AND on disk, counts
    added in uint16) maps every file block to the same disk block as its input, in file order, and keeps the
    number of blocks - for every list of fewer than 65536 blocks -/
theorem dir_merge_keeps_blocks (es : List Extent) (h : blockCount es < 65536) :
    blocksOf (mergeExtents es) = blocksOf (sortE es) ∧ (blocksOf (mergeExtents es)).Perm (blocksOf es) ∧
    blockCount (mergeExtents es) = blockCount es := by
  have key := mergeExtents_blocks es h
  refine ⟨key, ?_, ?_⟩
  · rw [key]; exact blocksOf_perm (sortE_perm es)
  · rw [← blocksOf_length, key, blocksOf_length]; exact blockCount_perm (sortE_perm es)
example : blockCount [(⟨2, 12, 1⟩ : Extent), ⟨0, 10, 2⟩] < 65536 ∧ mergeExtents [⟨2, 12, 1⟩, ⟨0, 10, 2⟩] = [⟨0, 10, 3⟩] := by decide

/-- dir_grown_owns_old_and_extra: when writeDirectory grows a directory, the extra blocks come from one accepted
    allocateExtents call for exactly `required - have` blocks, the free counter goes down by exactly that, the
    inode's list (at most 4 extents) holds `required` blocks: the old (file block, disk block) pairs and the extra
    ones, in file order (old ++ extra when the old list is contiguous from file block 0), nothing is orphaned -/
theorem dir_grown_owns_old_and_extra (geo : Geom) (pol : Acc → Nat → Option (List Run)) (bs : Nat) (s : Acc)
    (old : List Extent) (nbytes : Nat) (hreq : requiredBlocks bs nbytes < 65536)
    (h : (writeDir geo pol bs s old nbytes).kind = .grown) :
    ∃ s1 extra, allocCall geo pol s (blockCount old) (requiredBlocks bs nbytes - blockCount old) = some (s1, extra) ∧
      blockCount old < requiredBlocks bs nbytes ∧
      (writeDir geo pol bs s old nbytes).state = s1 ∧
      (writeDir geo pol bs s old nbytes).extents = mergeExtents (old ++ extra) ∧
      (writeDir geo pol bs s old nbytes).extents.length ≤ 4 ∧
      (writeDir geo pol bs s old nbytes).orphans = [] ∧
      blockCount (writeDir geo pol bs s old nbytes).extents = requiredBlocks bs nbytes ∧
      s1.sbFreeBlocks + (requiredBlocks bs nbytes - blockCount old) = s.sbFreeBlocks ∧
      blocksOf (writeDir geo pol bs s old nbytes).extents = blocksOf (sortE (old ++ extra)) ∧
      (contigFrom 0 old → blocksOf (writeDir geo pol bs s old nbytes).extents = blocksOf old ++ blocksOf extra) := by
  have hr := writeDir_run geo pol bs s old nbytes
  generalize writeDir geo pol bs s old nbytes = out at hr h ⊢
  cases hr with
  | grown s1 extra hlt h1 hlen =>
    obtain ⟨_, hsb, hcnt, hcontig⟩ := allocCall_spec h1
    have htot : blockCount (old ++ extra) = requiredBlocks bs nbytes := by
      rw [blockCount_append, hcnt, Nat.add_sub_cancel' (Nat.le_of_lt hlt)]
    obtain ⟨m1, _, m3⟩ := dir_merge_keeps_blocks (old ++ extra) (htot ▸ hreq)
    refine ⟨s1, extra, h1, hlt, rfl, rfl, hlen, rfl, by simp only [m3, htot], hsb, m1, fun hc => ?_⟩
    have hsorted : SortedFB (old ++ extra) :=
      contigFrom_sorted _ 0 ((contigFrom_append old extra 0).2 ⟨hc, by simpa using hcontig⟩)
    simp only [m1, sortE_of_sorted _ hsorted, blocksOf_append]
  | _ => cases h
example : requiredBlocks 1024 4096 < 65536 ∧ (writeDir xGeo fastPol 1024 (xState false) (xOld.take 3) 4096).kind = .grown ∧
    contigFrom 0 (xOld.take 3) := by decide

/-- dir_relocated_accounting: when writeDirectory relocates a directory (the merged list would have more than 4
    extents), two allocateExtents calls were accepted - the extra blocks, then `required` fresh ones numbered from
    file block 0 in at most 4 extents -, the blocks released are the blocks of mergeExtents(old ++ extra): the old
    blocks and the extra ones just taken, each once, all marked; the directory owns exactly the fresh blocks and
    the superblock's free counter has changed by exactly (old count - new count); nothing is orphaned -/
theorem dir_relocated_accounting (geo : Geom) (pol : Acc → Nat → Option (List Run)) (bs : Nat) (s : Acc)
    (old : List Extent) (nbytes : Nat) (hreq : requiredBlocks bs nbytes < 65536)
    (h : (writeDir geo pol bs s old nbytes).kind = .relocated) :
    ∃ s1 extra s2 fresh,
      allocCall geo pol s (blockCount old) (requiredBlocks bs nbytes - blockCount old) = some (s1, extra) ∧
      allocCall geo pol s1 0 (requiredBlocks bs nbytes) = some (s2, fresh) ∧
      4 < (mergeExtents (old ++ extra)).length ∧
      (writeDir geo pol bs s old nbytes).extents = fresh ∧ fresh.length ≤ 4 ∧ contigFrom 0 fresh ∧
      blockCount fresh = requiredBlocks bs nbytes ∧
      (writeDir geo pol bs s old nbytes).orphans = [] ∧
      blocksMarkedD geo s2 (diskBlocks (mergeExtents (old ++ extra))) = true ∧
      (writeDir geo pol bs s old nbytes).state = deallocBlocks true geo s2 (diskBlocks (mergeExtents (old ++ extra))) ∧
      (diskBlocks (mergeExtents (old ++ extra))).Perm (diskBlocks old ++ diskBlocks extra) ∧
      (writeDir geo pol bs s old nbytes).state.sbFreeBlocks + requiredBlocks bs nbytes = s.sbFreeBlocks + blockCount old := by
  have hr := writeDir_run geo pol bs s old nbytes
  generalize hout : writeDir geo pol bs s old nbytes = out at hr h
  cases hr with
  | relocated s1 extra s2 fresh hlt h1 hlen h2 hfl hm =>
    obtain ⟨_, hsb1, hcnt1, _⟩ := allocCall_spec h1
    obtain ⟨_, hsb2, hcnt2, hcontig2⟩ := allocCall_spec h2
    have htot : blockCount (old ++ extra) = requiredBlocks bs nbytes := by
      rw [blockCount_append, hcnt1, Nat.add_sub_cancel' (Nat.le_of_lt hlt)]
    obtain ⟨_, m2, m3⟩ := dir_merge_keeps_blocks (old ++ extra) (htot ▸ hreq)
    refine ⟨s1, extra, s2, fresh, h1, h2, hlen, rfl, hfl, hcontig2, hcnt2, rfl, hm, rfl, ?_, ?_⟩
    · simpa [diskBlocks, blocksOf_append] using m2.map (·.2)
    · simp only [deallocBlocks_sb, diskBlocks_length, m3, htot]
      clear hm h1 h2 hcontig2 m2 hfl hlen
      omega
  | _ => cases h
example : requiredBlocks 1024 5120 < 65536 ∧ (writeDir xGeo fastPol 1024 (xState false) xOld 5120).kind = .relocated := by decide

/-- dir_refused_before_alloc_unchanged: a call that pads, writes in place or is refused for the extra blocks leaves
    the state and the directory's extent list untouched -/
theorem dir_refused_before_alloc_unchanged (geo : Geom) (pol : Acc → Nat → Option (List Run)) (bs : Nat) (s : Acc)
    (old : List Extent) (nbytes : Nat)
    (h : (writeDir geo pol bs s old nbytes).kind = .padded ∨ (writeDir geo pol bs s old nbytes).kind = .inplace ∨
         (writeDir geo pol bs s old nbytes).kind = .refusedExtra) :
    (writeDir geo pol bs s old nbytes).state = s ∧ (writeDir geo pol bs s old nbytes).extents = old ∧
    (writeDir geo pol bs s old nbytes).orphans = [] := by
  have hr := writeDir_run geo pol bs s old nbytes
  generalize writeDir geo pol bs s old nbytes = out at hr h ⊢
  cases hr with
  | padded _ | inplace _ | refusedExtra _ _ => exact ⟨rfl, rfl, rfl⟩
  | _ => rcases h with h | h | h <;> cases h
example : (writeDir xGeo fastPol 1024 (xState true) xOld 6000).kind = .refusedExtra := by decide

/-- dir_refused_relocation_orphans: the two refusals INSIDE the relocation, as the code was before fix b3817b1 (it
    now gives the blocks back; the model has no switch for that fix), return the error after blocks were taken: the
    directory keeps its old extent list and the free counter has gone down by exactly the number of blocks listed
    as orphans - the extra blocks (fresh allocation failed: at least one) resp. the extra and the fresh blocks
    (fresh allocation in more than 4 extents: `2 * required - have`); the invariant holds (dir_write_keeps_inv) -/
theorem dir_refused_relocation_orphans (geo : Geom) (pol : Acc → Nat → Option (List Run)) (bs : Nat) (s : Acc)
    (old : List Extent) (nbytes : Nat) :
    ((writeDir geo pol bs s old nbytes).kind = .refusedFresh →
      (writeDir geo pol bs s old nbytes).extents = old ∧ 0 < (writeDir geo pol bs s old nbytes).orphans.length ∧
      (writeDir geo pol bs s old nbytes).state.sbFreeBlocks + (writeDir geo pol bs s old nbytes).orphans.length = s.sbFreeBlocks) ∧
    ((writeDir geo pol bs s old nbytes).kind = .refusedMany →
      (writeDir geo pol bs s old nbytes).extents = old ∧
      (writeDir geo pol bs s old nbytes).orphans.length = 2 * requiredBlocks bs nbytes - blockCount old ∧
      (writeDir geo pol bs s old nbytes).state.sbFreeBlocks + (writeDir geo pol bs s old nbytes).orphans.length = s.sbFreeBlocks) := by
  have hr := writeDir_run geo pol bs s old nbytes
  generalize writeDir geo pol bs s old nbytes = out at hr ⊢
  cases hr with
  | refusedFresh s1 extra hlt h1 _ _ =>
    obtain ⟨_, hsb1, hcnt1, _⟩ := allocCall_spec h1
    refine ⟨fun _ => ?_, fun h => nomatch h⟩
    simp only [diskBlocks_length, hcnt1]
    exact ⟨trivial, Nat.sub_pos_of_lt hlt, hsb1⟩
  | refusedMany s1 extra s2 fresh hlt h1 _ h2 _ =>
    obtain ⟨_, hsb1, hcnt1, _⟩ := allocCall_spec h1
    obtain ⟨_, hsb2, hcnt2, _⟩ := allocCall_spec h2
    refine ⟨(fun h => by cases h), fun _ => ?_⟩
    simp only [List.length_append, diskBlocks_length, hcnt1, hcnt2]
    exact ⟨trivial, by omega, by omega⟩
  | _ => constructor <;> intro h <;> cases h
example : (writeDir xGeo manyPol 1024 (xState false) xOld 5120).kind = .refusedMany := by decide

/-- cex_ext4_dir_relocate_leak (finding ext4-dir-relocate-refused-leaks-blocks, repaired by fix b3817b1; the model
    is the code before it): a directory of four single-block extents needs a fifth block, one block (10) is free and
    not adjacent: writeDirectory took it, found no room for the 5 fresh blocks and returned the error - block 10 was
    free before, is marked afterwards and out of the counters, and the directory still lists its four old extents -/
theorem cex_ext4_dir_relocate_leak :
    AccInv (xState true) ∧ blocksMarkedD xGeo (xState true) (diskBlocks xOld) = true ∧
    (writeDir xGeo fastPol 1024 (xState true) xOld 5120).kind = .refusedFresh ∧
    (writeDir xGeo fastPol 1024 (xState true) xOld 5120).extents = xOld ∧
    (writeDir xGeo fastPol 1024 (xState true) xOld 5120).orphans = [10] ∧
    blockMarked xGeo (writeDir xGeo fastPol 1024 (xState true) xOld 5120).state 10 = true ∧
    blockMarked xGeo (xState true) 10 = false ∧
    (writeDir xGeo fastPol 1024 (xState true) xOld 5120).state.sbFreeBlocks = 0 ∧
    AccInv (writeDir xGeo fastPol 1024 (xState true) xOld 5120).state :=
  DirGrow.cex_ext4_dir_relocate_leak

end Diskfs.Ext4.C05

/-! ### ownership: which file owns which marked block (Model/Ext4/Own.lean)

  The guards of `remove_restores_inv` / `dealloc_restores_inv` ("the blocks are marked, pairwise distinct") are what
  the code does not check - it trusts the inode. The ownership layer turns them into consequences of an invariant
  that every operation keeps: each file owns a list of blocks (its data blocks AND the node blocks of its extent
  tree: the `metaBlocks` extendExtentTree takes from the allocator, `exttree_history_inv` in Props/C04), grows by
  the blocks of one allocateExtents answer at a time, and Remove releases exactly what it owns. -/
namespace Diskfs.Ext4.C05
open Diskfs.Ext4 Diskfs.Ext4.Alloc

/-- remove_frees_only_own_blocks: Remove of a file that owns its blocks (pairwise distinct, each marked: a
    per-block condition, not the threaded guard) keeps `counters = bitmaps`, frees exactly these blocks and leaves
    the state of EVERY other block as it was, so every other file still owns what it owned -/
theorem remove_frees_only_own_blocks (geo : Geom) (s : Acc) (ino : Nat) (blocks : List Nat) (isDir : Bool)
    (h : AccInv s) (hnd : blocks.Nodup) (hm : ∀ b ∈ blocks, blockMarked geo s b = true)
    (hi : inodeMarked geo s ino = true) :
    removeOp geo s ino blocks isDir = .ok (removeInode true geo s ino blocks 0 isDir) ∧
    AccInv (removeInode true geo s ino blocks 0 isDir) ∧
    (removeInode true geo s ino blocks 0 isDir).sbFreeBlocks = s.sbFreeBlocks + blocks.length ∧
    (∀ b ∈ blocks, blockMarked geo (removeInode true geo s ino blocks 0 isDir) b = false) ∧
    (∀ b', b' ∉ blocks → blockMarked geo (removeInode true geo s ino blocks 0 isDir) b' = blockMarked geo s b') := by
  have hg := blocksMarked_of_pointwise geo blocks s hnd hm
  have hafter := fun b' => blockMarked_removeInode geo s ino blocks 0 isDir b' fun b hb => blockMarked_ge (hm b hb)
  exact ⟨by simp [removeOp, hg, hi], remove_restores_inv geo s ino blocks 0 isDir h hg hi,
    (remove_counts geo s ino blocks 0 isDir).1, fun b hb => by simp [hafter, hb], fun b' hb' => by simp [hafter, hb']⟩

/-- ownership_inv: create, a file growing by the blocks allocateExtents answered with (data blocks of a write, node
    blocks of the file's extent tree), Remove - carried out or refused, for every policy answer the machine accepts -
    keep `counters = bitmaps` AND ownership: no block belongs to two files (or twice to one), every owned block is
    marked in the block bitmaps, and every file's i_blocks counts exactly the blocks it owns (data + tree nodes) -/
theorem ownership_inv (geo : Geom) (o : Own) (op : OOp) (h : OwnInv geo o) : OwnInv geo (ostep geo o op) := by
  obtain ⟨hacc, hw, hnd, hm, hib⟩ := h
  -- no operation changes the length of a bitmap
  have hw' := WF_of_shape (Diskfs.Ranges.Ext4.shape_ostep geo o op) hw
  cases op with
  | create ino isDir =>
    simp only [ostep] at hw' ⊢
    have hinv := allocInode_inv o.acc isDir hacc
    unfold allocInode at hinv hw' ⊢
    cases hp : pickInode o.acc.groups 0 with
    | none => exact ⟨hacc, hw, hnd, hm, hib⟩
    | some q =>
      obtain ⟨gi, p⟩ := q
      simp only [hp, Res.state] at hinv hw' ⊢
      refine ⟨hinv, hw', by simpa [ownedBlocks] using hnd, ?_, ?_⟩
      · intro b hb
        exact (blockMarked_frame geo o.acc _ gi _ rfl (fun g => by rfl) b).trans
          (hm b (by simpa [ownedBlocks] using hb))
      · intro f hf
        rcases List.mem_append.mp hf with hf | hf
        · exact hib f hf
        · simp only [List.mem_singleton] at hf
          subst hf; rfl
  | grow i n runs =>
    simp only [ostep]
    cases hfi : o.files[i]? with
    | none => exact ⟨hacc, hw, hnd, hm, hib⟩
    | some f =>
      cases hr : allocExtents o.acc n (some runs) with
      | refused _ => exact ⟨hacc, hw, hnd, hm, hib⟩
      | ok acc' =>
        have hinv := allocExtents_inv o.acc n (some runs) hacc
        rw [hr] at hinv
        simp only [ostep, hfi, hr] at hw'
        obtain ⟨rs, hrs, _, hok, hsum, rfl⟩ := allocExtents_ok hr
        cases hrs
        obtain ⟨m1, m2, m3⟩ := blockMarked_markRuns geo runs o.acc hw hok
        -- the blocks owned afterwards: those owned before and the new ones
        have hperm := ownedBlocks_set_perm o i f
          { f with blocks := f.blocks ++ runs.flatMap (runBlocks geo), iblocks := f.iblocks + n } hfi
          { runs.foldl markRun o.acc with sbFreeBlocks := (runs.foldl markRun o.acc).sbFreeBlocks - n } _ rfl
        refine ⟨hinv, hw', ?_, ?_, ?_⟩
        · rw [hperm.nodup_iff, List.nodup_append]
          -- an owned block is marked, a block just taken was not
          exact ⟨hnd, m2, fun x hx1 y hy2 hxy => by have := m3 y hy2; rw [← hxy, hm x hx1] at this; cases this⟩
        · intro b hb
          show blockMarked geo (runs.foldl markRun o.acc) b = true
          rw [m1 b]
          rcases List.mem_append.mp (hperm.mem_iff.mp hb) with hb1 | hb2
          · simp [hm b hb1]
          · simp [hb2]
        · intro f' hf'
          rcases List.mem_or_eq_of_mem_set hf' with hf1 | rfl
          · exact hib f' hf1
          · simp only [List.length_append, length_flatMap_runBlocks, hsum]
            rw [hib f (List.mem_of_getElem? hfi)]
  | remove i isDir =>
    simp only [ostep]
    cases hfi : o.files[i]? with
    | none => exact ⟨hacc, hw, hnd, hm, hib⟩
    | some f =>
      simp only
      cases hr : removeOp geo o.acc f.ino f.blocks isDir with
      | refused _ => exact ⟨hacc, hw, hnd, hm, hib⟩
      | ok acc' =>
        -- had the inode not been marked, the call would have been refused
        have hguard : inodeMarked geo o.acc f.ino = true := by
          cases hmk : inodeMarked geo o.acc f.ino
          · simp [removeOp, hmk] at hr
          · rfl
        have hperm := ownedBlocks_perm o i f hfi acc'
        have hnd' := List.nodup_append.mp (hperm.nodup_iff.mp hnd)
        obtain ⟨r1, r2, _, _, r5⟩ := remove_frees_only_own_blocks geo o.acc f.ino f.blocks isDir hacc hnd'.1
          (fun b hb => hm b (hperm.mem_iff.mpr (List.mem_append_left _ hb))) hguard
        simp only [ostep, hfi, hr] at hw'
        rw [r1] at hr
        cases hr
        refine ⟨r2, hw', hnd'.2.1, ?_,
          fun f' hf' => hib f' (List.mem_of_mem_eraseIdx hf')⟩
        intro b hb
        rw [r5 b (fun hbf => hnd'.2.2 b hbf b hb rfl)]
        exact hm b (hperm.mem_iff.mpr (List.mem_append_right _ hb))

/-- ... along every history of create / grow / remove -/
theorem ownership_inv_history (geo : Geom) (ops : List OOp) (o : Own) (h : OwnInv geo o) :
    OwnInv geo (ops.foldl (ostep geo) o) := by
  induction ops generalizing o with
  | nil => exact h
  | cons op ops ih => exact ih _ (ownership_inv geo o op h)

/-- remove_guard_from_ownership: under the ownership invariant the block guard of the machine's Remove always
    passes - a Remove is refused only when the inode itself is not marked - and it gives back exactly the file's
    i_blocks: the superblock's free-block counter goes up by i_blocks (data blocks and extent-tree blocks alike) -/
theorem remove_guard_from_ownership (geo : Geom) (o : Own) (i : Nat) (f : FileRec) (isDir : Bool) (h : OwnInv geo o)
    (hf : o.files[i]? = some f) (hi : inodeMarked geo o.acc f.ino = true) :
    removeOp geo o.acc f.ino f.blocks isDir = .ok (removeInode true geo o.acc f.ino f.blocks 0 isDir) ∧
    (removeInode true geo o.acc f.ino f.blocks 0 isDir).sbFreeBlocks = o.acc.sbFreeBlocks + f.iblocks := by
  obtain ⟨hacc, _, hnd, hm, hib⟩ := h
  have hperm := ownedBlocks_perm o i f hf o.acc
  obtain ⟨r1, _, r3, _, _⟩ := remove_frees_only_own_blocks geo o.acc f.ino f.blocks isDir hacc
    (List.nodup_append.mp (hperm.nodup_iff.mp hnd)).1
    (fun b hb => hm b (hperm.mem_iff.mpr (List.mem_append_left _ hb))) hi
  exact ⟨r1, by rw [r3, hib f (List.mem_of_getElem? hf)]⟩

/-- non-vacuity: the witness volume of `cex_ext4_remove_accounting` (one group of 8 blocks, firstDataBlock 1) with
    inode 3 owning blocks 4 and 5 has the ownership invariant; the file grows by one data block and one tree block
    (two allocateExtents answers: bits 5 and 6 = blocks 6 and 7) and is removed again: all four blocks come back -/
def oState : Own := ⟨wState, [⟨3, [4, 5], 2⟩]⟩
example : OwnInv wGeo oState := by decide
example : ostep wGeo (ostep wGeo oState (.grow 0 1 [(0, 5, 1)])) (.grow 0 1 [(0, 6, 1)]) =
    ⟨⟨[{ bbm := [true, true, true, true, true, true, true, false],
         ibm := [true, true, true, false, false, false, false, false],
         freeBlocks := 1, freeInodes := 5, usedDirs := 1 }], 1, 5⟩, [⟨3, [4, 5, 6, 7], 4⟩]⟩ := by decide
example : (ostep wGeo (ostep wGeo (ostep wGeo oState (.grow 0 1 [(0, 5, 1)])) (.grow 0 1 [(0, 6, 1)])) (.remove 0 false)) =
    ⟨⟨[{ bbm := [true, true, true, false, false, false, false, false],
         ibm := [true, true, false, false, false, false, false, false],
         freeBlocks := 5, freeInodes := 6, usedDirs := 1 }], 5, 6⟩, []⟩ := by decide

end Diskfs.Ext4.C05

