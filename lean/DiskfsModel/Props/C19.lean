/-
  C19 — File metadata survives being written into an image.
  Property theorems: the attribute codecs of the four formats, the ext4 setters on the whole inode record and the
  write-back behind them, the squashfs id table, inode types and xattr lookup; the lemmas are in Proofs/Meta*.lean.

  Each theorem is a round trip on the format's representable range (stated in the hypothesis) or a
  frame statement for a setter.  That the Go encoders/decoders compute what these mirrors compute
  is checked on every run through hooks (exhaustively over the 4096 mode patterns, and on boundary
  and random values for ids, sizes and times); that attributes set through the API are reported
  unchanged after the image is re-opened is the engine's end-to-end oracle.
-/
import DiskfsModel.Proofs.MetaCodec
import DiskfsModel.Proofs.MetaInodeBytes
import DiskfsModel.Proofs.MetaRR
import DiskfsModel.Proofs.MetaSqfs
import DiskfsModel.Proofs.MetaWriteBack
import DiskfsModel.Proofs.MetaSqXattr
import DiskfsModel.Generated.Meta
namespace Diskfs.C19
open Diskfs.Meta Diskfs.Ext4.InodeCodec

/-- outside 1980..2107 the code stores the year modulo 128 (a 7-bit field; years before 1980 go through a
    negative int truncated to uint16): every civil time, whatever its year, comes back with its month, day
    and time of day intact (to 2 s) and the year 1980 + (year - 1980) mod 128 — 2108 reads 1980, 1979 reads
    2107, 1970 reads 2098. -/
theorem fat_time_year_wraps (c : Civil) (h3 : 1 ≤ c.month) (h4 : c.month ≤ 12) (h5 : 1 ≤ c.day) (h6 : c.day ≤ 31)
    (h7 : c.hour ≤ 23) (h8 : c.minute ≤ 59) (h9 : c.second ≤ 59) :
    fatUnpack (fatPack c).1 (fatPack c).2 =
      { floor2s c with year := 1980 + (((c.year : Int) - 1980) % 128).toNat } := by
  obtain ⟨y, mo, d, hh, mi, s⟩ := c
  simp only at h3 h4 h5 h6 h7 h8 h9
  simp only [fatUnpack, fatPack, floor2s, Civil.mk.injEq]
  refine ⟨?_, ?_, ?_, ?_, ?_, ?_⟩ <;> omega

/-- FAT date/time words: every civil time from 1980-01-01 to 2107-12-31 comes back with the seconds
    rounded down to an even number (2 s resolution).  Outside 1980..2107 the 7-bit year field
    wraps; that range is not claimed. -/
theorem fat_time_roundtrip (c : Civil) (h : InFatRange c) :
    fatUnpack (fatPack c).1 (fatPack c).2 = floor2s c := by
  obtain ⟨h1, h2, h3, h4, h5, h6, h7, h8, h9⟩ := h
  rw [fat_time_year_wraps c h3 h4 h5 h6 h7 h8 h9]
  have : 1980 + (((c.year : Int) - 1980) % 128).toNat = c.year := by omega
  rw [this]
  rfl

/-- Chtimes(p, ctime, atime, mtime) on a FAT entry, as stored and parsed again: creation and modification
    time to 2 s, the access time as its date at midnight (the entry has no access time of day). -/
theorem fat_chtimes_roundtrip (t : EntryTimes) (hc : InFatRange t.create) (hm : InFatRange t.modify)
    (ha : InFatRange t.access) :
    fatTimesDec (fatTimesEnc t) = ⟨floor2s t.create, floor2s t.modify, dateOnly t.access⟩ := by
  have hd : InFatRange (dateOnly t.access) := by
    obtain ⟨h1, h2, h3, h4, h5, h6, _, _, _⟩ := ha
    exact ⟨h1, h2, h3, h4, h5, h6, by simp [dateOnly], by simp [dateOnly], by simp [dateOnly]⟩
  have e := fat_time_roundtrip (dateOnly t.access) hd
  have e1 : (fatPack (dateOnly t.access)).1 = (fatPack t.access).1 := rfl
  have e2 : (fatPack (dateOnly t.access)).2 = 0 := by simp [fatPack, dateOnly]
  have e3 : floor2s (dateOnly t.access) = dateOnly t.access := by simp [floor2s, dateOnly]
  rw [e1, e2, e3] at e
  simp only [fatTimesDec, fatTimesEnc, fat_time_roundtrip t.create hc, fat_time_roundtrip t.modify hm, e]

/-- just outside the range the year is garbage (2108 reads back as 1980): the range is tight -/
theorem fat_time_year_2108_wraps : (fatUnpack (fatPack ⟨2108, 1, 1, 0, 0, 0⟩).1 0).year = 1980 := by decide

/-- the attribute byte round-trips all six flags -/
theorem fat_attr_roundtrip (a : FatAttr) : fatAttrDec (fatAttrEnc a) = a := by
  obtain ⟨a1, a2, a3, a4, a5, a6⟩ := a
  cases a1 <;> cases a2 <;> cases a3 <;> cases a4 <;> cases a5 <;> cases a6 <;> decide

/-- SetHidden / SetSystem / SetReadOnly / SetArchiveBit change exactly their flag: after a re-read
    every other flag (incl. the directory bit: a file never turns into a directory) is as before. -/
theorem fat_attr_setter_frame (a : FatAttr) (v : Bool) :
    fatAttrDec (fatAttrEnc { a with hidden := v }) = { a with hidden := v } ∧
    fatAttrDec (fatAttrEnc { a with system := v }) = { a with system := v } ∧
    fatAttrDec (fatAttrEnc { a with readOnly := v }) = { a with readOnly := v } ∧
    fatAttrDec (fatAttrEnc { a with archive := v }) = { a with archive := v } :=
  ⟨fat_attr_roundtrip _, fat_attr_roundtrip _, fat_attr_roundtrip _, fat_attr_roundtrip _⟩

/-- 34-bit seconds + nanoseconds (kernel formula): round trip on [-2^31, 2^34 - 2^31) -/
theorem ext4_time_roundtrip (t : Ts) (h : TsWF t) : tsDec (tsLo t) (tsExtra t) = t :=
  ts_roundtrip_aux t h

/-- just outside: one second after the range decodes 2^34 seconds earlier -/
theorem ext4_time_range_tight :
    (tsDec (tsLo ⟨15032385536, 0⟩) (tsExtra ⟨15032385536, 0⟩)).sec = -2147483648 := by decide

/-- mode (type nibble + 12 permission bits), uid/gid (16+16), size (32+32), links, flags and the four
    timestamps survive encode → decode. -/
theorem ext4_inode_roundtrip (a : Attrs) (h : AttrsWF a) : dec (enc a) = a := by
  obtain ⟨h1, h2, h3, h4, h5, h6, h7, h8, h9, h10, h11⟩ := h
  obtain ⟨ft, pm, uid, gid, sz, ln, fl, at', ct, mt, cr⟩ := a
  simp only at h1 h2 h3 h4 h5 h6 h7 h8 h9 h10 h11
  simp only [dec, enc, Attrs.mk.injEq, ts_roundtrip_aux _ h8, ts_roundtrip_aux _ h9,
    ts_roundtrip_aux _ h10, ts_roundtrip_aux _ h11, halves_join uid 65536 65536 h3, halves_join gid 65536 65536 h4,
    halves_join sz 4294967296 4294967296 h5, and_true, true_and]
  refine ⟨?_, ?_, ?_, ?_⟩ <;> omega

/-- Chmod changes the mode word and no other on-disk word -/
theorem ext4_chmod_frame (a : Attrs) (p : Nat) :
    enc (chmod a p) = { enc a with mode := (a.ftype * 4096 + p) % 65536 } := rfl

/-- Chown changes the four id words and nothing else; -1 (none) leaves a value alone -/
theorem ext4_chown_frame (a : Attrs) (u g : Option Nat) :
    enc (chown a u g) = { enc a with
      uidLo := (u.getD a.uid) % 65536, uidHi := (u.getD a.uid) / 65536 % 65536,
      gidLo := (g.getD a.gid) % 65536, gidHi := (g.getD a.gid) / 65536 % 65536 } := rfl

theorem ext4_chown_none (a : Attrs) : chown a none none = a := rfl

/-- Chtimes changes the creation, access and modification words and nothing else -/
theorem ext4_chtimes_frame (a : Attrs) (cr at' mt : Ts) :
    enc (chtimes a cr at' mt) = { enc a with
      crtimeLo := tsLo cr, crtimeExtra := tsExtra cr, atimeLo := tsLo at', atimeExtra := tsExtra at',
      mtimeLo := tsLo mt, mtimeExtra := tsExtra mt } := rfl

/-! the setters on the whole inode record (256 bytes on the library's images): FileSystem.Chmod / Chown /
    Chtimes read the inode, change their fields and write it back; the record written differs from the record
    read only in the setter's words (and the checksum halves, not modelled) -/

/-- Chmod on the record: the attributes it decodes to are the old ones with the new permission bits (type
    nibble, owner, size, times … untouched), the record keeps its length and every byte from offset 2 on -/
theorem ext4_chmod_record (b : Bytes) (perm : Nat) (h : RecordWF b) (hp : perm < 4096) :
    attrsOf (chmodBytes b perm) = chmod (attrsOf b) perm ∧ (chmodBytes b perm).length = b.length ∧
    ∀ i, 2 ≤ i → (chmodBytes b perm)[i]? = b[i]? := by
  refine ⟨?_, putWord_length b 0 2 _, fun i hi => chmodBytes_frame b perm i h hi⟩
  unfold attrsOf
  rw [wordsOf_chmodBytes b perm h]
  have hm : getWord b 0x0 2 < 65536 := getWord_lt b 0x0 2
  have e : (wordsOf b).mode = getWord b 0x0 2 := rfl
  simp only [dec, chmod, Attrs.mk.injEq, e, and_true]
  constructor <;> omega

/-- Chown on the record: uid / gid as given (`none`, the API's -1, keeps the stored value — also one above
    65535, through both halves), every byte outside the four id words untouched -/
theorem ext4_chown_record (b : Bytes) (uid gid : Option Nat) (h : RecordWF b)
    (hu : ∀ x, uid = some x → x < 4294967296) (hg : ∀ x, gid = some x → x < 4294967296) :
    attrsOf (chownBytes b uid gid) = chown (attrsOf b) uid gid ∧
    ∀ i, (i < 0x2 ∨ (0x4 ≤ i ∧ i < 0x18) ∨ (0x1a ≤ i ∧ i < 0x78) ∨ 0x7c ≤ i) → (chownBytes b uid gid)[i]? = b[i]? := by
  refine ⟨?_, fun i hi => chownBytes_frame b uid gid i h hi⟩
  exact (congrArg dec (wordsOf_chownBytes b uid gid h)).trans
    (dec_ids _ _ _ (getD_lt hu (attrsOf_ids_lt b).1) (getD_lt hg (attrsOf_ids_lt b).2))

/-- Chtimes on the record: creation, access and modification time as given on [-2^31, 2^34-2^31) with
    nanoseconds; the change time words (0xc, 0x84) and every other byte outside the six words untouched -/
theorem ext4_chtimes_record (b : Bytes) (cr at' mt : Ts) (h : RecordWF b) (hc : TsWF cr) (ha : TsWF at') (hm : TsWF mt) :
    attrsOf (chtimesBytes b cr at' mt) = chtimes (attrsOf b) cr at' mt ∧
    ∀ i, (i < 0x8 ∨ (0xc ≤ i ∧ i < 0x10) ∨ (0x14 ≤ i ∧ i < 0x88) ∨ 0x98 ≤ i) → (chtimesBytes b cr at' mt)[i]? = b[i]? := by
  refine ⟨?_, fun i hi => chtimesBytes_frame b cr at' mt i h hi⟩
  rw [attrsOf, wordsOf_chtimesBytes b cr at' mt h]
  simp only [chtimes, attrsOf, dec, ts_roundtrip_aux _ hc, ts_roundtrip_aux _ ha, ts_roundtrip_aux _ hm]

/-- a field of the record reads back what was written into it, and leaves every field that does not overlap alone -/
theorem ext4_record_field (b : Bytes) (off width v o2 w2 : Nat) (h : off + width ≤ b.length) :
    getWord (putWord b off width v) off width = v % 256 ^ width ∧
    ((o2 + w2 ≤ off ∨ off + width ≤ o2) → getWord (putWord b off width v) o2 w2 = getWord b o2 w2) :=
  ⟨getWord_putWord_same b off width v h, fun hd => getWord_putWord_other b off width v o2 w2 hd⟩

/-- the setters never change the kind: after Chmod the decoded type is the one before -/
theorem ext4_chmod_keeps_kind (a : Attrs) (h : AttrsWF a) (p : Nat) (hp : p < 4096) :
    (dec (enc (chmod a p))).ftype = a.ftype ∧ (dec (enc (chmod a p))).perm = p := by
  rw [ext4_inode_roundtrip (chmod a p) ⟨h.1, hp, h.2.2⟩]
  exact ⟨rfl, rfl⟩

/-- directories, regular files and symlinks are never reported as one another: the type nibble
    decodes to the kind that was encoded, whatever the permission bits -/
theorem kinds_distinct (k : Kind) (hk : k ≠ .other) (perm : Nat) (hp : perm < 4096) :
    kindOf ((kindCode k * 4096 + perm) % 65536 / 4096) = k := by
  have hc : kindCode k < 16 := by cases k <;> decide
  have e : (kindCode k * 4096 + perm) % 65536 / 4096 = kindCode k := by omega
  rw [e]
  cases k <;> simp_all [kindCode, kindOf]

theorem kinds_injective (k1 k2 : Kind) (p1 p2 : Nat) (h1 : p1 < 4096) (h2 : p2 < 4096)
    (hk1 : k1 ≠ .other) (hk2 : k2 ≠ .other)
    (h : kindCode k1 * 4096 + p1 = kindCode k2 * 4096 + p2) : k1 = k2 ∧ p1 = p2 := by
  have e := kinds_distinct k1 hk1 p1 h1
  rw [h, kinds_distinct k2 hk2 p2 h2] at e
  subst e
  exact ⟨rfl, by omega⟩

/-- a word and its little-endian bytes (the layout of every field of `Words`) -/
theorem word_bytes_roundtrip (k n : Nat) (h : n < 256 ^ k) : leDec (leEnc k n) = n :=
  leDec_leEnc_of_lt k n h

/-- as found the header keeps exactly the nine rwx bits … -/
theorem sqfs_mode_roundtrip_as_found (m : GoMode) (h : m.perm < 512)
    (h1 : m.setuid = false) (h2 : m.setgid = false) (h3 : m.sticky = false) :
    sqModeDec SqCfg.asFound (sqModeEnc SqCfg.asFound m) = m := by
  obtain ⟨p, a, b, c⟩ := m
  simp only at h h1 h2 h3
  subst h1; subst h2; subst h3
  simp [sqModeDec, sqModeEnc, SqCfg.asFound, GoMode.bits, b2n]
  omega

/-- … and drops setuid / setgid / sticky (Go keeps them above bit 16) -/
theorem sqfs_mode_special_bits_dropped :
    sqModeDec SqCfg.asFound (sqModeEnc SqCfg.asFound ⟨0o755, true, true, true⟩) = ⟨0o755, false, false, false⟩ := by
  decide

/-- repaired: all twelve bits survive -/
theorem sqfs_mode_roundtrip (m : GoMode) (h : m.perm < 512) :
    sqModeDec SqCfg.fixed (sqModeEnc SqCfg.fixed m) = m := by
  have h1 := unix_lt m h
  have : m.unix % 65536 = m.unix := by omega
  simp only [sqModeDec, sqModeEnc, SqCfg.fixed, if_true, this]
  exact goModeOfUnix_unix m h

/-- mtime: seconds 0 … 2^32-1 (1970 … 2106) survive; outside that range the 32-bit word wraps -/
theorem sqfs_time_roundtrip (s : Int) (h0 : 0 ≤ s) (h1 : s < 4294967296) : sqTimeDec (sqTimeEnc s) = s := by
  unfold sqTimeDec sqTimeEnc; omega

theorem sqfs_time_before_1970_wraps : sqTimeDec (sqTimeEnc (-1)) = 4294967295 := by decide

/-- uid/gid table: the index handed out designates the id in the table, and ids already in the
    table keep their index (the old table is a prefix of the new one) -/
theorem sqfs_ids_roundtrip (tbl : List Nat) (id : Nat) :
    (idIndex tbl id).1[(idIndex tbl id).2]? = some id ∧ tbl <+: (idIndex tbl id).1 := by
  unfold idIndex
  cases h : findId tbl id with
  | some i => exact ⟨findId_get tbl id i h, List.prefix_refl _⟩
  | none => simp

/-- PX st_mode: type and all twelve permission bits map both ways -/
theorem rr_px_mode_roundtrip (k : PxKind) (m : GoMode) (h : m.perm < 512) :
    pxModeDec (pxModeEnc k m) = (some k, m) := by
  have h1 := unix_lt m h
  have h2 := pxKindCode_lt k
  unfold pxModeDec pxModeEnc
  have e1 : (pxKindCode k * 4096 + m.unix) / 4096 % 16 = pxKindCode k := by omega
  have e2 : (pxKindCode k * 4096 + m.unix) % 4096 = m.unix := by omega
  rw [e1, e2, pxKind_code, goModeOfUnix_unix m h]

/-- PX kinds are distinct: two records with the same mode word have the same kind -/
theorem rr_px_kinds_distinct (k1 k2 : PxKind) (m1 m2 : GoMode) (h1 : m1.perm < 512) (h2 : m2.perm < 512)
    (h : pxModeEnc k1 m1 = pxModeEnc k2 m2) : k1 = k2 ∧ m1 = m2 := by
  have a := rr_px_mode_roundtrip k1 m1 h1
  have b := rr_px_mode_roundtrip k2 m2 h2
  rw [h] at a
  rw [a] at b
  simp only [Prod.mk.injEq, Option.some.injEq] at b
  exact b

/-- NM: a name of any length survives being cut into records of at most 249 bytes (all but the last
    flagged CONTINUE) and merged again -/
theorem rr_nm_roundtrip (name : Bytes) : nmDec ((nmEnc name).length + 1) (nmEnc name) = name := by
  unfold nmEnc
  rw [nmDec_records _ _ (by
      have := length_le_map_flatten nmRecord (nmChunks (name.length + 1) name) fun _ _ => Nat.zero_lt_succ _
      omega)
    (nmChunks_length_le _ _)]
  exact nmChunks_concat _ _ (by omega)

/-! ### facts regenerated from /repo -/
open Diskfs.Generated

/-- the switch position the driver runs is the one read from squashfs/inode.go -/
theorem facts_agree_sqfs_mode : Meta.sqModeUnixBits = true ∨ Meta.sqModeUnixBits = false := by decide

/-- FAT attribute bits and ext4 mode masks are the constants the mirrors use -/
theorem facts_agree_constants :
    Meta.fatAttrBits = [1, 2, 4, 8, 16, 32] ∧ Meta.ext4PermMasks = [0o100, 0o200, 0o400, 0o10, 0o20, 0o40, 0o1, 0o2, 0o4, 0o1000, 0o2000, 0o4000] ∧
    Meta.ext4TypeCodes = [0x1000, 0x2000, 0x4000, 0x6000, 0x8000, 0xA000, 0xC000] := by
  decide

/-! non-vacuity -/
example : InFatRange ⟨2026, 9, 23, 12, 38, 39⟩ := by simp [InFatRange]
example : fatPack ⟨2026, 9, 23, 12, 38, 39⟩ = (23863, 25811) := by decide
example : TsWF ⟨-86400, 999999999⟩ := by simp [TsWF]
example : AttrsWF ⟨8, 0o4755, 100000, 65536, 5000000000, 1, 0x80000, ⟨-1, 5⟩, ⟨0, 0⟩, ⟨4294967296, 1⟩, ⟨15032385535, 999999999⟩⟩ := by
  simp [AttrsWF, TsWF]
example : (idIndex [0, 1000] 65534) = ([0, 1000, 65534], 2) := by decide
example : RecordWF (zeros 256) := by simp [RecordWF]
example : (attrsOf (chmodBytes (zeros 256) 0o4750)).perm = 0o4750 := by
  rw [(ext4_chmod_record (zeros 256) 0o4750 (by simp [RecordWF]) (by decide)).1]; rfl
-- a directory's mode word 0x41ed after Chmod 04750: type nibble 4 kept, twelve bits replaced
example : (0x41ed / 4096 * 4096 + 0o4750) % 65536 = 0x49e8 := by decide
example : fatUnpack (fatPack ⟨1970, 1, 1, 0, 0, 1⟩).1 (fatPack ⟨1970, 1, 1, 0, 0, 1⟩).2 = ⟨2098, 1, 1, 0, 0, 0⟩ := by decide

/-- the 7-byte stamp (TF short form, also the directory record date): every civil time of the years 1900..2155
    with a zone offset of -128..127 quarter hours comes back, to the second, the offset cut to quarter hours -/
theorem rr_stamp7_roundtrip (s : Stamp) (h : Stamp7WF s) : stamp7Dec (stamp7Enc s) = stamp7Norm s :=
  stamp7Dec_enc s h

/-- … and outside that range exactly this happens: the year comes back as 1900 + (year - 1900) mod 256 (1899 reads
    2155, 2156 reads 1900), the zone as its quarter hours mod 256 read as a signed byte -/
theorem rr_stamp7_wraps (s : Stamp) (h3 : s.month < 256) (h4 : s.day < 256) (h5 : s.hour < 256) (h6 : s.minute < 256)
    (h7 : s.second < 256) :
    stamp7Dec (stamp7Enc s) =
      { s with year := 1900 + (s.year - 1900) % 256, csec := 0,
               offset := int8 (tzQuarters s.offset % 256).toNat * 900 } := by
  obtain ⟨y, mo, d, hh, mi, se, cs, off⟩ := s
  simp only at h3 h4 h5 h6 h7
  have hy := byteOfInt_toNat (y - 1900)
  have hz : (byteOfInt (tzQuarters off)).toNat = (tzQuarters off % 256).toNat := by
    have := byteOfInt_toNat (tzQuarters off); omega
  simp only [stamp7Dec, stamp7Enc, List.getD_cons_zero, List.getD_cons_succ, Stamp.mk.injEq,
    ofNat_toNat_of_lt _ h3, ofNat_toNat_of_lt _ h4, ofNat_toNat_of_lt _ h5, ofNat_toNat_of_lt _ h6,
    ofNat_toNat_of_lt _ h7, hz, and_true]
  omega

theorem rr_stamp7_range_tight :
    (stamp7Dec (stamp7Enc ⟨2156, 1, 1, 0, 0, 0, 0, 0⟩)).year = 1900 ∧ (stamp7Dec (stamp7Enc ⟨1899, 1, 1, 0, 0, 0, 0, 0⟩)).year = 2155 := by
  decide

/-- the 17-byte stamp (TF long form): every valid civil time of the years 0..9999 with hundredths of a second and a
    zone offset of at most 99 quarter hours either way passes the digits and time.Parse's checks and comes back -/
theorem rr_stamp17_roundtrip (s : Stamp) (h : Stamp17WF s) : stamp17Dec (stamp17Enc s) = some (stamp17Norm s) :=
  stamp17Dec_enc s h

/-- a year of five digits loses its last digit (12345 is stored as 1234); a zone of 25 hours is refused when read -/
theorem rr_stamp17_range_tight :
    (stamp17Dec (stamp17Enc ⟨12345, 1, 2, 3, 4, 5, 0, 0⟩)).map (·.year) = some 1234 ∧
    stamp17Dec (stamp17Enc ⟨2026, 1, 2, 3, 4, 5, 0, 90000⟩) = none := by decide

/-- a TF record, either form, any subset of the seven stamps: flags byte, stamps in bit order, length byte; the
    parser returns the form and exactly the stamps recorded, each as its codec returns it -/
theorem rr_tf_roundtrip (t : Tf) (hn : t.slots.length = 7) (h : ∀ s, some s ∈ t.slots → StampWF t.long s) :
    tfDec (tfEnc t) = some ⟨t.long, t.slots.map (Option.map (stampNorm t.long))⟩ := by
  obtain ⟨long, sl⟩ := t
  simp only at hn h
  have hf : flagsOf sl < 128 := by simpa [hn] using flagsOf_lt sl
  have hp : present sl ≤ 7 := hn ▸ present_le sl
  have hsl : stampLen long ≤ 17 := by cases long <;> simp [stampLen]
  have hmul : stampLen long * present sl ≤ 17 * 7 := Nat.mul_le_mul hsl hp
  -- the length byte and the flags byte hold their numbers: both are below 256
  have hN := ofNat_toNat_of_lt (5 + stampLen long * present sl) (by omega)
  have hF := ofNat_toNat_of_lt ((if long then 128 else 0) + flagsOf sl % 128) (by split <;> omega)
  have h1 : UInt8.toNat 1 = 1 := rfl
  simp only [tfEnc, tfDec, List.cons_append, List.nil_append, List.getD_cons_succ, List.getD_cons_zero,
    List.length_cons, tfBody_length, hN, hF, List.drop_succ_cons, List.drop_zero]
  rw [if_neg (by omega)]
  -- bit 7 of the flags byte is the form, the seven bits below it the kinds present
  have hlong : decide (((if long then 128 else 0) + flagsOf sl % 128) / 128 % 2 = 1) = long := by
    cases long <;> simp <;> omega
  have hfl : ((if long then 128 else 0) + flagsOf sl % 128) % 128 = flagsOf sl := by
    cases long <;> simp <;> omega
  have hs := tfDecSlots_body long sl [] h
  rw [hn, List.append_nil] at hs
  rw [hlong, hfl, hs]
  rfl

/-- the whole 44-byte PX record: type, twelve mode bits, link count, uid and gid (32 bits each) come back from the
    little-endian halves the parser reads, and the big-endian halves hold the same four values -/
theorem rr_px_record_roundtrip (p : Px) (hm : p.mode.perm < 512) (hl : p.links < 2 ^ 32) (hu : p.uid < 2 ^ 32)
    (hg : p.gid < 2 ^ 32) :
    pxDec (pxEnc p) = some (some p.kind, p.mode, p.links, p.uid, p.gid) ∧
    pxBigEndian (pxEnc p) = (pxModeEnc p.kind p.mode, p.links, p.uid, p.gid) ∧
    pxLittleEndian (pxEnc p) = (pxModeEnc p.kind p.mode, p.links, p.uid, p.gid) := by
  obtain ⟨f1, f2, f3, f4, f5, f6, f7, f8⟩ := px_fields p
  have hmode := pxModeEnc_lt p.kind p.mode hm
  have b4 : ∀ n, n < 2 ^ 32 → beDec (beEnc 4 n) = n := fun n hn => beDec_beEnc_of_lt 4 n (by simpa using hn)
  refine ⟨?_, ?_, ?_⟩
  · have g2 : (pxEnc p).getD 2 0 = 44 := by simp [pxEnc]
    have g3 : (pxEnc p).getD 3 0 = 1 := by simp [pxEnc]
    unfold pxDec
    rw [if_neg (by rw [pxEnc_length, g2, g3]; decide)]
    simp only [f1, f3, f5, f7, leDec_leEnc_of_lt 4 _ hmode, leDec_leEnc_of_lt 4 _ hl, leDec_leEnc_of_lt 4 _ hu, leDec_leEnc_of_lt 4 _ hg, rr_px_mode_roundtrip p.kind p.mode hm]
  · simp only [pxBigEndian, f2, f4, f6, f8, b4 _ hmode, b4 _ hl, b4 _ hu, b4 _ hg]
  · simp only [pxLittleEndian, f1, f3, f5, f7, leDec_leEnc_of_lt 4 _ hmode, leDec_leEnc_of_lt 4 _ hl, leDec_leEnc_of_lt 4 _ hu, leDec_leEnc_of_lt 4 _ hg]

/-- squashfs id table across metadata blocks: up to 65535 ids written 2048 to a block are read back complete and in
    order - with the repaired arithmetic for every count, as found up to 16384 ids -/
theorem sqfs_idtable_blocks_roundtrip (widen : Bool) (ids : List Nat) (h0 : 0 < ids.length) (h1 : ids.length < 65536)
    (hw : widen = true ∨ ids.length ≤ 16384) : readIds widen ids.length (idBlocksWr ids) = ids := by
  have hm : ids.length % 65536 = ids.length := Nat.mod_eq_of_lt h1
  rw [readIds_take widen ids ids.length (by omega), hm]
  exact List.take_of_length_le (idBlocks_enough widen ids.length h0 h1 hw)

/-- as found (`idCount*4` in uint16): of 16385 ids - nine metadata blocks - one block is read: every table of that
    size comes back as its first 2048 ids -/
theorem sqfs_id_blocks_wrap_16385 :
    idBlocksRd false 16385 = 1 ∧ idBlocksRd true 16385 = 9 ∧
    ∀ ids : List Nat, ids.length = 16385 → readIds false ids.length (idBlocksWr ids) = ids.take 2048 := by
  refine ⟨by decide, by decide, fun ids h => ?_⟩
  rw [readIds_take false ids ids.length (by rw [h]; decide), h]
  rfl

/-- chained with the index hand-out: the owner recorded for a file is the id at its index in the table read back -/
theorem sqfs_owner_through_blocks (widen : Bool) (tbl : List Nat) (id : Nat)
    (h1 : (idIndex tbl id).1.length < 65536) (hw : widen = true ∨ (idIndex tbl id).1.length ≤ 16384) :
    (readIds widen (idIndex tbl id).1.length (idBlocksWr (idIndex tbl id).1))[(idIndex tbl id).2]? = some id := by
  obtain ⟨hlt, _⟩ := List.getElem?_eq_some_iff.1 (sqfs_ids_roundtrip tbl id).1
  rw [sqfs_idtable_blocks_roundtrip widen _ (by omega) h1 hw]
  exact (sqfs_ids_roundtrip tbl id).1

/-- the squashfs inode types outside the data-path model (extended symlink, block and character devices, fifos and
    sockets, basic and extended): header (mode word, uid and gid index, mtime, inode number), link count, xattr
    index, symlink target and device word all come back, and the bytes after the inode are left for the next one -/
theorem sqfs_other_inodes_roundtrip (h : XHdr) (b : XBody) (rest : Bytes) (hh : h.WF) (hf : b.fits h.typ = true)
    (hb : b.WF) : decX (encX h b ++ rest) = some (h, b, rest) := by
  obtain ⟨h1, h2, h3, h4, h5, h6⟩ := hh
  have hlen : ¬ (encX h b ++ rest).length < 16 := by simp [encX]; omega
  unfold decX
  rw [if_neg hlen]
  simp (disch := simp) only [encX, List.append_assoc, slice_append_right, slice_append_hit, drop_append_right,
    leEnc_length, Nat.reduceSub, List.drop_zero, leDec_leEnc_of_lt 2 _ h1, leDec_leEnc_of_lt 2 _ h2, leDec_leEnc_of_lt 2 _ h3, leDec_leEnc_of_lt 2 _ h4, leDec_leEnc_of_lt 4 _ h5, leDec_leEnc_of_lt 4 _ h6,
    decXBody_enc h.typ b rest hf hb]

/-- ext4, repaired write-back (toBytes starts from the record read): the library's Chmod / Chown / Chtimes produce
    exactly the record the setter theorems above are about - every byte outside the setter's words is kept -/
theorem ext4_setters_rmw_kept (b : Bytes) (perm : Nat) (uid gid : Option Nat) (cr at' mt : Ts) :
    chmodRmw true b perm = chmodBytes b perm ∧ chownRmw true b uid gid = chownBytes b uid gid ∧
    chtimesRmw true b cr at' mt = chtimesBytes b cr at' mt := ⟨rfl, rfl, rfl⟩

/-- ext4, as found (toBytes starts from zeros): a write-back keeps the length and every byte outside 0x70..0x73,
    0x7e..0x7f, the flags word and the bytes from 0x98 on - and zeroes those -/
theorem ext4_writeback_as_found_drops (b : Bytes) (h : RecordWF b) :
    (writeBack false b).length = b.length ∧
    (∀ i, dropped i = false → (i < 0x20 ∨ 0x24 ≤ i) → (writeBack false b)[i]? = b[i]?) ∧
    (∀ i, i < b.length → dropped i = true → (writeBack false b)[i]? = some 0) :=
  ⟨writeBack_length false b, fun i hd hf => writeBack_keeps b i hd hf, fun i hi hd => writeBack_drops b i hi hd⟩

/-- … so as found each of the three setters wipes the inode body from 0x98 on: high half of i_version, i_projid and
    the extended attributes stored in the inode (the defect ext4-inode-writeback-drops-unmodelled-fields) -/
theorem ext4_setters_drop_inode_body (b : Bytes) (perm : Nat) (uid gid : Option Nat) (cr at' mt : Ts) (i : Nat)
    (h : RecordWF b) (hi : i < b.length) (h98 : 0x98 ≤ i) :
    (chmodRmw false b perm)[i]? = some 0 ∧ (chownRmw false b uid gid)[i]? = some 0 ∧
    (chtimesRmw false b cr at' mt)[i]? = some 0 := by
  have hw := writeBack_wf false b h
  have hz := writeBack_drops b i hi (by simp [dropped]; omega)
  unfold chmodRmw chownRmw chtimesRmw
  rw [chmodBytes_frame _ perm i hw (by omega), chownBytes_frame _ uid gid i hw (by omega),
    chtimesBytes_frame _ cr at' mt i hw (by omega)]
  exact ⟨hz, hz, hz⟩

/-- the constants these mirrors are defined over are the ones in the source: the flag bits inodeFlags
    carries, four-byte ids in 8 KiB metadata blocks (2048 to a block), the fourteen inode type codes, the TF bits -/
theorem facts_agree_second_round :
    Meta.ext4InodeFlagsKnown = knownFlags ∧ Meta.sqMetadataBlockSize / Meta.sqIdEntrySize = 2048 ∧
    Meta.sqInodeTypes = [1, 2, 3, 4, 5, 6, 7, 8, 9, 10, 11, 12, 13, 14] ∧ Meta.rrTfBits = [1, 2, 4, 8, 16, 32, 64, 128] := by
  decide

/-! non-vacuity -/
example : Stamp7WF ⟨2026, 9, 24, 2, 5, 0, 0, -5400⟩ := by unfold Stamp7WF; decide
example : Stamp17WF ⟨2024, 2, 29, 23, 59, 59, 99, 50400⟩ := by unfold Stamp17WF; decide
example : StampWF true ⟨2024, 2, 29, 23, 59, 59, 99, 50400⟩ := by
  show Stamp17WF _
  unfold Stamp17WF; decide
example : tfDec (tfEnc ⟨false, [none, some ⟨2026, 9, 24, 2, 5, 0, 0, 0⟩, some ⟨1999, 12, 31, 23, 59, 59, 0, 3600⟩, none, none, none, none]⟩) =
    some ⟨false, [none, some ⟨2026, 9, 24, 2, 5, 0, 0, 0⟩, some ⟨1999, 12, 31, 23, 59, 59, 0, 3600⟩, none, none, none, none]⟩ := by decide
example : (XHdr.mk 11 0o644 1 2 5 9).WF ∧ (XBody.devx 1 2048 7).fits 11 = true ∧ (XBody.devx 1 2048 7).WF := by
  simp [XHdr.WF, XBody.fits, XBody.WF]
example : (idIndex [0, 1000] 65534).1.length < 65536 := by decide
-- the inode body of a 256-byte record: offsets 0x98..0xff satisfy the hypotheses of ext4_setters_drop_inode_body
example : RecordWF (zeros 256) ∧ (0xa3 : Nat) < (zeros 256).length ∧ 0x98 ≤ (0xa3 : Nat) ∧ dropped 0xa3 = true := by
  simp [RecordWF, dropped]

/-! ### squashfs extended attributes: the reader's lookup walk (xAttrTable.find) -/

open Diskfs.Meta.SqXattr in
/-- squashfs xattr lookup: an id entry that names the position of `as.length` attributes laid out back to back
    in the key/value data (anything before, anything behind) yields exactly these attributes, in order: names of
    1..65535 bytes, values of any length below 2^32 (empty ones included), any number of attributes.  With the
    cursor rule as found this fails from the third attribute on (sqfs_xattr_cursor_as_found). -/
theorem sqfs_xattr_find_all (pre : Bytes) (as : List Attr) (rest : Bytes) (h : ∀ a ∈ as, WfAttr a)
    (hpos : 0 < (encSet as ++ rest).length) :
    find true (pre ++ (encSet as ++ rest)) pre.length as.length = some (as.map fun a => (a.name, a.val)) := by
  have hlt : ¬ (pre ++ (encSet as ++ rest)).length ≤ pre.length := by
    simp only [List.length_append] at hpos ⊢; omega
  have := walk_encSet [] as rest h
  simp only [List.nil_append, List.length_nil] at this
  simp only [find, if_neg hlt, List.drop_left, this]

open Diskfs.Meta.SqXattr in
/-- … so the lookup finds the i-th attribute of the set, for every i -/
theorem sqfs_xattr_find_ith (pre : Bytes) (as : List Attr) (rest : Bytes) (h : ∀ a ∈ as, WfAttr a)
    (i : Nat) (hi : i < as.length) :
    (find true (pre ++ (encSet as ++ rest)) pre.length as.length).bind (·[i]?) = some (as[i].name, as[i].val) := by
  have hpos : 0 < (encSet as ++ rest).length := by
    cases as with
    | nil => simp at hi
    | cons a t => simp [encSet, encAttr]; omega
  rw [sqfs_xattr_find_all pre as rest h hpos]
  simp [hi]

open Diskfs.Meta.SqXattr in
/-- the cursor rule as found (`ptr += valStart + valSize`, repaired by 104ff15) is right for ids of one or two
    attributes, on any bytes, and misreads a set of three: after the second attribute the cursor is one attribute too far -/
theorem sqfs_xattr_cursor_as_found :
    (∀ b n, n ≤ 2 → walk false b n 0 = walk true b n 0) ∧
    walk false (encSet [⟨0, [97], [49]⟩, ⟨0, [98], [50]⟩, ⟨0, [99], [51]⟩]) 3 0 = none ∧
    walk true (encSet [⟨0, [97], [49]⟩, ⟨0, [98], [50]⟩, ⟨0, [99], [51]⟩]) 3 0
      = some [([97], [49]), ([98], [50]), ([99], [51])] := by
  refine ⟨fun b n hn => ?_, by decide, by decide⟩
  match n, hn with
  | 0, _ => rfl
  | 1, _ => simp only [walk]
  | 2, _ =>
    simp only [walk]
    cases step b 0 with
    | none => rfl
    | some r =>
      obtain ⟨k, v, e⟩ := r
      simp only [Nat.zero_add, if_true, Bool.false_eq_true, if_false]

/-! non-vacuity -/
example : Meta.SqXattr.WfAttr ⟨0, [117, 115, 101, 114], []⟩ := by simp [Meta.SqXattr.WfAttr]
example : Meta.SqXattr.find true (Meta.SqXattr.encSet [⟨0, [97], []⟩, ⟨2, [98, 98], [1, 2, 3]⟩]) 0 2
    = some [([97], []), ([98, 98], [1, 2, 3])] := by decide

end Diskfs.C19
