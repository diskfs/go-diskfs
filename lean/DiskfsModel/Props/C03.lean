/-
  C03 — Nothing is written outside the byte range a component was given.
  For all sizes, offsets and prior device contents: the frame of a write list; the GPT / MBR table writes, which
  touch only the table's own sectors; the SubStorage translation; cluster and block numbers inside the volume;
  then one clause per filesystem (FAT, squashfs, iso9660, ext4) over its write-logging model, the SubStorage
  clause on nested windows, and the regenerated facts on who adds the start offset.
  What is NOT a theorem (partial): the iso9660 writers beyond the plain configuration, squashfs images with
  extended attributes, FAT operations inside cluster-chain directories (subdirectories, the FAT32 root); for
  ext4 the WriteAts an operation issues are the machine's definition, tied to the real code by classifying
  every WriteAt of real histories (`ranges.ext4`), not a line-by-line mirror.  Those are monitored on the real
  code by the `ranges` engine (every WriteAt range-checked, guard bytes compared) for all six filesystems.
-/
import DiskfsModel.Model.Ranges
import DiskfsModel.Proofs.FatRange
import DiskfsModel.Proofs.SqfsRange
import DiskfsModel.Proofs.IsoWrites
import DiskfsModel.Generated.Fat
import DiskfsModel.Proofs.Ext4Range
import DiskfsModel.Proofs.Ext4RangeFile
import DiskfsModel.Proofs.SubRange
import DiskfsModel.Generated.Ranges
namespace Diskfs.Ranges.C03

/-- frame, stated for a half-open range -/
theorem writes_in_range_frame (d : Dev) (ws : List Wr) (lo hi : Nat)
    (h : ∀ w ∈ ws, lo ≤ w.off ∧ w.off + w.data.length ≤ hi) (i : Nat) (hi' : i < lo ∨ hi ≤ i) :
    applyWrs d ws i = d i :=
  applyWrs_frame_range d ws lo hi h i hi'

/-- MBR: the only write is the 64-byte entry area plus the signature -/
theorem mbr_write_in_table_bytes : ∀ r ∈ mbrRegions, 446 ≤ r.off ∧ r.off + r.len ≤ 512 := by
  decide

/-- GPT: no region reaches into the boot code area [0, 446) -/
theorem gpt_regions_avoid_bootcode (lss size : Nat) (pmbr : Bool) (hl : 512 ≤ lss)
    (hs : 2 * (gptArrayBytes / lss) + 3 ≤ size / lss) :
    ∀ r ∈ gptRegions lss size pmbr, 446 ≤ r.off := by
  have hm : ∀ k : Nat, 1 ≤ k → 446 ≤ k * lss := fun k hk =>
    Nat.le_trans (by omega : 446 ≤ 1 * lss) (Nat.mul_le_mul_right lss hk)
  have h1 := hm (size / lss - 1 - gptArrayBytes / lss) (by omega)
  have h2 := hm (size / lss - 1) (by omega)
  apply forall_mem_gptRegions <;> dsimp only <;> omega

/-- GPT: with first usable LBA = 2 + arraySectors and last usable LBA = last − arraySectors − 1
    (what `initTable` computes), no region overlaps the usable area that holds partition data.
    Needs the sector size to divide the array size (512 and 4096 do) and a disk that holds both copies. -/
theorem gpt_regions_avoid_usable (lss size : Nat) (pmbr : Bool) (hl : 512 ≤ lss)
    (hdiv : gptArrayBytes / lss * lss = gptArrayBytes)
    (hs : 2 * (gptArrayBytes / lss) + 3 ≤ size / lss) :
    ∀ r ∈ gptRegions lss size pmbr,
      r.off + r.len ≤ (2 + gptArrayBytes / lss) * lss ∨
      (size / lss - 1 - gptArrayBytes / lss) * lss ≤ r.off := by
  obtain ⟨h1, h2, h3, h4⟩ := gpt_products (Nat.div_mul_le_self size lss) hdiv hs
  apply forall_mem_gptRegions <;> dsimp only <;> omega

/-- GPT: every region lies inside the device -/
theorem gpt_regions_inside_device (lss size : Nat) (pmbr : Bool) (hl : 512 ≤ lss)
    (hdiv : gptArrayBytes / lss * lss = gptArrayBytes)
    (hs : 2 * (gptArrayBytes / lss) + 3 ≤ size / lss) :
    ∀ r ∈ gptRegions lss size pmbr, r.off + r.len ≤ size := by
  obtain ⟨h1, h2, h3, h4⟩ := gpt_products (Nat.div_mul_le_self size lss) hdiv hs
  apply forall_mem_gptRegions <;> dsimp only <;> omega

/-- SubStorage (ext4, iso9660, squashfs): an in-bounds relative write stays inside [base, base+size) -/
theorem sub_write_inside (base size : Nat) (w : Wr) (h : w.off + w.data.length ≤ size) :
    base ≤ (subWrite base w).off ∧ (subWrite base w).off + (subWrite base w).data.length ≤ base + size := by
  simp only [subWrite]; omega

/-- FAT: a cluster number not above dataClusters+1 maps inside the volume -/
theorem fat_cluster_inside (dataStart bpc size dataClusters c : Nat)
    (hfit : dataStart + dataClusters * bpc ≤ size) (hc2 : 2 ≤ c) (hc : c ≤ dataClusters + 1) :
    (clusterRange dataStart bpc c).2 ≤ size := by
  have h := Nat.mul_le_mul_right bpc (show c - 2 + 1 ≤ dataClusters by omega)
  rw [Nat.succ_mul] at h
  simp only [clusterRange]
  omega

/-- … and the bound is tight: the first cluster number past the data area does not (as-found
    `maxCluster = fatSize/4` hands such numbers out; see known finding fat-maxcluster-from-fat-size) -/
theorem fat_cluster_outside (dataStart bpc size dataClusters : Nat)
    (htight : size < dataStart + (dataClusters + 1) * bpc) :
    size < (clusterRange dataStart bpc (dataClusters + 2)).2 := by
  rw [Nat.succ_mul] at htight
  simp only [clusterRange, Nat.add_sub_cancel]
  omega

/-- ext4 / iso9660 / squashfs: a block number below the block count maps inside the filesystem -/
theorem block_inside (bs blocks size b : Nat) (hfit : blocks * bs ≤ size) (hb : b < blocks) :
    (blockRange bs b).2 ≤ size := by
  have h := Nat.mul_le_mul_right bs (Nat.succ_le_of_lt hb)
  rw [Nat.succ_mul] at h
  simp only [blockRange]
  omega

/-! non-vacuity -/
example : 2 * (gptArrayBytes / 512) + 3 ≤ 204800 / 512 ∧ gptArrayBytes / 512 * 512 = gptArrayBytes := by decide
example : gptArrayBytes / 4096 * 4096 = gptArrayBytes := by decide
example : gptRegions 512 (100 * 512) true =
    [⟨(99 - 32) * 512, 16384⟩, ⟨99 * 512, 512⟩, ⟨1024, 16384⟩, ⟨512, 512⟩, ⟨446, 66⟩] := by decide

end Diskfs.Ranges.C03

/-! ## FAT clause: every WriteAt of the modelled FAT operations lies inside the range -/
namespace Diskfs.Ranges.C03
open Diskfs.Fat

/-- the allocator bound: the scan of `allocateSpace` stops at min(MaxCluster(), dataClusterLimit()),
    which never exceeds (size − dataStart) / bytesPerCluster + 2, so every cluster number it can
    hand out maps inside the volume (this is the premise `fat_cluster_inside` takes as given) -/
theorem fat_alloc_bound (L : Layout) (h : L.WF) (c : Nat) (h2 : 2 ≤ c) (hc : c < L.lim) :
    L.start ≤ clusterOff L.io c ∧ clusterOff L.io c + L.bpc ≤ L.start + L.size :=
  L.cluster_in_range h c h2 hc

/-- one operation (create, write at any offset incl. past EOF, truncating
    open, remove, rename with replacement) on the root directory of a volume with layout `L`:
    every WriteAt it issues — FAT copies (+ FSInfo), root directory region, zero-fill and payload
    through the file's cluster chain — lies inside [start, start+size), whether the operation is
    accepted or refused (ENOSPC, no such file).  Zero-length WriteAt calls (the Go loop issues them
    for the clusters behind the payload) carry no byte. -/
theorem fat_writes_in_range (eqn : Spec.Name → Spec.Name → Bool) (L : Layout) (fuel : Nat) (s : FState) (op : FOp)
    (hL : L.WF) (he : EqnOk eqn) (hlim : LimOk L.kind L.lim) (hfuel : L.lim - 2 ≤ fuel)
    (h : FInv eqn L.fgeom s) :
    ∀ w ∈ (fstepW eqn L fuel s op).ws,
      w.data.length = 0 ∨ (L.start ≤ w.off ∧ w.off + w.data.length ≤ L.start + L.size) :=
  fun w hw => Or.inr (fstepW_in_range eqn L fuel s op hL he hlim hfuel h w hw)

/-- the logging model is the refinement-proved model of C01 plus a log: same state, same verdict -/
theorem fat_log_is_fstep (eqn : Spec.Name → Spec.Name → Bool) (L : Layout) (fuel : Nat) (s : FState) (op : FOp) :
    ((fstepW eqn L fuel s op).s, (fstepW eqn L fuel s op).ok) = fstep eqn L.fgeom fuel s op :=
  fstepW_eq eqn L fuel s op

/-- after every history the invariant still holds and the whole write log lies inside the range; hence
    no byte outside [start, start+size) differs from what the device held before. -/
theorem fat_history_in_range (eqn : Spec.Name → Spec.Name → Bool) (L : Layout) (fuel : Nat) (ops : List FOp)
    (s : FState) (hL : L.WF) (he : EqnOk eqn) (hlim : LimOk L.kind L.lim) (hfuel : L.lim - 2 ≤ fuel)
    (h : FInv eqn L.fgeom s) (d : Dev) (i : Nat) (hi : i < L.start ∨ L.start + L.size ≤ i) :
    (∀ w ∈ (frunW eqn L fuel s ops).2, w.data.length = 0 ∨ L.InRange w) ∧
    applyWrs d (frunW eqn L fuel s ops).2 i = d i := by
  have hall := (frunW_in_range eqn L fuel ops s hL he hlim hfuel h).2
  exact ⟨fun w hw => Or.inr (hall w hw), applyWrs_frame_range d _ _ _ hall i hi⟩

/-- a freshly created volume: empty table, empty directory -/
theorem fat_fresh_inv (eqn : Spec.Name → Spec.Name → Bool) (g : FGeom) (d : Dev) :
    FInv eqn g ⟨fun _ => 0, d, []⟩ := by
  refine ⟨⟨?_, ?_, ?_⟩, ?_, ?_⟩
  · intro l hl; simp at hl
  · simp
  · intro c _ _; simp
  · intro f hf; simp at hf
  · exact List.Pairwise.nil

/-- **FAT12, end to end**: for EVERY size `fat12.Create` accepts (mirrored arithmetic over the
    regenerated cluster-size table), every start offset, every name comparison that is an
    equivalence and every call history on the root directory, the writes of `Create` followed by
    the writes of the history all lie inside [start, start+size). -/
theorem fat12_all_writes_in_range (size start : Nat) (g : Geom)
    (hg : mkGeom12 Generated.Fat.fat12_spc_table size = some g)
    (eqn : Spec.Name → Spec.Name → Bool) (he : EqnOk eqn) (ops : List FOp) (d : Dev) :
    let L := Layout.ofGeom g start size
    L.WF ∧ L.lim = g.clusters + 2 ∧
    ∀ w ∈ L.createWrites ++ (frunW eqn L (L.lim - 2) ⟨fun _ => 0, d, []⟩ ops).2,
      w.data.length = 0 ∨ L.InRange w := by
  obtain ⟨hwf, _, hcl⟩ := mkGeom12_wf size g hg
  obtain ⟨hk, hres, hbps⟩ := mkGeom12_fields _ size g hg
  exact Layout.ofGeom_all_writes_in_range g start size hwf (by unfold Geom.ReservedOk; rw [hk]; simp only; omega)
    (by omega) (hk ▸ limOk12 (by omega)) eqn he ops _ (fat_fresh_inv eqn _ d)

/-- **FAT16, end to end** (same statement) -/
theorem fat16_all_writes_in_range (size start : Nat) (g : Geom)
    (hg : mkGeom16 Generated.Fat.fat16_spc_table size = some g)
    (eqn : Spec.Name → Spec.Name → Bool) (he : EqnOk eqn) (ops : List FOp) (d : Dev) :
    let L := Layout.ofGeom g start size
    L.WF ∧ L.lim = g.clusters + 2 ∧
    ∀ w ∈ L.createWrites ++ (frunW eqn L (L.lim - 2) ⟨fun _ => 0, d, []⟩ ops).2,
      w.data.length = 0 ∨ L.InRange w := by
  obtain ⟨hwf, _, _, hcl⟩ := mkGeom16_wf size g hg
  obtain ⟨hk, hres, hbps⟩ := mkGeom16_fields _ size g hg
  exact Layout.ofGeom_all_writes_in_range g start size hwf (by unfold Geom.ReservedOk; rw [hk]; simp only; omega)
    (by omega) (hk ▸ limOk16 (by omega)) eqn he ops _ (fat_fresh_inv eqn _ d)

/-- **FAT32 `Create`** (repaired sectors-per-FAT formula, the one in the tree): boot sector and its
    backup at sector 6, both FAT copies, FSInfo at sector 1 and its backup at sector 7, the zeroed
    root cluster and the root directory with the label all lie inside the range; the scan limit is
    data clusters + 2 and cluster numbers below it are not end-of-chain values. -/
theorem fat32_create_in_range (size bs start : Nat) (g : Geom) (hmax : size ≤ 274940771839 ∨ bs = 4096)
    (hg : mkGeom32Fixed Generated.Fat.fat32_clusterBytes_table size bs = some g) :
    let L := Layout.ofGeom g start size
    L.WF ∧ L.lim = g.clusters + 2 ∧ LimOk L.kind L.lim ∧ ∀ w ∈ L.createWrites, L.InRange w := by
  intro L
  obtain ⟨hwf, _⟩ := mkGeom32Fixed_wf size bs g hmax hg
  obtain ⟨hk, hres, hbps, hspf, _⟩ := mkGeom32Fixed_fields _ size bs g hg
  obtain ⟨hL, hl⟩ : L.WF ∧ L.lim = g.clusters + 2 := Layout.ofGeom_lim_eq g start size hwf
    (by unfold Geom.ReservedOk; rw [hk]; simp only; omega) (by omega)
  have hlimmax : L.lim ≤ 67108864 := by
    have h1 : L.lim ≤ L.max := L.lim_le_max
    have h2 : L.max = g.fatEntries := Layout.ofGeom_max g start size
    have h3 : g.fatEntries ≤ 67108864 := by
      unfold Geom.fatEntries; rw [hk]; simp only
      have : g.fatSectors * g.bps ≤ 65535 * 4096 := Nat.mul_le_mul (by omega) (by omega)
      omega
    omega
  refine ⟨hL, hl, ?_, L.createWrites_in_range hL (Or.inr (by have := hwf.has_cluster; omega))⟩
  show LimOk g.kind _
  rw [hk]; exact limOk32 hlimmax

/-! non-vacuity: a 1.44 MB FAT12 floppy at start 512 and a small FAT32 volume -/
example : (mkGeom12 Generated.Fat.fat12_spc_table 1474560).isSome = true := by decide
example : mkGeom32Fixed Generated.Fat.fat32_clusterBytes_table 82432 512 ≠ none := by
  intro h; have := mkGeom32Fixed_values; rw [h] at this; cases this
set_option maxRecDepth 4000 in
example : (fstepW (fun a b => a == b) (Layout.ofGeom ⟨.f12, 512, 1, 1, 1, 16, 40⟩ 512 20480) 100
    ⟨fun _ => 0, fun _ => 0, []⟩ (.create [65])).ws.map (fun w => (w.off, w.data.length))
    = [(1024, 512), (1536, 512), (2048, 512)] := by decide +kernel

end Diskfs.Ranges.C03

/-! ## squashfs clause: every WriteAt of `Finalize` lies inside [start, start + bytes_used) -/
namespace Diskfs.Ranges.C03

/-- **squashfs `Finalize`**: in the region mirror of Finalize (Model/Sqfs/Regions.lean: the
    `location += written` bookkeeping of every writer, for ANY sizes of the pieces, with or without
    export table / compressor options; tied to the real WriteAt log by the sqfs engine's
    `sqfs.regions` correspondence) every write, shifted by SubStorage to `start`, lies inside
    [start, start + bytes_used).  The code pads nothing (NoPad is not consulted), so bytes_used is the exact
    end: the writes lie inside [start, start + size) exactly when bytes_used ≤ size.  Before fix 7f38962
    Finalize never compared the two (finding sqfs-finalize-exceeds-size, repaired: it now refuses any WriteAt
    ending behind the size). -/
theorem sqfs_finalize_in_range (p : Sqfs.Pieces) (start size : Nat) (d : Dev) (ws : List Wr)
    (hws : ws.map (fun w => (w.off, w.data.length)) = (Sqfs.finalize p).writes) :
    (∀ w ∈ ws.map (subWrite start), start ≤ w.off ∧ w.off + w.data.length ≤ start + (Sqfs.finalize p).bytesUsed) ∧
    (∀ i, i < start ∨ start + (Sqfs.finalize p).bytesUsed ≤ i → applyWrs d (ws.map (subWrite start)) i = d i) ∧
    ((Sqfs.finalize p).bytesUsed ≤ size →
      ∀ w ∈ ws.map (subWrite start), start ≤ w.off ∧ w.off + w.data.length ≤ start + size) ∧
    (size < (Sqfs.finalize p).bytesUsed → ∃ w ∈ ws.map (subWrite start), start + size < w.off + w.data.length) := by
  obtain ⟨h1, h2, h3⟩ := sub_writes_inside start _ ws (List.forall_mem_map.1 (hws ▸ Sqfs.finalize_write_le p)) d
  refine ⟨h1, h2, h3 size, fun hlt => ?_⟩
  obtain ⟨v, hv, he⟩ := Sqfs.finalize_write_reaches p
  rw [← hws] at hv
  obtain ⟨u, hu, rfl⟩ := List.mem_map.1 hv
  exact ⟨subWrite start u, List.mem_map.2 ⟨u, hu, rfl⟩, by simp only [subWrite]; simp only at he; omega⟩

/-! non-vacuity: 2 data blocks, 1 fragment block, one block per table; at start 1 MiB -/
private def sqEx : Sqfs.Pieces := { opt := 8, data := [40, 10], frags := [50], inodes := [20], dirs := [60], fragTbl := [16],
                                    exportTbl := some [40], idTbl := [4] }
private def sqWs : List Wr := (Sqfs.finalize sqEx).writes.map fun w => ⟨w.1, zeros w.2⟩
example : sqWs.map (fun w => (w.off, w.data.length)) = (Sqfs.finalize sqEx).writes := by decide
example : (Sqfs.finalize sqEx).bytesUsed = 378 ∧
    ((sqWs.map (subWrite 1048576)).map fun w => (w.off, w.data.length)).take 3 = [(1048672, 8), (1048680, 40), (1048720, 10)] := by decide

end Diskfs.Ranges.C03

/-! ## iso9660 clause: every WriteAt of `Finalize` lies inside [start, start + volume size) -/
namespace Diskfs.Ranges.C03
open Diskfs.Iso in
/-- **iso9660 `Finalize`, plain configuration** (no Rock Ridge, no Joliet, no El Torito).  In the
    write model of Finalize (Model/Iso/Writes.lean `ImageIn.writesGo`: 16 blocks of system area, one
    WriteAt per directory extent in whole blocks, L and M path table, one WriteAt per 2048-byte chunk
    of every file plus the zero fill of its last block, PVD, terminator; tied to the real WriteAt log
    offset by offset and length by length by the iso engine's `iso.wlog` correspondence of C06), with
    the locations the layout assigns (`Placed`: root directory at block 18, `location += blocks`),
    every write — shifted by SubStorage to `start`, which is how `Create` now honours the start offset
    (fix afa7eac of the earlier finding iso-start-ignored) — lies inside
    [start, start + volBlocks * blocksize), where `volBlocks` is `totalSize`, the volume size written
    into the descriptor.  That the volume fits the size the filesystem was created with is a premise:
    Finalize itself never compared the two before fix 71762a2 (finding iso-finalize-exceeds-size, repaired:
    Finalize now refuses before its first write). -/
theorem iso_finalize_in_range (i : ImageIn) (start size : Nat) (d : Dev) (hbs : 2048 ≤ i.bs) (hp : i.pvd.WF)
    (hpl : i.Placed) :
    (∀ w ∈ i.writesGo.map (subWrite start), start ≤ w.off ∧ w.off + w.data.length ≤ start + i.volBlocks * i.bs) ∧
    (∀ j, j < start ∨ start + i.volBlocks * i.bs ≤ j → applyWrs d (i.writesGo.map (subWrite start)) j = d j) ∧
    (i.volBlocks * i.bs ≤ size →
      ∀ w ∈ i.writesGo.map (subWrite start), start ≤ w.off ∧ w.off + w.data.length ≤ start + size) := by
  obtain ⟨h1, h2, h3⟩ := sub_writes_inside start _ _ (Iso.writesGo_in_volume i hbs hp hpl) d
  exact ⟨h1, h2, h3 size⟩

/-! non-vacuity: a root directory holding one 3-byte file, 2048-byte blocks; the volume is 22 blocks -/
private def isoDate : Bytes := [126, 1, 1, 0, 0, 0, 0]
private def isoT : Iso.PTree :=
  { n := 2
    ent := fun i => if i = 0 then { name := [0], isDir := true, loc := 18, size := 104, date := isoDate, content := [] }
                    else { name := [65, 59, 49], isDir := false, loc := 21, size := 3, date := isoDate, content := [7, 7, 7] }
    kids := fun d => if d = 0 then [1] else []
    parent := fun _ => 0 }
private def isoI : Iso.ImageIn :=
  { t := isoT, bs := 2048, dirs := [0], files := [1]
    pvd := { sysId := zeros 32, volId := zeros 32, volSize := 22, setSize := 1, seqNo := 1, blocksize := 2048, ptSize := 10,
             ptL := 19, ptLopt := 0, ptM := 20, ptMopt := 0, root := isoT.selfRec 0, tail := zeros 1858 }
    ptLBytes := [1, 0, 18, 0, 0, 0, 1, 0, 0, 0], ptMBytes := [1, 0, 0, 0, 0, 18, 0, 1, 0, 0] }
private theorem isoLen : (isoT.dirBytes 2048 0).length = 104 := by decide
private theorem isoPlaced : isoI.Placed := by
  apply Iso.placed_of_offsets
  simp only [Iso.ImageIn.mid, isoI, List.map_cons, List.map_nil, List.cons_append, List.nil_append, Iso.padBlock_length, isoLen]
  simp [Iso.seqAlloc, Iso.blocksFor, Iso.dataStartSector, isoT]
private theorem isoVol : isoI.volBlocks = 22 := by
  simp only [Iso.ImageIn.volBlocks, Iso.ImageIn.mid, isoI, List.map_cons, List.map_nil, List.cons_append, List.nil_append,
    Iso.padBlock_length, isoLen]
  simp [Iso.blocksFor, Iso.dataStartSector, isoT]
example : ∀ w ∈ isoI.writesGo.map (subWrite 1048576), 1048576 ≤ w.off ∧ w.off + w.data.length ≤ 1048576 + 22 * 2048 := by
  have := (iso_finalize_in_range isoI 1048576 0 (fun _ => 255) (by decide)
    (by simp [Iso.PVD.WF, isoI, isoT, Iso.PTree.selfRec, Iso.PTree.recOf, isoDate]) isoPlaced).1
  rw [isoVol] at this
  exact this
example : (isoI.writesGo.map (subWrite 1048576)).map (·.off) =
    [1048576, 1085440, 1087488, 1089536, 1091584, 1091587, 1081344, 1083392] := by decide

end Diskfs.Ranges.C03

/-! ## ext4 clause: layout, allocator and every history of the volume machine stay inside [start, start + size) -/
namespace Diskfs.Ranges.C03
open Diskfs.Ext4 Diskfs.Ext4.Mkfs Diskfs.Ext4.Alloc Diskfs.Ranges.Ext4

/-- **ext4 layout**: for every parameter set Create accepts (`mkLayout`), when the metadata of every (flex)
    group fits behind its owner (`Fits`) and every superblock / descriptor-table copy fits into its group
    (`BackupsFit`) — Create checks neither: finding ext4-create-flex-meta-overflow is the negation of the first;
    the negation of the second was finding ext4-backup-gdt-past-end, and since fix d068f3a writeGDT / writeSuperblock
    leave out a copy that would end behind the filesystem, which the machine here does not model — every structure
    the layout places
    (boot area, superblock and GDT copies, reserved GDT blocks, block bitmaps, inode bitmaps, inode tables,
    every inode slot of every inode number ≤ inodeCount) and every run of blocks below the block count lies
    inside [0, numBlocks × blockSize) ⊆ [0, size). -/
theorem ext4_layout_inside (p : Params) (l : Layout) (h : mkLayout p = .ok l) (hfit : Fits l p.flex) (hb : BackupsFit l)
    (owned : List Nat) (hown : ∀ b ∈ owned, b < l.numBlocks) (ev : Ev) (hok : EvOk l owned ev) :
    (evRegion l p.flex ev).off + (evRegion l p.flex ev).len ≤ l.numBlocks * l.bs ∧ l.numBlocks * l.bs ≤ p.size :=
  ⟨evOk_inside l p.flex owned (lwf_of_mkLayout p l h).1 hfit hb hown ev hok, (lwf_of_mkLayout p l h).2⟩

/-- **ext4 allocator**: whatever blocks allocateExtents answers with (fast path, slow path, any policy: the
    machine accepts exactly the answers whose runs are free in the bitmaps, `runsOK`), on bitmaps that are no
    longer than their group (`LenInv`: the short last group has a short bitmap — in the code the padding bits
    behind it are set), every block handed out is below the block count and every run lies inside one group. -/
theorem ext4_alloc_below (l : Layout) (s : Acc) (n : Nat) (runs : List Run) (s' : Acc) (hi : LenInv l s)
    (h : allocExtents s n (some runs) = .ok s') :
    (∀ r ∈ runs, r.1 < l.groups) ∧ (∀ b ∈ runs.flatMap (runBlocks (geoOf l)), b < l.numBlocks) ∧ LenInv l s' := by
  have hok : runsOK s runs = true := by
    cases hro : runsOK s runs with
    | true => rfl
    | false => exfalso; simp [allocExtents, hro] at h
  have hs : shape s' = shape s := by
    have := shape_allocExtents s n (some runs)
    rw [h] at this; exact this
  exact ⟨(runs_below l runs s hi hok).1, (runs_below l runs s hi hok).2, lenInv_of_shape l s s' hs hi⟩

/-- **ext4, every history**: a volume created with parameters Create accepts, with `Fits` and `BackupsFit`;
    any state satisfying the invariant `RInv` (bitmaps no longer than their groups, every owned block below the
    block count, every file's inode number ≤ inodeCount — `ext4_fresh_inv`: the state Create leaves has it);
    any sequence of calls of the volume machine (allocateInode + writeInode, allocateExtents answers of any
    policy, Remove, WriteAts into runs of blocks the file owns — file data, directory blocks, extent nodes —,
    inode write-backs), accepted or refused.  Then every WriteAt of Create and of the history, shifted by the
    SubStorage window to `start`, lies inside [start, start + size): no byte outside changes whatever the
    device held. -/
theorem ext4_history_in_range (p : Params) (l : Layout) (h : mkLayout p = .ok l) (hfit : Fits l p.flex) (hb : BackupsFit l)
    (o : Own) (hi : RInv l o) (ops : List VOp) (start : Nat) (d : Dev) (ws : List Wr)
    (hws : ws.map (fun w => (⟨w.off, w.data.length⟩ : Region)) = (createEvs l ++ (vrun l o ops).2).map (evRegion l p.flex)) :
    RInv l (vrun l o ops).1 ∧
    (∀ w ∈ ws.map (subWrite start), start ≤ w.off ∧ w.off + w.data.length ≤ start + p.size) ∧
    ∀ i, i < start ∨ start + p.size ≤ i → applyWrs d (ws.map (subWrite start)) i = d i := by
  obtain ⟨hw, hsz⟩ := lwf_of_mkLayout p l h
  obtain ⟨hinv, hin⟩ := vrun_inside l p.flex hw hfit hb ops o hi
  have hev : ∀ r ∈ (createEvs l ++ (vrun l o ops).2).map (evRegion l p.flex), r.off + r.len ≤ p.size :=
    List.forall_mem_map.2 fun ev hev => Nat.le_trans ((List.mem_append.1 hev).elim
      (fun h1 => evOk_inside l p.flex [] hw hfit hb (by simp) ev (createEvs_ok l [] ev h1)) (hin ev)) hsz
  rw [← hws] at hev
  obtain ⟨h1, h2, _⟩ := sub_writes_inside start p.size ws (List.forall_mem_map.1 hev) d
  exact ⟨hinv, h1, h2⟩

/-- the state initGroupDescriptorTables leaves satisfies the invariant, for every layout -/
theorem ext4_fresh_inv (l : Layout) (flex : Bool) : RInv l (freshOwn l flex) := fresh_rinv l flex

/-- **File.Write** (the repaired loop of Model/Ext4/FileIO.lean) on an extent list that holds the transfer:
    every WriteAt lies inside one extent of the file; so when the file's extents are blocks below the block
    count (what `RInv` says of every owned block), every WriteAt ends at or below numBlocks × blockSize. -/
theorem ext4_file_write_in_range (bs numBlocks : Nat) (es : List Extent) (size off : Nat) (b : Bytes)
    (hbs : 0 < bs) (hc : Contig 0 es) (hsz : size ≤ blockCount es * bs) (hfit : off + b.length ≤ blockCount es * bs)
    (hbelow : ∀ e ∈ es, e.start + e.count ≤ numBlocks) :
    ∃ r, writeE false true bs es size off b = .ok r ∧
      ∀ w ∈ r.ws, InExtent bs es w ∧ 0 ≤ w.1 ∧ w.1 + (w.2.length : Int) ≤ ((numBlocks * bs : Nat) : Int) := by
  obtain ⟨r, hr, hin⟩ := writeE_in_extents bs es size off b hbs hc hsz hfit
  refine ⟨r, hr, fun w hw => ⟨hin w hw, ?_⟩⟩
  obtain ⟨e, he, h1, h2⟩ := hin w hw
  have := Nat.mul_le_mul_right bs (hbelow e he)
  omega

/-- finding ext4-backup-gdt-past-end (repaired by d068f3a), as arithmetic of the layout: the descriptor-table copy
    of a group whose first block is the last block of the volume would start at or behind the end of the volume -/
theorem ext4_backup_gdt_outside (l : Layout) (flex : Bool) (g : Nat) (h : l.numBlocks ≤ groupStart l g + 1) :
    l.numBlocks * l.bs ≤ (evRegion l flex (.gdt g)).off := by
  simp only [evRegion]
  exact Nat.mul_le_mul_right _ h

/-! non-vacuity, and the two findings as the negations of the hypotheses -/

/-- the default 16 MiB volume: accepted, `Fits`, `BackupsFit` -/
def e4p16 : Params := ⟨16 * 1024 * 1024, 0, 0, 0, 0, 0, true, true, true⟩
example : ∃ l, mkLayout e4p16 = .ok l ∧ Fits l e4p16.flex ∧ BackupsFit l := ⟨layoutOf e4p16, by rfl, by decide, by decide⟩

/-- ext4-backup-gdt-past-end: 73730 blocks of 1 KiB — ten groups, group 9 (a backup group: 9 = 3²) has one
    block.  Create accepts, `Fits` holds, `BackupsFit` does not, and the descriptor-table copy of group 9
    starts exactly at the end of the volume (before fix d068f3a the code wrote 640 bytes there; it now writes
    no copy for such a group). -/
def pGdt : Params := ⟨73730 * 1024, 0, 0, 0, 0, 0, true, true, true⟩
example : mkLayout pGdt = .ok (layoutOf pGdt) ∧ Fits (layoutOf pGdt) true ∧ ¬ BackupsFit (layoutOf pGdt) ∧
    (evRegion (layoutOf pGdt) true (.gdt 9)).off = pGdt.size ∧ hasSuper 9 = true := ⟨by rfl, by decide⟩

/-- ext4-create-flex-meta-overflow: 64 MiB + 3 KiB without resize inode — 65539 blocks, group 8 has 2 blocks
    and is the owner of its flex group: `Fits` is false and the inode table of group 8 ends beyond the volume -/
def pFlex : Params := ⟨64 * 1024 * 1024 + 3 * 1024, 0, 0, 0, 0, 0, false, true, true⟩
example : mkLayout pFlex = .ok (layoutOf pFlex) ∧ ¬ Fits (layoutOf pFlex) true ∧
    pFlex.size < (evRegion (layoutOf pFlex) true (.itab 8)).off + (evRegion (layoutOf pFlex) true (.itab 8)).len :=
  ⟨by rfl, by decide⟩

set_option maxRecDepth 100000 in
/-- one file on the fresh 16 MiB volume: allocateInode, two blocks from allocateExtents, a WriteAt over both,
    the inode write-back, Remove — the machine accepts every step and emits these writes -/
example : ((vrun (layoutOf e4p16) (freshOwn (layoutOf e4p16) true)
      [.create false, .grow 0 2 [(0, 1000, 2)], .wblocks 0 1001 2 100 1500, .winode 0, .remove 0 false]).2.map
        (fun ev => ((evRegion (layoutOf e4p16) true ev).off, (evRegion (layoutOf e4p16) true ev).len))).length = 21 := by
  -- allocateExtents looks at the superblock's free-block count, which `freshOwn` defines by counting the clear bits
  -- of two bitmaps of 8192 bits: most of the evaluation unless the count is given in closed form first
  rw [freshOwn_sbFreeBlocks]
  decide +kernel

end Diskfs.Ranges.C03

/-! ## SubStorage clause: backend.Sub is a pure translation; nested windows; calls that leave the window -/
namespace Diskfs.Ranges.C03

/-- **SubStorage is a pure translation**: a ReadAt / WriteAt issued at `off` through any nest of Subs reaches the
    device at `off` + the sum of the window offsets — the window sizes play no part (backend/substorage.go adds
    `offset` and checks nothing). -/
theorem sub_nest_translates (ws : List Win) (off : Int) : subAbs ws off = off + (winSum ws : Int) :=
  subAbs_eq ws off

/-- **nested windows**: windows each inside the one around it (`Nested`: disk.Partition's window inside the
    disk, the filesystem's window inside the partition, …); a call of `len` bytes at `off` that is in bounds of
    the window the filesystem holds (0 ≤ off, off + len ≤ size) reaches the device inside the device range of
    EVERY window of the nest. -/
theorem sub_nested_inside (w : Win) (ws : List Win) (hn : Nested (w :: ws)) (off : Int) (len : Nat)
    (h0 : 0 ≤ off) (h1 : off + (len : Int) ≤ (w.size : Int)) :
    InsideAll (w :: ws) (subAbs (w :: ws) off) (subAbs (w :: ws) off + (len : Int)) := by
  rw [subAbs_eq]
  exact insideAll_of_head w ws _ _ hn (by omega) (by omega)

/-- **a call that leaves the window is passed on, whole**: nothing is refused and nothing is truncated — a write
    that straddles or lies behind the window end reaches the device with its full length and ends behind the
    window's device range; a negative offset that the window offset makes non-negative lands in front of it.
    So the range property of a filesystem behind a Sub rests on the filesystem's own arithmetic (the ext4,
    iso9660 and squashfs clauses above), not on the wrapper. -/
theorem sub_straddle_passes (w : Win) (ws : List Win) (off : Int) (len : Nat) (h : (w.size : Int) < off + (len : Int)) :
    (winSum (w :: ws) : Int) + (w.size : Int) < subAbs (w :: ws) off + (len : Int) := by
  rw [subAbs_eq]; omega

theorem sub_negative_passes (w : Win) (ws : List Win) (off : Int) (h : off < 0) :
    subAbs (w :: ws) off < (winSum (w :: ws) : Int) := by
  rw [subAbs_eq]; omega

/-- **Seek**: SeekStart and SeekCurrent are the same translation; SeekEnd counts from `size` of the window the
    caller holds (the only use of `size`). -/
theorem sub_seek (devSize : Nat) (w : Win) (ws : List Win) (upos offset : Int) :
    (0 ≤ offset → subSeek devSize (w :: ws) upos .start offset = some (offset + (winSum (w :: ws) : Int), offset)) ∧
    (0 ≤ (w.size : Int) + offset → subSeek devSize (w :: ws) upos .«end» offset =
      some ((w.size : Int) + offset + (winSum (w :: ws) : Int), (w.size : Int) + offset)) ∧
    (0 ≤ upos + offset → subSeek devSize (w :: ws) upos .current offset =
      some (upos + offset, upos + offset - (winSum (w :: ws) : Int))) :=
  ⟨subSeek_start devSize _ upos offset, subSeek_end devSize w ws upos offset, subSeek_current devSize _ upos offset⟩

/-! non-vacuity: a filesystem window of 1 MiB at 4096 inside a partition window of 8 MiB at 1 MiB -/
example : Nested [⟨4096, 1048576⟩, ⟨1048576, 8388608⟩] := ⟨by decide, trivial⟩
example : subAbs [⟨4096, 1048576⟩, ⟨1048576, 8388608⟩] 100 = 1052772 := by decide
example : subSeek 16777216 [⟨4096, 1048576⟩, ⟨1048576, 8388608⟩] 0 .«end» (-16) = some (2101232, 1048560) := by decide

end Diskfs.Ranges.C03

/-! ## regenerated facts: who translates the start offset, and how often -/
namespace Diskfs.Ranges.C03

/-- ext4, iso9660 and squashfs wrap the backend in `backend.Sub(b, start, size)` (and their write models above
    are shifted by `subWrite start`); the FAT packages do not -/
theorem facts_agree_sub_users : Generated.Ranges.sub_users = ["ext4", "iso9660", "squashfs"] := by decide

/-- the FAT packages add the start by hand: in EVERY ReadAt / WriteAt call of fat12, fat16 and fat32 the offset
    argument, normalised by go/ast (conversions dropped, locals replaced by their nearest assignment, sums
    flattened), contains the filesystem start exactly once — never forgotten (0, seeded m62) and never doubled
    (2, seeded m05); the write-logging FAT model (`Layout.io`) adds `start` once to every offset likewise -/
theorem facts_agree_fat_start_once :
    (∀ c ∈ Generated.Ranges.fat_io_start_counts, c = 1) ∧ 20 ≤ Generated.Ranges.fat_io_start_counts.length ∧
    Generated.Ranges.fat_io_start_counts.length = Generated.Ranges.fat_io_sites.length := by decide

end Diskfs.Ranges.C03
