/-
  C01 — FAT12/16/32 behave like a plain tree of named byte strings.
  Property theorems (layers A–D of DESIGN §5 C01, the file-level refinement that joins B and C,
  and E), most of them one line over the lemmas in Proofs/Fat*.lean; a proof stands here when only
  that theorem uses it.  What "the property" means is Spec/Tree.lean
  (`Spec.splice`, `Spec.step`).

  Every theorem quantifies over all tables, chains, offsets, sizes, payloads and prior device
  contents.  Theorems about the repaired behaviour carry the switches in their statement
  (`readH true`, `writeH true`, `Cfg.fixed`); the as-found behaviour is refuted by `cex_*`.
  Layer E is proved for ONE directory (Model/Fat/FlatFs.lean: table + device + the files of a
  directory; create / write-at-offset / truncating open / remove / rename with replacement) and for
  a TREE of directories (Model/Fat/TreeFs.lean: a tree of nodes each owning a cluster chain; calls
  addressed by directory path, the parent directory's chain grown or shrunk by every call, refusals
  for lack of space or root slots rolled back).  What a directory's bytes ARE and re-opening the
  volume from table + bytes alone is Model/Fat/TreeImg.lean (`image`: every directory's chain holds
  the serialisation of its child list).
  NOT proved: that the WriteAt calls of the model's operations produce `image` (the images written
  are parameters of the operations; tied by the correspondence), open handles that live across calls,
  8.3 aliasing of names, rename across directories (the code refuses it); those clauses are carried
  by the engine's oracle on the real code.
-/
import DiskfsModel.Proofs.FatChain
import DiskfsModel.Proofs.FatTable
import DiskfsModel.Proofs.FatFileIO
import DiskfsModel.Proofs.FatDir
import DiskfsModel.Proofs.FatFlatFs
import DiskfsModel.Proofs.FatTreeStep
import DiskfsModel.Proofs.FatTreeFree
import DiskfsModel.Proofs.FatTreeFit
import DiskfsModel.Proofs.FatTreeImgStep
import DiskfsModel.Proofs.FatTreeSpace
import DiskfsModel.Proofs.FatEmptyWrite
import DiskfsModel.Model.Fat.Fs
import DiskfsModel.Generated.Fat
namespace Diskfs.Fat.C01

/-! ### A — codecs -/

/-- 12-bit packing: what is set is what is read -/
theorem fat12_get_set (b : Bytes) (i v : Nat) (h : i * 3 / 2 + 1 < b.length) (hv : v < 4096) :
    fat12ReadEntry (fat12WriteEntry b i v) i = v := Fat.fat12_get_set b i v h hv

/-- 12-bit packing: setting entry `i` leaves every other entry alone (the shared middle byte) -/
theorem fat12_set_frame (b : Bytes) (i j v : Nat) (hij : i ≠ j) (hv : v < 4096) :
    fat12ReadEntry (fat12WriteEntry b i v) j = fat12ReadEntry b j := Fat.fat12_set_frame b i j v hij hv

/-- `Bytes()` then `FromBytes()` gives back every in-range entry, for the three widths -/
theorem table_bytes_roundtrip12 (fatID size max : Nat) (m old : CMap) (i : Nat) (hs : 3 ≤ size)
    (hm : ∀ j, m j < 4096) (h2 : 2 ≤ i) (hi : i ≤ max) (ho : i * 3 / 2 + 1 < size) :
    fromBytes12 (bytes12 fatID size max m) max old i = m i := by
  unfold fromBytes12
  rw [bytes12_length, if_pos ⟨h2, by rw [Nat.le_min]; omega⟩]
  exact bytes12_read fatID size max m i h2 hi ho hm

theorem table_bytes_roundtrip16 (fatID size max : Nat) (m : CMap) (i : Nat)
    (h2 : 2 ≤ i) (hi : i < max) (hmax : max ≤ size / 2) (hv : m i < 65536) :
    fromBytes16 (bytes16 fatID size max m) max (fun _ => 0) i = m i :=
  tableW_roundtrip 2 fatID 0xFFFF size max m i h2 hi hmax hv

theorem table_bytes_roundtrip32 (fatID eoc size max : Nat) (m : CMap) (i : Nat)
    (h2 : 2 ≤ i) (hi : i < max) (hmax : max ≤ size / 4) (hv : m i < 4294967296) :
    fromBytes32 (bytes32 fatID eoc size max m) max (fun _ => 0) i = m i :=
  tableW_roundtrip 4 fatID eoc size max m i h2 hi hmax hv

/-- 8.3 directory entry: names, attribute bits, times, split cluster number and size survive
    `toBytes` → `parseDirEntries` -/
theorem dir_entry_roundtrip (e : DirEntry) (lfn : Name) (h : e.WF) :
    parseDos (dosBytes e) lfn = { e with long := lfn } := Fat.parseDos_dosBytes e lfn h

/-- a whole directory: every well-formed entry list (8.3 entries and long-name slot runs, UCS-2,
    checksum, ordering) is read back from its serialisation, padding included -/
theorem dir_parse_ser (bpc : Nat) (es : List DirEntry) (h : ∀ e ∈ es, e.WF) (hb : 0 < bpc) :
    parseDir (serDir bpc es) = es := Fat.dir_parse_ser bpc es h hb

/-- FAT date word: exact on 1980..2107 -/
theorem date_roundtrip (y mo d : Nat) (h1 : 1980 ≤ y) (h2 : y ≤ 2107) (h3 : mo < 16) (h4 : d < 32) :
    unpackDate (packDate y mo d) = (y, mo, d) := by
  unfold unpackDate packDate
  refine Prod.ext ?_ (Prod.ext ?_ ?_) <;> simp only [] <;> omega

/-! ### B — cluster map -/

/-- the fuelled mirror of `getClusterList` returns exactly the chain the invariant speaks of -/
theorem walk_complete (k : Kind) (lim max fuel : Nat) (m : CMap) (l : List Nat) (hlim : LimOk k lim)
    (hmax : lim ≤ max) (h : ChainOk k lim m l) (hf : l.length ≤ fuel) :
    walk k max m fuel (l.headD 0) = .ok l := Fat.walk_complete hlim hmax h hf

/-- a request for a new chain is refused exactly when fewer clusters are free than it needs -/
theorem grow_fails_iff (k : Kind) (lim max bpc fuel size : Nat) (pick) (m : CMap) (owners)
    (h : Inv k lim m owners) (hp : PickSpec lim pick) (hlim : LimOk k lim) (hmax : lim ≤ max)
    (hb : 0 < bpc) (hs : 0 < size) :
    (allocateSpace k max bpc pick fuel m size 0).res = none ↔
      freeCount lim m < size / bpc + (if size % bpc > 0 then 1 else 0) :=
  Fat.alloc_fails_iff h hp hlim hmax hb hs

/-- free-space conservation: releasing a chain gives back every one of its clusters -/
theorem remove_returns_all (k : Kind) (lim max fuel : Nat) (m : CMap) (l : List Nat) (others)
    (h : Inv k lim m (l :: others)) (hlim : LimOk k lim) (hmax : lim ≤ max) (hf : l.length ≤ fuel) :
    freeCount lim (freeChain k max fuel m (l.headD 0)).1 = freeCount lim m + l.length :=
  Fat.free_after_freeChain h hlim hmax hf

/-- truncation gives back exactly the clusters beyond the kept prefix -/
theorem shrink_conservation (k : Kind) (lim max bpc fuel size : Nat) (pick) (m : CMap) (l : List Nat) (others)
    (h : Inv k lim m (l :: others)) (hlim : LimOk k lim) (hmax : lim ≤ max) (hb : 0 < bpc)
    (hf : l.length ≤ fuel) (hc : size / bpc + (if size % bpc > 0 then 1 else 0) < l.length) :
    freeCount lim (allocateSpace k max bpc pick fuel m size (l.headD 0)).m
      = freeCount lim m + (l.length - Nat.max (size / bpc + (if size % bpc > 0 then 1 else 0)) 1) := by
  have := freeCount_head h (alloc_shrink_inv (pick := pick) h hlim hmax hb hf hc).2
  rw [List.length_take, clusterCount] at this
  omega

/-- "space released by remove can be used again without limit": after any number of
    create-then-remove cycles the invariant holds, the free count is what it was, and the next
    allocation of the same size still succeeds -/
theorem refill_unbounded (k : Kind) (lim max bpc fuel size : Nat) (pick) (owners)
    (hp : PickSpec lim pick) (hlim : LimOk k lim) (hmax : lim ≤ max) (hb : 0 < bpc) (hs : 0 < size)
    (hfuel : size / bpc + (if size % bpc > 0 then 1 else 0) ≤ fuel) (n : Nat) (m : CMap)
    (h : Inv k lim m owners) (hfree : size / bpc + (if size % bpc > 0 then 1 else 0) ≤ freeCount lim m) :
    Inv k lim (cycles k max bpc pick fuel size n m) owners ∧
    freeCount lim (cycles k max bpc pick fuel size n m) = freeCount lim m ∧
    (allocateSpace k max bpc pick fuel (cycles k max bpc pick fuel size n m) size 0).res ≠ none :=
  Fat.refill_unbounded hp hlim hmax hb hs hfuel n m h hfree

/-! ### C — file I/O through a chain -/

/-- the repaired `File.Read` is the io.Reader contract on the file's bytes -/
theorem readH_spec (d : Dev) (g : IOGeom) (chain : List Nat) (fileSize off n : Nat)
    (hb : 0 < g.bpc) (hc : fileSize ≤ chain.length * g.bpc) (ho : off < fileSize) :
    readH true d g chain fileSize off n =
      some (((fileContent d g chain fileSize).drop off).take n, off + min n (fileSize - off),
        decide (off + min n (fileSize - off) ≥ fileSize)) := Fat.readH_spec d g chain fileSize off n hb hc ho

/-- outside its trigger the as-found read equals the repaired one (finding fat-read-past-eof) -/
theorem readH_agree (d : Dev) (g : IOGeom) (chain : List Nat) (fileSize off n : Nat)
    (h : readClampTrigger g fileSize off n = false) :
    readH false d g chain fileSize off n = readH true d g chain fileSize off n := by
  unfold readH
  by_cases h1 : fileSize ≤ off
  · rw [if_pos h1, if_pos h1]
  by_cases h0 : off = 0
  · simp only [if_neg h1, if_pos h0]
  by_cases hci : off / g.bpc ≥ chain.length
  · simp only [if_neg h1, if_neg h0, if_pos hci]
  by_cases hr : off % g.bpc = 0
  · simp only [if_neg h1, if_neg h0, if_neg hci, if_pos hr]
  -- the two differ in the partial first cluster only, and there only on the trigger
  have ht : ¬ (min (g.bpc - off % g.bpc) n > fileSize - off) := by
    simpa [readClampTrigger, show off < fileSize by omega, hr] using h
  simp only [if_neg h1, if_neg h0, if_neg hci, if_neg hr, if_true, Bool.false_eq_true, if_false,
    show min (min (g.bpc - off % g.bpc) n) (min (fileSize - off) n) = min (g.bpc - off % g.bpc) n by omega]

/-- a write through a chain is a byte-string overwrite of the chain's bytes at `off` -/
theorem writeCore_spec (d : Dev) (g : IOGeom) (chain : List Nat) (off : Nat) (p : Bytes) (ws : List Wr)
    (hb : 0 < g.bpc) (hnd : chain.Nodup) (h2 : ∀ c ∈ chain, 2 ≤ c)
    (hlen : off + p.length ≤ chain.length * g.bpc) (h : writeCore g chain off p = some ws) :
    chainBytes (applyWrs d ws) g chain = put (chainBytes d g chain) off p :=
  Fat.writeCore_spec d g chain off p ws hb hnd h2 hlen h

/-- every byte outside the written file's clusters is left alone -/
theorem writeCore_frame (d : Dev) (g : IOGeom) (chain : List Nat) (off : Nat) (p : Bytes) (ws : List Wr) (i : Nat)
    (hb : 0 < g.bpc) (h : writeCore g chain off p = some ws)
    (hi : ∀ c ∈ chain, i < clusterOff g c ∨ clusterOff g c + g.bpc ≤ i) : applyWrs d ws i = d i :=
  writes_frame d g chain ws i (writeCore_in_cluster g chain off p ws hb h) hi

/-! ### B+C joined — one file write refines `Spec.splice`, other files are untouched, the table stays sound -/

/-- the cluster count `allocateSpace` computes from a size covers the size -/
theorem cnt_covers (size bpc : Nat) (hb : 0 < bpc) :
    size ≤ (size / bpc + (if size % bpc > 0 then 1 else 0)) * bpc := clusterCount_covers size bpc hb

/-- every WriteAt call of the repaired `File.Write` (zero-fill of a gap included) lies inside one cluster of
    the chain, the empty ones the loop issues too: the alternative `w.data.length = 0` is never the one needed -/
theorem writeH_in_chain (g : IOGeom) (chain : List Nat) (oldSize off : Nat) (p : Bytes) (ws : List Wr)
    (hb : 0 < g.bpc) (h : writeH true g chain oldSize off p = some ws) :
    ∀ w ∈ ws, w.data.length = 0 ∨ ∃ c ∈ chain, clusterOff g c ≤ w.off ∧ w.off + w.data.length ≤ clusterOff g c + g.bpc :=
  fun w hw => Or.inr (writeH_in_chain' g chain oldSize off p ws hb h w hw)

/-- `File.Write` of the repaired filesystem on one file:
    `allocateSpace` for the new size followed by the WriteAt calls through the returned chain.
    For every table satisfying the invariant, every allocation policy meeting `PickSpec`, every
    prior device content, offset (inside, at or past EOF) and payload:
      * the table stays sound with the grown chain as the file's owner,
      * the file's new contents are `Spec.splice old off p` (a gap reads as zeros),
      * every other owner's bytes are exactly what they were. -/
theorem file_write_refines (d : Dev) (g : IOGeom) (k : Kind) (lim max fuel : Nat) (pick) (m : CMap)
    (l l' : List Nat) (others : List (List Nat)) (oldSize off : Nat) (p : Bytes) (ws : List Wr)
    (h : Inv k lim m (l :: others)) (hp : PickSpec lim pick) (hlim : LimOk k lim) (hmax : lim ≤ max)
    (hb : 0 < g.bpc) (hf : l.length ≤ fuel) (hpl : 0 < p.length)
    (hcov : oldSize ≤ l.length * g.bpc)
    (hgrow : l.length ≤ clusterCount g.bpc (Nat.max oldSize (off + p.length)))
    (hres : (allocateSpace k max g.bpc pick fuel m (Nat.max oldSize (off + p.length)) (l.headD 0)).res = some l')
    (hws : writeH true g l' oldSize off p = some ws) :
    Inv k lim (allocateSpace k max g.bpc pick fuel m (Nat.max oldSize (off + p.length)) (l.headD 0)).m (l' :: others) ∧
    fileContent (applyWrs d ws) g l' (Nat.max oldSize (off + p.length)) = Spec.splice (fileContent d g l oldSize) off p ∧
    ∀ o ∈ others, chainBytes (applyWrs d ws) g o = chainBytes d g o := by
  have := file_write_core d g k lim max fuel pick m l l' others oldSize off p ws h hp hlim hmax hb hf hpl
    hcov hgrow hres hws
  exact ⟨this.1, this.2.2⟩

/-! ### D — names -/

/-- the numeric-tail search returns a short name no existing entry has -/
theorem uniqueShort_fresh (stem ext : Name) (existing : List Name) :
    (uniqueShortName stem ext existing ++ ext) ∉ existing := Fat.uniqueShort_fresh stem ext existing

/-! ### E — the property itself, for one directory -/

/-- every accepted call on the (repaired) one-directory filesystem changes
    the tree read back from the volume exactly as the specification `Spec.stepDir` says — the
    written file is `Spec.splice`d, every other file is byte for byte what it was, names are as
    specified — and the invariant is kept. For every table, device content, file set, name
    comparison that is an equivalence, offset inside / at / past EOF and payload. -/
theorem fat_refines_tree (eqn) (g : FGeom) (fuel : Nat) (s : FState) (op : FOp)
    (he : EqnOk eqn) (hb : 0 < g.io.bpc) (hlim : LimOk g.kind g.lim) (hmax : g.lim ≤ g.max)
    (hfuel : g.lim - 2 ≤ fuel) (h : FInv eqn g s) (hacc : (fstep eqn g fuel s op).2 = true) :
    FInv eqn g (fstep eqn g fuel s op).1 ∧
    fabs g (fstep eqn g fuel s op).1 = (Spec.stepDir eqn op.toSpec (fabs g s)).1 ∧
    (Spec.stepDir eqn op.toSpec (fabs g s)).2 = .ok :=
  ⟨fstep_inv he hb hlim hmax hfuel s op h, fstep_refines he hb hlim hmax hfuel s op h hacc⟩

/-- a call that returns an error — no such file, or no space — leaves
    every file, every name and the table exactly as they were. -/
theorem fat_refused_unchanged (eqn) (g : FGeom) (fuel : Nat) (s : FState) (op : FOp)
    (hrej : (fstep eqn g fuel s op).2 = false) :
    fabs g (fstep eqn g fuel s op).1 = fabs g s ∧ (fstep eqn g fuel s op).1.m = s.m :=
  fstep_refused s op hrej

/-- by induction over the call sequence, after every history the invariant holds
    and the tree read back equals the specification replayed over the accepted calls. -/
theorem fat_history (eqn) (g : FGeom) (fuel : Nat) (ops : List FOp) (s : FState)
    (he : EqnOk eqn) (hb : 0 < g.io.bpc) (hlim : LimOk g.kind g.lim) (hmax : g.lim ≤ g.max)
    (hfuel : g.lim - 2 ≤ fuel) (h : FInv eqn g s) :
    FInv eqn g (frun eqn g fuel s ops) ∧
    fabs g (frun eqn g fuel s ops) = specRun eqn g fuel s (fabs g s) ops :=
  frun_refines he hb hlim hmax hfuel ops s h

/-- creating a new file is refused exactly when no cluster is free -/
theorem create_refused_iff_full (eqn) (g : FGeom) (fuel : Nat) (s : FState) (n : Spec.Name)
    (hb : 0 < g.io.bpc) (hlim : LimOk g.kind g.lim) (hmax : g.lim ≤ g.max)
    (h : FInv eqn g s) (hn : ffind eqn s.files n = none) :
    (fstep eqn g fuel s (.create n)).2 = false ↔ freeCount g.lim s.m < 1 := by
  have key := alloc_fails_iff (fuel := fuel) h.table (firstFit_spec g.lim) hlim hmax hb
    (show 0 < 1 by decide)
  rw [clusterCount_one hb] at key
  simp only [fstep, hn]
  unfold falloc
  rw [← key]
  cases (allocateSpace g.kind g.max g.io.bpc (firstFit g.lim) fuel s.m 1 0).res <;> simp

/-! ### E′ — the property itself, for a tree of directories -/

/-- a FAT volume as table + device + a TREE of nodes, every file and every
    directory owning a cluster chain (the root: a chain on FAT32, the fixed region on FAT12/16).
    Every accepted call — `Mkdir` of one component, `OpenFile(O_CREATE)`, `Write` at any offset
    through a fresh handle, truncating open, `Remove` of a file or empty directory, `Rename` inside
    a directory with or without replacement — addressed by ANY directory path, changes the tree read
    back from the volume (`tabs`: names, nesting, every file's bytes through its chain) exactly as
    the specification `Spec.step` says, the specification accepts it too, and the invariant
    (`TInv`: cluster map sound with exactly the tree's chains as owners, files have the clusters
    their sizes need, names in a directory pairwise different) is kept — including the growth or
    shrinking of the parent directory's own chain by `writeDirectoryEntries` at every level.
    For every table, device content, tree, path depth, slot-count function, name comparison that
    is an equivalence, offset inside / at / past EOF, payload and directory image. -/
theorem fat_tree_refines (eqn) (g : TGeom) (fuel : Nat) (s : DirSt) (op : TOp)
    (he : EqnOk eqn) (hg : TGeomOk g) (hfuel : g.f.lim - 2 ≤ fuel) (h : TInv eqn g s)
    (hacc : (tstep eqn g fuel s op).2 = .ok) :
    TInv eqn g (tstep eqn g fuel s op).1 ∧
    tabs g (tstep eqn g fuel s op).1 = (Spec.step eqn (tabs g s) op.toSpec).1 ∧
    (Spec.step eqn (tabs g s) op.toSpec).2 = .ok :=
  ⟨tstep_inv he hg hfuel s op h, tstep_refines he hg hfuel s op h hacc⟩

/-- a call that is refused — a missing or non-directory path
    component, no such file, a non-empty directory, no free cluster for the entry or for the growth
    of the parent directory (at any depth, also inside a multi-cluster subdirectory), no free slot
    in the fixed root directory, a rename onto the same name — returns the state it was given:
    same table, same device, same root chain, same tree (the cluster taken for the new entry has
    been given back).  This is how the model is written (every refusing branch returns its
    argument), so none of the hypotheses is needed. -/
theorem fat_tree_refused_unchanged (eqn) (g : TGeom) (fuel : Nat) (s : DirSt) (op : TOp)
    (he : EqnOk eqn) (hg : TGeomOk g) (hfuel : g.f.lim - 2 ≤ fuel) (h : TInv eqn g s)
    (hrej : (tstep eqn g fuel s op).2 ≠ .ok) :
    (tstep eqn g fuel s op).1 = s ∧ tabs g (tstep eqn g fuel s op).1 = tabs g s := by
  have := tstep_refused he hg hfuel s op h hrej
  exact ⟨this, by rw [this]⟩

/-- whenever the model refuses with one of the specification's errors
    (not found, not a directory, is a directory, not empty) the specification refuses the same call
    on the tree read back from the volume with the same error. -/
theorem fat_tree_spec_error (eqn) (g : TGeom) (fuel : Nat) (s : DirSt) (op : TOp)
    (he : EqnOk eqn) (hg : TGeomOk g) (hfuel : g.f.lim - 2 ≤ fuel) (h : TInv eqn g s)
    (e : Spec.Res) (herr : (tstep eqn g fuel s op).2 = .spec e) :
    (Spec.step eqn (tabs g s) op.toSpec).2 = e :=
  (tstep_facts he hg hfuel s op h).err e herr

/-- by induction over the call sequence, after every history of
    path-addressed calls the invariant holds and the tree read back equals the specification
    replayed over the accepted calls (`tspecRun`); when no call was refused that is `Spec.run`. -/
theorem fat_tree_history (eqn) (g : TGeom) (fuel : Nat) (ops : List TOp) (s : DirSt)
    (he : EqnOk eqn) (hg : TGeomOk g) (hfuel : g.f.lim - 2 ≤ fuel) (h : TInv eqn g s) :
    TInv eqn g (trun eqn g fuel s ops) ∧
    tabs g (trun eqn g fuel s ops) = tspecRun eqn g fuel s (tabs g s) ops ∧
    ((∀ (i : Nat) (hi : i < ops.length),
        (tstep eqn g fuel (trun eqn g fuel s (ops.take i)) ops[i]).2 = .ok) →
      tabs g (trun eqn g fuel s ops) = Spec.run eqn (tabs g s) (ops.map TOp.toSpec)) := by
  obtain ⟨h1, h2⟩ := trun_refines he hg hfuel ops s h
  exact ⟨h1, h2, fun hall => by rw [h2, tspecRun_all_accepted eqn g fuel ops s _ hall]⟩

/-- `Mkdir(p)` creates the missing components one by one (mkdir -p); the
    invariant holds wherever it stops, and when every component was accepted the tree is the
    specification's after the same sequence of single-component `mkdir`s. -/
theorem fat_tree_mkdir_all (eqn) (g : TGeom) (fuel : Nat) (img img2 : Bytes) (path pre : List Spec.Name)
    (s : DirSt) (he : EqnOk eqn) (hg : TGeomOk g) (hfuel : g.f.lim - 2 ≤ fuel) (h : TInv eqn g s) :
    TInv eqn g (tmkdirAll eqn g fuel img img2 s pre path).1 ∧
    ((tmkdirAll eqn g fuel img img2 s pre path).2 = .ok →
      tabs g (tmkdirAll eqn g fuel img img2 s pre path).1 = (specMkdirAll eqn (tabs g s) pre path).1 ∧
      (specMkdirAll eqn (tabs g s) pre path).2 = .ok) := by
  induction path generalizing pre s with
  | nil => exact ⟨h, fun _ => ⟨rfl, rfl⟩⟩
  | cons n path ih =>
    have h1 := tstep_inv he hg hfuel s (.mkdir pre n img img2) h
    simp only [tmkdirAll, specMkdirAll]
    by_cases hok : (tstep eqn g fuel s (.mkdir pre n img img2)).2 = .ok
    · obtain ⟨r1, r2⟩ := tstep_refines he hg hfuel s (.mkdir pre n img img2) h hok
      have r2' : (Spec.step eqn (tabs g s) (Spec.Op.mkdir pre n)).2 = .ok := r2
      have r1' : tabs g (tstep eqn g fuel s (.mkdir pre n img img2)).1
          = (Spec.step eqn (tabs g s) (Spec.Op.mkdir pre n)).1 := r1
      rw [if_pos hok, if_pos r2', ← r1']
      exact ih (pre ++ [n]) _ h1
    · rw [if_neg hok]
      exact ⟨h1, fun hh => absurd hh hok⟩

/-- "space released by remove can be used again without limit", for
    the tree: after EVERY history of path-addressed calls the number of free clusters is exactly the
    data area minus the clusters the tree's files and directories own — nothing is ever leaked,
    whatever was removed, truncated, replaced by a rename, shrunk or refused on the way. -/
theorem fat_tree_space_accounting (eqn) (g : TGeom) (fuel : Nat) (ops : List TOp) (s : DirSt)
    (he : EqnOk eqn) (hg : TGeomOk g) (hfuel : g.f.lim - 2 ≤ fuel) (h : TInv eqn g s) :
    freeCount g.f.lim (trun eqn g fuel s ops).m + (ownedClusters (trun eqn g fuel s ops)).length
      = g.f.lim - 2 :=
  trun_free_count he hg hfuel ops s h

/-- in the tree model a Write whose parent-directory rewrite failed would
    be rolled back, which the code does not do (chain grown, data written, size not recorded). In a
    directory that fits its storage (`LevelFit`: kept by every call, Props/C08 `tree_dirs_fit`) that
    case cannot arise: once the clusters are allocated and the data written, the call is accepted. -/
theorem fat_write_recorded (eqn) (g : TGeom) (fuel base : Nat) (s : DirSt) (n fn : Spec.Name) (fc : List Nat)
    (size off : Nat) (data img : Bytes) (l' : List Nat) (ws : List Wr)
    (he : EqnOk eqn) (hwf : kidsWF eqn g s.kids) (hfit : LevelFit g base s.chain s.kids)
    (hf : kfind eqn s.kids n = some (.file fn fc size)) (hd : data.length ≠ 0)
    (hres : (falloc g.f fuel s.m (Nat.max size (off + data.length)) (fc.headD 0)).res = some l')
    (hws : writeH true g.f.io l' size off data = some ws) :
    (dWrite eqn g fuel n off data img base s).2 = .ok := by
  obtain ⟨d', hw⟩ := writeDir_same (fuel := fuel)
    (m := (falloc g.f fuel s.m (Nat.max size (off + data.length)) (fc.headD 0)).m)
    (d := applyWrs s.d ws) (img := img) hfit
    (dirSlots_kset_same (g := g) (x := .file fn l' (Nat.max size (off + data.length))) he base
      (kidsWF_pairwise hwf) hf rfl)
  unfold dWrite
  simp only [hf, hd, if_false, hres, hws, hw]

/-- non-vacuity: a FAT12 volume with a file and a two-cluster subdirectory in its fixed root
    satisfies the hypotheses (more worked calls beside `exTree` in Proofs/FatTreeStep.lean) -/
example : EqnOk exEqn ∧ TGeomOk exTGeom ∧ exTGeom.f.lim - 2 ≤ 8 ∧ TInv exEqn exTGeom exTree :=
  ⟨exEqn_ok, exTGeom_ok, by decide, exTree_inv⟩
example : (tstep exEqn exTGeom 8 exTree (.create [[66]] [67] [])).2 = .ok := by decide
example : (tstep exEqn exTGeom 8 exTree (.create [[65]] [67] [])).2 = .spec .notdir := by decide

/-! ### E″ — re-opening the volume from its bytes -/

/-- in the bytes of the volume (`image`: the model's device with
    every directory serialised into the clusters of its chain, the FAT12/16 root into its fixed
    region) every directory's chain reads as `entriesToBytes` of its child list — volume label resp.
    "." (own first cluster) and ".." (parent's first cluster) first, then per child the 8.3 entry
    with its long-name slots, attribute and date/time words, directory bit, first cluster of the
    child's chain and size — and every file's chain reads as on the model's device. For every state
    that meets the invariants `TInv` and `TFit` (kept by every call). -/
theorem fat_image_holds_directories (eqn) (X : ImgParams) (g : TGeom) (fuel : Nat) (s : DirSt)
    (hX : ImgParamsOk X g) (hg : TGeomOk g) (hfuel : g.f.lim - 2 ≤ fuel)
    (h : TInv eqn g s) (hfit : TFit g s) (hok : kidsImgOk X g s.kids) :
    (∀ j ∈ rootJobs X g s, chainBytes (image X g s) g.f.io j.1 = j.2) ∧
    (∀ o ∈ kidsFileOwners s.kids, chainBytes (image X g s) g.f.io o = chainBytes s.d g.f.io o) ∧
    (s.chain = [] → readAt (image X g s) g.rootOff (32 * g.rootCap) = fixedImg g.rootCap (rootEntries X s)) :=
  image_facts hX hg hfuel h hfit hok

/-- "after re-opening the image from its bytes". A reader that has only the
    table and the bytes of the volume (`reopen`: the root directory's bytes — fixed region, or the
    chain walked through the FAT from the root cluster — parsed by `parseDir`; volume label, "." and
    ".." skipped; every entry's chain followed through the FAT from its first cluster, a
    directory's bytes parsed in turn, a file's bytes cut to the recorded size) builds exactly the
    tree the abstraction `tabs` reads from the model's state: same names in the same order, same
    nesting, same file contents. For every table, device, tree, depth of nesting, entry spelling
    (`enc`: any that the codec carries faithfully, `NameOk`), attribute bits and date/time words. -/
theorem fat_reopen_image (eqn) (X : ImgParams) (g : TGeom) (fuel depth : Nat) (s : DirSt)
    (hX : ImgParamsOk X g) (hg : TGeomOk g) (hfuel : g.f.lim - 2 ≤ fuel)
    (h : TInv eqn g s) (hfit : TFit g s) (hok : kidsImgOk X g s.kids) (hd : kidsDepth s.kids ≤ depth) :
    reopen g fuel depth s.m (image X g s) (s.chain.headD 0) = tabs g s :=
  reopen_image hX hg hfuel h hfit hok hd

/-- for every REACHABLE state — any history of path-addressed calls
    (names the codec carries, writes ending below 4 GiB) from a volume that meets the invariants —
    re-opening the volume from its bytes yields the tree read through the live model, which is the
    specification replayed over the accepted calls. -/
theorem fat_tree_reopen_history (eqn) (X : ImgParams) (g : TGeom) (fuel depth : Nat) (ops : List TOp) (s : DirSt)
    (he : EqnOk eqn) (hX : ImgParamsOk X g) (hg : TGeomOk g) (hfuel : g.f.lim - 2 ≤ fuel) (hb64 : 64 ≤ g.f.io.bpc)
    (h : TInv eqn g s) (hfit : TFit g s) (hok : kidsImgOk X g s.kids) (hops : ∀ op ∈ ops, OpOk X g op)
    (hd : kidsDepth (trun eqn g fuel s ops).kids ≤ depth) :
    reopen g fuel depth (trun eqn g fuel s ops).m (image X g (trun eqn g fuel s ops))
        ((trun eqn g fuel s ops).chain.headD 0) = tabs g (trun eqn g fuel s ops) ∧
    tabs g (trun eqn g fuel s ops) = tspecRun eqn g fuel s (tabs g s) ops :=
  ⟨reopen_image hX hg hfuel (trun_inv he hg hfuel ops s h) (trun_fit he hg hfuel hb64 ops s h hfit)
      (trun_imgok ops s hops hok) hd,
    (trun_refines he hg hfuel ops s h).2⟩

/-- non-vacuity: the FAT12 volume `exTree2` (a two-cluster subdirectory holding a file, in the fixed
    root behind a volume label) meets every hypothesis, so its bytes re-open to its tree -/
example : reopen exTGeom2 8 2 exTree2.m (image exX exTGeom2 exTree2) (exTree2.chain.headD 0) = tabs exTGeom2 exTree2 :=
  fat_reopen_image exEqn exX exTGeom2 8 2 exTree2 exX_ok exTGeom2_ok (by decide) exTree2_inv exTree2_fit
    exTree2_imgok exTree2_depth
example : OpOk exX exTGeom2 (.create [[66]] [67] []) := by decide

/-! ### E‴ — lack of space, characterised -/

/-- `OpenFile(dir/n, O_CREATE)` of a name that does not exist in
    the directory the path `dir` leads to (`dirAtT`: any depth) is refused for lack of space IF AND
    ONLY IF the volume has fewer free clusters than the call needs: one for the new file's chain
    plus the clusters that directory's own chain must grow by to hold the new entry (`growFor`: its
    slots with the new name's, rounded up to clusters, minus what it has; nothing in the fixed root
    of FAT12/16). For every state that meets the invariants `TInv` and `TFit`. -/
theorem fat_tree_create_enospc_iff (eqn) (g : TGeom) (fuel : Nat) (s : DirSt) (dir : List Spec.Name) (n : Spec.Name)
    (img : Bytes) (b' : Nat) (s' : DirSt)
    (he : EqnOk eqn) (hg : TGeomOk g) (hfuel : g.f.lim - 2 ≤ fuel) (h : TInv eqn g s) (hfit : TFit g s)
    (hd : dirAtT eqn dir g.rootBase s = some (b', s')) (hn : kfind eqn s'.kids n = none) :
    (tstep eqn g fuel s (.create dir n img)).2 = .nospace ↔
      freeCount g.f.lim s.m < 1 + growFor g b' s'.chain s'.kids n :=
  tstep_new_nospace_iff (op := .create dir n img) he hg hfuel h hfit rfl hd hn

/-- the same for `Mkdir` of one missing component. -/
theorem fat_tree_mkdir_enospc_iff (eqn) (g : TGeom) (fuel : Nat) (s : DirSt) (dir : List Spec.Name) (n : Spec.Name)
    (img img2 : Bytes) (b' : Nat) (s' : DirSt)
    (he : EqnOk eqn) (hg : TGeomOk g) (hfuel : g.f.lim - 2 ≤ fuel) (h : TInv eqn g s) (hfit : TFit g s)
    (hd : dirAtT eqn dir g.rootBase s = some (b', s')) (hn : kfind eqn s'.kids n = none) :
    (tstep eqn g fuel s (.mkdir dir n img img2)).2 = .nospace ↔
      freeCount g.f.lim s.m < 1 + growFor g b' s'.chain s'.kids n :=
  tstep_new_nospace_iff (op := .mkdir dir n img img2) he hg hfuel h hfit rfl hd hn

/-- "space released by remove or truncate can be used again without
    limit". After ANY history — whatever was created, grown, truncated, removed, replaced by a
    rename or refused on the way — a create is refused for lack of space iff the data area minus
    the clusters the files and directories of the tree own NOW is smaller than the call needs:
    the answer depends on the present tree only, never on what the volume held before. -/
theorem fat_tree_space_reusable (eqn) (g : TGeom) (fuel : Nat) (ops : List TOp) (s : DirSt) (dir : List Spec.Name)
    (n : Spec.Name) (img : Bytes) (b' : Nat) (s' : DirSt)
    (he : EqnOk eqn) (hg : TGeomOk g) (hfuel : g.f.lim - 2 ≤ fuel) (hb64 : 64 ≤ g.f.io.bpc)
    (h : TInv eqn g s) (hfit : TFit g s)
    (hd : dirAtT eqn dir g.rootBase (trun eqn g fuel s ops) = some (b', s')) (hn : kfind eqn s'.kids n = none) :
    (tstep eqn g fuel (trun eqn g fuel s ops) (.create dir n img)).2 = .nospace ↔
      g.f.lim - 2 - (ownedClusters (trun eqn g fuel s ops)).length < 1 + growFor g b' s'.chain s'.kids n := by
  rw [tstep_new_nospace_iff (op := .create dir n img) he hg hfuel (trun_inv he hg hfuel ops s h)
    (trun_fit he hg hfuel hb64 ops s h hfit) rfl hd hn]
  have := trun_free_count he hg hfuel ops s h
  omega

/-- non-vacuity: in the two-cluster subdirectory [66] of `exTree2` (5 of 8 data clusters free) a new
    entry needs one cluster for the file and one more for the directory: not refused -/
example : dirAtT exEqn [[66]] exTGeom2.rootBase exTree2 = some (2, ⟨exTree2.m, exTree2.d, [3, 4], [.file [65] [2] 3]⟩) := rfl
example : growFor exTGeom2 2 [3, 4] [.file [65] [2] 3] [67] = 1 ∧ freeCount exTGeom2.f.lim exTree2.m = 5 := by decide
example : (tstep exEqn exTGeom2 8 exTree2 (.create [[66]] [67] [])).2 ≠ .nospace := by
  rw [Ne, fat_tree_create_enospc_iff exEqn exTGeom2 8 exTree2 [[66]] [67] [] 2 _ exEqn_ok exTGeom2_ok (by decide)
    exTree2_inv exTree2_fit rfl (by decide)]
  decide

/-! ### zero-length writes (mirrored without the early return for an empty buffer that fix 16ea06f added) -/

/-- `File.Write` of an EMPTY buffer (`f.Write(nil)`, `f.Write([]byte{})`), mirrored step by step
    (`fileWriteRaw`: allocateSpace(max size offset), zero-fill of a gap, the WriteAt calls - no
    shortcut for `len(p) = 0`), at any offset inside the file or at its end (unless the end is a
    positive whole number of clusters, see `cex_empty_write_panics`) of a well-formed file
    (chain `l` exactly as long as its size needs, one cluster when empty, that cluster carrying
    the library's end-of-chain value): the table, the device bytes, the entry's chain and its size
    are what they were.  In particular allocateSpace(0, c) - reached by this call on an empty file
    and by nothing else - KEEPS the file's only cluster (`count = 0` is clamped to one cluster).
    The directory rewrite that follows (`writeDirectoryEntries(parent)`) is handed the unchanged
    child list. -/
theorem write_empty_is_noop (g : FGeom) (fuel : Nat) (m : CMap) (d : Dev) (l : List Nat)
    (others : List (List Nat)) (size off : Nat)
    (hb : 0 < g.io.bpc) (hlim : LimOk g.kind g.lim) (hmax : g.lim ≤ g.max) (hf : l.length ≤ fuel)
    (h : Inv g.kind g.lim m (l :: others))
    (hlen : l.length = Nat.max (clusterCount g.io.bpc size) 1)
    (hmark : size = 0 → m (l.headD 0) = g.kind.eoc)
    (hoff : off ≤ size) (hnb : ¬ (0 < off ∧ off = size ∧ off % g.io.bpc = 0)) :
    ∃ w, fileWriteRaw g fuel m d l size off [] = .ok m d l size w := by
  have ha := alloc_same_size (pick := firstFit g.lim) (bpc := g.io.bpc) h hlim hmax hf hlen
  obtain ⟨ws, hws, hd⟩ := writeH_nil_noop g.io d l size off hb hlen hoff hnb
  have hns : Nat.max size (off + ([] : Bytes).length) = size := by
    show Max.max size (off + 0) = size; omega
  unfold fileWriteRaw falloc
  simp only [hns]
  rw [ha]
  by_cases hc : cnt size g.io.bpc = 0
  · have hs0 : size = 0 := Nat.eq_zero_of_not_pos fun hp => by have : 0 < cnt size g.io.bpc := clusterCount_pos hb hp; omega
    rw [if_pos hc]
    simp only [hws, hd]
    rw [CMap.set_same m _ _ (hmark hs0)]
    exact ⟨true, rfl⟩
  · rw [if_neg hc]
    simp only [hws, hd]
    exact ⟨false, rfl⟩

/-- the hypotheses of `write_empty_is_noop` are satisfiable: an empty file owning cluster 2 -/
example : ∃ w, fileWriteRaw ⟨.f12, 10, 10, ⟨0, 0, 4⟩⟩ 8 exTable (fun _ => 7) [2] 0 0 [] = .ok exTable (fun _ => 7) [2] 0 w :=
  write_empty_is_noop ⟨.f12, 10, 10, ⟨0, 0, 4⟩⟩ 8 exTable (fun _ => 7) [2] [[3, 4]] 0 0 (by decide) ex_limOk
    (Nat.le_refl _) (by decide) ex_inv (by decide) (fun _ => by decide) (Nat.le_refl _) (by omega)

/-- as found, past EOF an empty write is NOT a no-op: the file grows to the offset (finding
    fat-empty-write-not-noop; the specification and POSIX say nothing changes) -/
theorem cex_empty_write_extends :
    (fileWriteRaw ⟨.f12, 10, 10, ⟨0, 0, 4⟩⟩ 8 exTable (fun _ => 7) [2] 0 2 []).newSize = some 2
    ∧ (fileWriteRaw ⟨.f12, 10, 10, ⟨0, 0, 4⟩⟩ 8 exTable (fun _ => 7) [2] 0 6 []).newChain = some [2, 5]
    ∧ emptyWriteTrigger 4 0 2 = true := by decide

/-- as found, at or past EOF on a positive multiple of the cluster size an empty write indexes the
    cluster list out of range: the code panics (same finding) -/
theorem cex_empty_write_panics :
    (fileWriteRaw ⟨.f12, 10, 10, ⟨0, 0, 4⟩⟩ 8 exTable (fun _ => 7) [2] 0 4 []).isPanic = true
    ∧ (fileWriteRaw ⟨.f12, 10, 10, ⟨0, 0, 4⟩⟩ 8 exTable (fun _ => 7) [3, 4] 8 8 []).isPanic = true
    ∧ emptyWriteTrigger 4 8 8 = true := by decide

/-- a read that starts inside a cluster returns bytes past EOF (finding fat-read-past-eof, owner C10) -/
theorem cex_read_clamp :
    readH false (fun i => UInt8.ofNat i) ⟨0, 0, 8⟩ [2] 7 6 8 = some ([UInt8.ofNat 6, UInt8.ofNat 7], 8, true)
    ∧ readH true (fun i => UInt8.ofNat i) ⟨0, 0, 8⟩ [2] 7 6 8 = some ([UInt8.ofNat 6], 7, true)
    ∧ ((fileContent (fun i => UInt8.ofNat i) ⟨0, 0, 8⟩ [2] 7).drop 6).take 8 = [UInt8.ofNat 6]
    ∧ readClampTrigger ⟨0, 0, 8⟩ 7 6 8 = true := Fat.cex_read_clamp

/-- a write past EOF exposes whatever the cluster held before (finding fat-hole-stale-bytes) -/
theorem cex_hole_stale :
    ∃ ws, writeH false ⟨0, 0, 4⟩ [2] 1 3 [9] = some ws
      ∧ fileContent (applyWrs (fun _ => 7) ws) ⟨0, 0, 4⟩ [2] (Nat.max 1 (3 + ([9] : Bytes).length))
          ≠ Spec.splice (fileContent (fun _ => 7) ⟨0, 0, 4⟩ [2] 1) 3 [9] := Fat.cex_hole_stale_ne

/-! ### facts regenerated from /repo (F tie) -/

/-- the constants the model is written with are the ones in the source -/
theorem facts_agree_eoc :
    Generated.Fat.fat12_isEOC_lo = 0xFF8 ∧ Generated.Fat.fat12_isEOC_hi = 0xFFF ∧
    Generated.Fat.fat16_isEOC_lo = 0xFFF8 ∧ Generated.Fat.fat16_isEOC_hi = 0xFFFF ∧
    Generated.Fat.fat32_isEOC_mask = 0xFFFFFF8 ∧
    Generated.Fat.fat12_eoc = Kind.f12.eoc ∧ Generated.Fat.fat16_eoc = Kind.f16.eoc ∧ Generated.Fat.fat32_eoc = Kind.f32.eoc := by
  decide

/-- `MaxCluster()` is computed from the FAT size the way `Kind.maxOfSize` says -/
theorem facts_agree_maxcluster :
    Generated.Fat.fat12_maxCluster_expr = "sizeBytes * 2 / 3" ∧
    Generated.Fat.fat16_maxCluster_expr = "sizeBytes / 2" ∧
    Generated.Fat.fat32_maxCluster_expr = "fatSize / 4" := by decide

/-- the scan of `allocateSpace` only takes clusters whose entry is zero (where it starts and in
    which order it looks is a policy choice, covered by `PickSpec`, not by a regenerated fact);
    LFN slot constants of the directory codec -/
theorem facts_agree_alloc :
    Generated.Fat.alloc_tests_free = true ∧
    Generated.Fat.slot_chars = 13 ∧ Generated.Fat.slot_bytes = 32 := by decide

/-- the cluster-size tables of the three `Create`s (parameter facts): whatever the tables say
    today, every entry is a power of two in the legal range and sizes map monotonically -/
theorem facts_agree_tables :
    sizeTableWF 1 64 Generated.Fat.fat12_spc_table = true ∧
    sizeTableWF 1 64 Generated.Fat.fat16_spc_table = true ∧
    sizeTableWF 512 32768 Generated.Fat.fat32_clusterBytes_table = true := by decide

end Diskfs.Fat.C01
