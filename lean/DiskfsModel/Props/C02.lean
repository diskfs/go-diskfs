/-
  C02 — Partition tables read back as written and are valid on disk.
  Property theorems only; the lemmas they rest on live in Proofs/Gpt*.lean and Proofs/Mbr*.lean.
  CRC32 is a parameter `crc` everywhere.
  Quantifiers: every entry (any 64-bit start / end / attributes, any 16-byte GUIDs, any name of
  valid non-NUL runes that fits 36 UTF-16 units, BMP or not), every header field value in range; the header round
  trip for every sector size ≥ 92 and every trailing sector content, the whole-table theorems for 512- and
  4096-byte sectors (fresh tables) or any sector size ≥ 512 (`GeomWF`).
-/
import DiskfsModel.Proofs.GptWhole
import DiskfsModel.Proofs.GptValid
import DiskfsModel.Proofs.GptGeomValid
import DiskfsModel.Proofs.GptIdem
import DiskfsModel.Proofs.GptGeomWhole
import DiskfsModel.Proofs.MbrTable
import DiskfsModel.Proofs.MbrRead
import DiskfsModel.Generated.GptCodec
namespace Diskfs.Gpt.C02

/-- the mixed-endian GUID transformation (common.go bytesToUUIDBytes) is an involution on 16 bytes:
    what `toBytes` swaps, `partitionFromBytes` swaps back -/
theorem guidSwap_involutive (b : Bytes) (h : b.length = 16) : guidSwap (guidSwap b) = b :=
  guidSwap_invol b h

/-- UTF-16: decode ∘ encode = id on every sequence of valid runes (surrogate pairs included) -/
theorem utf16_roundtrip (rs : List Nat) (h : ∀ r ∈ rs, validRune r = true) : utf16Dec (utf16Enc rs) = rs :=
  Gpt.utf16_roundtrip rs h

/-- entry round trip: the 128 bytes `toBytes` writes for a well-formed used entry decode, in whatever
    slot `i` they are put, to the same start / end / type / GUID / attributes / name, with index `i`
    and the size a reader derives from start and end.  Holds as found and repaired (`c` arbitrary). -/
theorem entry_roundtrip (c : Cfg) (p : Part) (i lss : Nat) (h : EntryWF p) :
    ∃ b, entryEnc c p = .ok b ∧ b.length = 128 ∧
      entryDec i b lss = some { p with index := i, size := sizeOf p.start p.end_ lss } :=
  entryDec_entryEnc c p i lss h

/-- an entry as `initEntry` leaves it reads back *exactly* (nothing to normalise) from its own slot -/
theorem entry_roundtrip_exact (c : Cfg) (p p' : Part) (lss : Nat) (hbs : 0 < lss) (h : EntryWF p)
    (hz : p.size < two64) (hi : initEntry p lss = some p') :
    ∃ b, entryEnc c p' = .ok b ∧ entryDec p'.index b lss = some p' := by
  obtain ⟨h', hsz⟩ := initEntry_wf p p' lss hbs h hz hi
  obtain ⟨b, hb, _, hd⟩ := entryDec_entryEnc_exact c p' lss h' hsz
  exact ⟨b, hb, hd⟩

/-- start / end / size reconciliation: whichever of the three spellings `initEntry` accepts, the
    result has start ≠ 0 and size = (end − start + 1) · sector size (uint64 arithmetic) -/
theorem init_entry_consistent (p p' : Part) (bs : Nat) (hbs : 0 < bs) (hu : allZero p.typ = false)
    (hs : p.start < two64) (he : p.end_ < two64) (hz : p.size < two64) (h : initEntry p bs = some p') :
    p'.start ≠ 0 ∧ p'.end_ < two64 ∧ p'.size = sizeOf p'.start p'.end_ bs :=
  initEntry_consistent p p' bs hbs hu hs he hz h

/-- the three spellings, individually -/
theorem init_entry_spellings (p : Part) (bs : Nat) (hu : allZero p.typ = false) (h0 : p.start ≠ 0) :
    (p.size = 0 → p.end_ ≥ p.start → initEntry p bs = some { p with size := sizeOf p.start p.end_ bs } ∨
        initEntry p bs = some p) ∧
    (p.end_ ≥ p.start → p.size = sizeOf p.start p.end_ bs → initEntry p bs = some p) := by
  rw [initEntry_used p bs hu, if_neg h0]
  constructor
  · intro hz he
    by_cases hc : p.size = sizeOf p.start p.end_ bs
    · right; rw [if_pos ⟨he, hc⟩]
    · left; rw [if_neg (fun h => hc h.2), if_pos ⟨hz, he⟩]
  · intro he hc
    rw [if_pos ⟨he, hc⟩]

/-- header round trip: `readGPTHeader` accepts exactly the sector `toGPTBytes` produced and returns
    its nine fields; the decoder recomputes the CRC over the same 92 bytes (CRC field zeroed) that the
    encoder summed.  `pad` is the rest of the logical sector, arbitrary. -/
theorem header_roundtrip (crc : Bytes → Nat) (hcrc : ∀ b, crc b < two32)
    (my alt fd ld : Nat) (guid : Bytes) (hg : guid.length = 16) (al cnt es ac : Nat) (pad : Bytes)
    (hmy : my < two64) (halt : alt < two64) (hfd : fd < two64) (hld : ld < two64) (hal : al < two64)
    (hcnt : cnt < two32) (hes : es < two32) (hac : ac < two32) :
    readHeader crc (hdrBody (leEnc 4 (crc (hdrBody (zeros 4) my alt fd ld guid al cnt es ac)))
        my alt fd ld guid al cnt es ac ++ pad)
      = .ok { myLBA := my, altLBA := alt, firstData := fd, lastData := ld, guid := guid, arrLBA := al,
              count := cnt, entSize := es, arrCrc := ac } :=
  readHeader_hdrBody crc hcrc my alt fd ld guid hg al cnt es ac pad hmy halt hfd hld hal hcnt hes hac

/-- …and that sector is what `hdrEnc` (toGPTBytes) emits for a table -/
theorem hdrEnc_shape (crc : Bytes → Nat) (t : Table) (primary : Bool) (arr : Bytes) :
    hdrEnc crc t primary arr =
      hdrBody (leEnc 4 (crc (hdrBody (zeros 4) (if primary then t.primaryHeader else t.secondaryHeader)
          (if primary then t.secondaryHeader else t.primaryHeader) t.firstData t.lastData t.guid
          (arraySector t primary) t.arrCount 0x80 (crc arr))))
        (if primary then t.primaryHeader else t.secondaryHeader)
        (if primary then t.secondaryHeader else t.primaryHeader) t.firstData t.lastData t.guid
        (arraySector t primary) t.arrCount 0x80 (crc arr) ++ zeros (t.lss - 92) := rfl

/-- entry-array round trip (sparse, unordered indices → slots): the 16 KiB array `toPartitionArrayBytes`
    assembles from entries that read back exactly (`EntryExact`: unused, or well formed with a
    consistent size — what `initEntry` leaves) decodes to those entries in slot order -/
theorem array_roundtrip (c : Cfg) (ps : List Part) (lss : Nat) (hex : ∀ p ∈ ps, EntryExact lss p) (b : Bytes)
    (h : slotsFrom c ps 128 (List.range 128) = .ok b) :
    b.length = 16384 ∧ decodeArr b lss = normParts ps 128 :=
  decodeArr_slotsN c ps lss hex 128 b h

set_option linter.unusedVariables false in
/-- whole table, rewrite over ANY prior device content `d` (blank, another table, random bytes):
    if `Write` accepts a fresh table of well-formed entries on a disk that holds the primary copy,
    then gpt.Read of the resulting device returns — from the primary copy — the partitions `Write`
    was left with (slot order, unused dropped), the same disk GUID and the same geometry.
    Holds for the code as found and repaired (`c` arbitrary); CRC32 is any function below 2^32. -/
theorem gpt_read_write (c : Cfg) (crc : Bytes → Nat) (hcrc : ∀ b, crc b < two32) (d : Dev)
    (t0 : Table) (size : Nat) (ws : List Wr) (t : Table)
    (hf : Fresh t0) (hlss : t0.lss = 512 ∨ t0.lss = 4096) (hg : t0.guid.length = 16)
    (hwf : ∀ p ∈ t0.parts, allZero p.typ = true ∨ (EntryWF p ∧ p.size < two64))
    (hmin : 2 * t0.lss + 16384 ≤ size) (hsz : size < two63)
    (hw : write c crc t0 size = .ok (ws, t)) :
    ∃ t', (read c crc (applyWrs d ws) size t0.lss).1 = .ok t' ∧ t'.parts = normParts t.parts 128 ∧
      t'.guid = t0.guid ∧ t'.backup = false ∧ t'.primaryHeader = 1 ∧ t'.secondaryHeader = t.secondaryHeader ∧
      t'.firstData = t.firstData ∧ t'.lastData = t.lastData :=
  read_write_fresh c crc hcrc d t0 size ws t hf hlss hg hwf hmin hw

/-- validity for an independent parser, for EVERY prior device content `d`: if `Write` accepts a fresh
    table on a disk that holds both copies (2·p+3 sectors, p = 16384/lss — exactly what the repaired
    Write demands, see `write_ok_min_size`), the resulting device satisfies `GptSpec.GptValid`
    (Spec/GptValid.lean, written from the UEFI rules, not from the encoder): valid primary header at
    LBA 1 and valid backup header at the last LBA, the backup mirroring the primary in every field but the
    three swapped ones, both stored array CRCs equal to the CRC of the 16 KiB at the respective
    PartitionEntryLBA, entry size 128, and the layout LBA0 | header | primary array | usable | backup array |
    header without overlap and with FirstUsableLBA / LastUsableLBA leaving room for both arrays.  CRC32 is
    any function below 2^32; the proof never evaluates it.  Holds for any `c` (as found and repaired alike). -/
theorem gpt_written_valid (c : Cfg) (crc : Bytes → Nat) (hcrc : ∀ b, crc b < two32) (d : Dev)
    (t0 : Table) (size : Nat) (ws : List Wr) (t : Table)
    (hf : Fresh t0) (hlss : t0.lss = 512 ∨ t0.lss = 4096) (hg : t0.guid.length = 16) (hsz : size < two63)
    (hmin : (2 * (16384 / t0.lss) + 3) * t0.lss ≤ size)
    (hw : write c crc t0 size = .ok (ws, t)) :
    GptSpec.GptValid crc (applyWrs d ws) size t0.lss := by
  obtain ⟨hgw, hu, e⟩ := std_geom c crc t0 size hf hlss hg hsz hmin
  rw [e] at hw
  have := written_gpt_valid_geom c crc hcrc d _ size ws t hgw hu hw
  rwa [(initTable_geo t0 size hf hlss hsz hmin).1] at this

/-- the minimum-size premise of `gpt_written_valid` is what the repaired Write demands: if it accepts a
    fresh table at all, the disk has 2·p+3 sectors (as found — `cex_min_disk` — smaller disks were accepted) -/
theorem write_ok_min_size (c : Cfg) (crc : Bytes → Nat) (t0 : Table) (size : Nat) (ws : List Wr) (t : Table)
    (hf : Fresh t0) (hlss : t0.lss = 512 ∨ t0.lss = 4096) (hsz : size < two63) (hc : c.minDiskCheck = true)
    (hw : write c crc t0 size = .ok (ws, t)) :
    (2 * (16384 / t0.lss) + 3) * t0.lss ≤ size :=
  Gpt.write_ok_min_size c crc t0 size ws t hf hlss hsz hc hw

/-- …and, when the table asks for a protective MBR, LBA 0 is one that covers the disk (`GptSpec.PmbrValid`:
    55 AA, one non-bootable 0xEE record from LBA 1 of min(sectors − 1, 0xFFFFFFFF) sectors, records 1–3
    zero) — with the size clamp of the repaired code (`c.pmbrClamp`; `cex_pmbr_truncated` is the
    as-found counterexample) and wherever in the write order the protective MBR comes -/
theorem gpt_written_pmbr_valid (c : Cfg) (crc : Bytes → Nat) (d : Dev)
    (t0 : Table) (size : Nat) (ws : List Wr) (t : Table)
    (hf : Fresh t0) (hlss : t0.lss = 512 ∨ t0.lss = 4096) (hg : t0.guid.length = 16) (hsz : size < two63)
    (hmin : (2 * (16384 / t0.lss) + 3) * t0.lss ≤ size)
    (hpm : t0.pmbr = true) (hclamp : c.pmbrClamp = true)
    (hw : write c crc t0 size = .ok (ws, t)) :
    GptSpec.PmbrValid (applyWrs d ws) size t0.lss := by
  obtain ⟨hgw, _, e⟩ := std_geom c crc t0 size hf hlss hg hsz hmin
  obtain ⟨il, _, _, _, _, _, ipm, _⟩ := initTable_geo t0 size hf hlss hsz hmin
  rw [e] at hw
  have := written_pmbr_valid_geom c crc d _ size ws t hgw (by rw [ipm]; exact hpm) hclamp hw
  rwa [il] at this

/-- the library's own header check is sound for the specification: any sector readGPTHeader accepts meets
    its header rules, and the reader returns exactly the specification's field values -/
theorem read_header_sound (crc : Bytes → Nat) (s : Bytes) (h : Hdr) (hlen : 92 ≤ s.length)
    (hr : readHeader crc s = .ok h) :
    slice s 0 8 = GptSpec.signature ∧ (GptSpec.rawHdr s).revision = 0x00010000 ∧
    (GptSpec.rawHdr s).headerSize = 92 ∧ (GptSpec.rawHdr s).headerCrc = crc (GptSpec.crcInput s 92) ∧
    (GptSpec.rawHdr s).reserved = 0 ∧ (GptSpec.rawHdr s).myLBA = h.myLBA ∧ (GptSpec.rawHdr s).alternateLBA = h.altLBA ∧
    (GptSpec.rawHdr s).arrayCrc = h.arrCrc := by
  obtain ⟨a1, a2, a3, a4, a5, a6, a7, _, _, _, _, _, _, a14⟩ := readHeader_ok_spec crc s h hlen hr
  exact ⟨a1, a2, a3, a4, a5, a6, a7, a14⟩

/-- READ-THEN-REWRITE IS IDEMPOTENT (GPT; the C14 clause "rewriting a table that was read from disk
    changes nothing").  `ws` = what `Write` emits for a fresh table of well-formed entries over ANY device
    `d`; `t1` = what gpt.Read returns for the result (an initialised table: geometry taken from the header);
    if `Write t1` is accepted, applying its writes changes NO byte of the device, and the table it is
    left with lists the same partitions.  Premises, explicit: the entries the first Write was left with
    have 1 ≤ start ≤ end (no uint64 wrap-around of end below start); if the table read back carries the
    protective-MBR flag then the first Write wrote the protective MBR (otherwise bytes 446..511 come from
    elsewhere, and readProtectiveMBR does not check the CHS bytes Write would zero).  Holds for every `c`
    (either position of the protective-MBR write). -/
theorem gpt_write_idempotent (c : Cfg) (crc : Bytes → Nat) (hcrc : ∀ b, crc b < two32) (d : Dev)
    (t0 : Table) (size : Nat) (ws : List Wr) (t : Table)
    (hf : Fresh t0) (hlss : t0.lss = 512 ∨ t0.lss = 4096) (hg : t0.guid.length = 16)
    (hwf : ∀ p ∈ t0.parts, allZero p.typ = true ∨ (EntryWF p ∧ p.size < two64))
    (hsz : size < two63) (hmin : (2 * (16384 / t0.lss) + 3) * t0.lss ≤ size)
    (hw : write c crc t0 size = .ok (ws, t))
    (hord : ∀ p ∈ t.parts, allZero p.typ = false → 1 ≤ p.start ∧ p.start ≤ p.end_)
    (t1 : Table) (hr : (read c crc (applyWrs d ws) size t0.lss).1 = .ok t1)
    (hpmb : t1.pmbr = true → t0.pmbr = true)
    (ws1 : List Wr) (t2 : Table) (hw1 : write c crc t1 size = .ok (ws1, t2)) :
    applyWrs (applyWrs d ws) ws1 = applyWrs d ws ∧ t2.parts = t1.parts := by
  obtain ⟨hgw, _, e⟩ := std_geom c crc t0 size hf hlss hg hsz hmin
  obtain ⟨il, _, _, _, _, ipa, ipm, _⟩ := initTable_geo t0 size hf hlss hsz hmin
  rw [e] at hw
  rw [← il] at hr
  -- the table read back is initialised with this library's geometry: on it, too, `write` is `writeUp`
  obtain ⟨pm, arr, _, _, hrd⟩ := read_writeUp c crc hcrc d _ size ws t hgw.init hgw.primary (by rw [ipa]; exact hwf) hw
  have ht1 : t1 = readBack t0 t.parts size pm (crc arr) := by
    rw [hr, readBack_eq t0 size hf hlss hsz hmin] at hrd
    cases hrd
    rfl
  rw [← writeUp_eq_write_init c crc t1 size (by rw [ht1]; rfl) (by rw [ht1]; exact hlss) (by rw [ht1]; rfl)
    (by rw [ht1]; rfl) (by rw [ht1]; rfl)] at hw1
  exact write_read_write_noop_geom c crc hcrc d _ size ws t hgw (by rw [ipa]; exact hwf) hw hord t1 hr
    (by rw [ipm]; exact hpmb) ws1 t2 hw1

/-- what gpt.Read returns for a device `Write` produced, field by field (partitions in slot order, sector
    size, disk GUID, 128 × 128 array at LBA 2, its CRC, header LBAs, usable range): the initialised table
    the rewrite starts from -/
theorem gpt_read_back_exact (c : Cfg) (crc : Bytes → Nat) (hcrc : ∀ b, crc b < two32) (d : Dev)
    (t0 : Table) (size : Nat) (ws : List Wr) (t : Table)
    (hf : Fresh t0) (hlss : t0.lss = 512 ∨ t0.lss = 4096) (hg : t0.guid.length = 16)
    (hwf : ∀ p ∈ t0.parts, allZero p.typ = true ∨ (EntryWF p ∧ p.size < two64))
    (hsz : size < two63) (hmin : (2 * (16384 / t0.lss) + 3) * t0.lss ≤ size)
    (hw : write c crc t0 size = .ok (ws, t)) :
    ∃ pm arr, arrEnc c (initTable t0 size) = .ok (arr, t.parts) ∧ (∀ p ∈ t.parts, EntryExact t0.lss p) ∧
      (read c crc (applyWrs d ws) size t0.lss).1 = .ok (readBack t0 t.parts size pm (crc arr)) := by
  obtain ⟨hgw, _, e⟩ := std_geom c crc t0 size hf hlss hg hsz hmin
  obtain ⟨il, _, _, _, _, ipa, _⟩ := initTable_geo t0 size hf hlss hsz hmin
  rw [e] at hw
  obtain ⟨pm, arr, harr, hex, hrd⟩ := read_writeUp c crc hcrc d _ size ws t hgw.init hgw.primary (by rw [ipa]; exact hwf) hw
  rw [il, readBack_eq t0 size hf hlss hsz hmin] at hrd
  rw [il] at hex
  exact ⟨pm, arr, harr, hex, hrd⟩

/-- READ-THEN-REWRITE IS IDEMPOTENT (MBR), for ANY device mbr.Read accepts, whoever wrote it and whatever
    the slots hold (any type byte, CHS bytes, start / size): the 66 bytes Table.Write emits for the four
    partitions mbr.Read returned are exactly the bytes already at 446..511, so no byte changes -/
theorem mbr_write_idempotent (d : Dev) (devSize : Nat) (ps : List Mbr.Part) (h : (Mbr.read d devSize).1 = some ps) :
    applyWrs d (Mbr.write ps) = d :=
  Mbr.write_read_noop d devSize ps h

/-- a 16-byte MBR slot that partitionFromBytes accepts is re-encoded to the same 16 bytes -/
theorem mbr_entry_enc_dec (b : Bytes) (hb : b.length = 16) (i : Nat) (p : Mbr.Part) (h : Mbr.entryDec i b = some p) :
    Mbr.entryEnc p = b :=
  Mbr.entryEnc_entryDec b hb i p h

-- non-vacuity of `gpt_written_valid` / `gpt_written_pmbr_valid`: the repaired Write accepts a concrete fresh
-- table on a disk of exactly the minimum size (67 sectors), and the predicate is not trivially true
-- (a blank device is not a valid GPT)
set_option maxRecDepth 100000 in
example : (write Cfg.fixed (fun _ => 0)
    { parts := [{ index := 2, start := 34, end_ := 34, size := 0, typ := List.replicate 16 7, guid := List.replicate 16 9,
                  attrs := 0, name := [0x61] }], lss := 512, guid := List.replicate 16 3, pmbr := true }
    (67 * 512)).isOk = true ∧ (2 * (16384 / 512) + 3) * 512 ≤ 67 * 512 := by decide
set_option maxRecDepth 100000 in
example : ¬ GptSpec.GptValid (fun _ => 0) (fun _ => 0) 1048576 512 := by decide

-- non-vacuity of `gpt_read_write`: a concrete fresh table that `Write` accepts
set_option maxRecDepth 100000 in
example : (write Cfg.asFound (fun _ => 0)
    { parts := [{ index := 5, start := 34, end_ := 40, size := 0, typ := List.replicate 16 7, guid := List.replicate 16 9,
                  attrs := 1, name := [0x61, 0x1F600] }], lss := 512, guid := List.replicate 16 3, pmbr := true }
    1048576).isOk = true := by decide

/-- an unused slot decodes to no partition -/
theorem unused_slot (i lss : Nat) : entryDec i (zeros 128) lss = none := entryDec_zeros i lss

/-- MBR slot round trip: any type byte, any 32-bit start / size, any CHS bytes, bootable or not -/
theorem mbr_entry_roundtrip (p : Mbr.Part) (i : Nat) (ht : p.typ < 256) (hs : p.start < two32) (hz : p.size < two32)
    (hc : p.chs.length = 6) : Mbr.entryDec i (Mbr.entryEnc p) = some { p with index := i } :=
  Mbr.entryDec_entryEnc p i ht hs hz hc

/-- MBR whole table over ANY prior device content: what mbr.Table.Write emits for up to four (or more)
    storable entries reads back through mbr.Read as four slots filled BY POSITION (index = position+1,
    missing entries empty, entries past the fourth dropped) — the as-found behaviour, which is the
    recorded findings mbr-slot-by-position / mbr-extra-entries-dropped when Index ≠ position+1 / length > 4 -/
theorem mbr_read_write (d : Dev) (ps : List Mbr.Part) (devSize : Nat) (hdev : 512 ≤ devSize)
    (hwf : ∀ p ∈ ps, Mbr.PartWF p) :
    (Mbr.read (applyWrs d (Mbr.write ps)) devSize).1 =
      some [Mbr.normSlot ps 0, Mbr.normSlot ps 1, Mbr.normSlot ps 2, Mbr.normSlot ps 3] :=
  Mbr.read_write d ps devSize hdev hwf

/-- …so a table whose entries carry Index = position+1 reads back exactly -/
theorem mbr_read_write_exact (d : Dev) (a b : Mbr.Part) (devSize : Nat) (hdev : 512 ≤ devSize)
    (ha : Mbr.PartWF a) (hb : Mbr.PartWF b) (ia : a.index = 1) (ib : b.index = 2) :
    (Mbr.read (applyWrs d (Mbr.write [a, b])) devSize).1 = some [a, b, Mbr.emptyPart 3, Mbr.emptyPart 4] := by
  rw [Mbr.read_write d [a, b] devSize hdev (by intro p hp; simp at hp; rcases hp with h | h <;> subst h <;> assumption)]
  cases a; cases b
  simp_all [Mbr.normSlot]

/-- mbr.Table.Write changes bytes 446..511 only (boot code, disk signature = disk identity, data untouched) -/
theorem mbr_write_frame (d : Dev) (ps : List Mbr.Part) (i : Nat) (hi : i < 446 ∨ 512 ≤ i) :
    applyWrs d (Mbr.write ps) i = d i :=
  Mbr.write_frame d ps i hi

/-! ### MBR at the Table level (Model/MbrTable.lean: Table.Write as it is now — it refuses more than four
    partitions — and mbr.Read with the caller's sector sizes stamped; every Go slice expression of
    tableFromBytes / partitionFromBytes modelled with its panic) -/

/-- whatever Table.Write accepts, over ANY prior device content, reads back through mbr.Read — called with any
    sector sizes, zero and negative included — as the four slots filled by position, stamped with the sizes
    Read was given (512 when not positive) -/
theorem mbr_table_read_write (d : Dev) (t : Mbr.Table) (ws : List Wr) (devSize : Nat) (lbs pbs : Int) (hdev : 512 ≤ devSize)
    (hwf : ∀ p ∈ t.parts, Mbr.PartWF p) (hw : Mbr.writeT t = some ws) :
    (Mbr.readT (applyWrs d ws) devSize lbs pbs).1 =
      .ok { parts := [Mbr.normSlot t.parts 0, Mbr.normSlot t.parts 1, Mbr.normSlot t.parts 2, Mbr.normSlot t.parts 3],
            lss := Mbr.stamp lbs, pss := Mbr.stamp pbs } :=
  Mbr.readT_writeT d t ws devSize lbs pbs hdev hwf hw

/-- ROUND TRIP decode (encode t) = t for EVERY valid table: four storable entries numbered 1..4 (what mbr.Read
    itself produces: `mbr_read_canonical`), any positive sector sizes (512, 4096, …): Write accepts it and Read with
    the table's sector sizes returns exactly the table — partitions with all CHS bytes, boot flags, type bytes,
    32-bit starts and sizes, and both sector sizes — over any prior device content -/
theorem mbr_table_round_trip (d : Dev) (t : Mbr.Table) (devSize : Nat) (hdev : 512 ≤ devSize)
    (hwf : ∀ p ∈ t.parts, Mbr.PartWF p) (hc : Mbr.Canonical t) (hl : 0 < t.lss) (hp : 0 < t.pss) :
    ∃ ws, Mbr.writeT t = some ws ∧ (Mbr.readT (applyWrs d ws) devSize t.lss t.pss).1 = .ok t :=
  Mbr.readT_writeT_exact d t devSize hdev hwf hc hl hp

/-- every table mbr.Read returns is of that shape: four slots numbered 1..4 carrying the stamped sector sizes -/
theorem mbr_read_canonical (d : Dev) (devSize : Nat) (lbs pbs : Int) (t : Mbr.Table)
    (h : (Mbr.readT d devSize lbs pbs).1 = .ok t) : Mbr.Canonical t ∧ t.lss = Mbr.stamp lbs ∧ t.pss = Mbr.stamp pbs :=
  Mbr.readT_canonical d devSize lbs pbs t h

/-- FRAME at the Table level: an accepted Write changes bytes 446..511 only (boot code 0..439, disk signature
    440..443 and everything from byte 512 on keep their content); a refused Write (more than four partitions)
    writes nothing at all -/
theorem mbr_table_write_frame (d : Dev) (t : Mbr.Table) (ws : List Wr) (hw : Mbr.writeT t = some ws) (i : Nat)
    (hi : i < 446 ∨ 512 ≤ i) : applyWrs d ws i = d i :=
  Mbr.writeT_frame d t ws hw i hi

theorem mbr_table_write_refuses (t : Mbr.Table) (h : 4 < t.parts.length) : Mbr.writeT t = none :=
  Mbr.writeT_refuses t h

/-- mbr.Read written with Go's slice / index panics is the total decoder the theorems above are about -/
theorem mbr_read_is_total_decoder (d : Dev) (devSize : Nat) (lbs pbs : Int) :
    Mbr.readT d devSize lbs pbs =
      (match (Mbr.read d devSize).1 with
        | some ps => .ok { parts := ps, lss := Mbr.stamp lbs, pss := Mbr.stamp pbs }
        | none => .err false, [512]) :=
  Mbr.readT_eq d devSize lbs pbs

-- non-vacuity: a canonical table of storable entries on 4096-byte sectors
def exMbr : Mbr.Table :=
  { parts := [⟨1, true, 0x83, 2048, 4096, [1, 2, 3, 4, 5, 6]⟩, ⟨2, false, 0x0c, 4294967295, 4294967295, [0, 0, 0, 0, 0, 0]⟩,
              ⟨3, false, 0, 0, 0, [0, 0, 0, 0, 0, 0]⟩, ⟨4, false, 0xff, 7, 9, [255, 255, 255, 255, 255, 255]⟩],
    lss := 4096, pss := 512 }
example : Mbr.Canonical exMbr := ⟨_, _, _, _, rfl, rfl, rfl, rfl, rfl⟩
example : ∀ p ∈ exMbr.parts, Mbr.PartWF p := by
  intro p hp
  simp only [exMbr, List.mem_cons, List.not_mem_nil, or_false] at hp
  rcases hp with h | h | h | h <;> subst h <;> exact ⟨by decide, by decide, by decide, by decide⟩

/-- as found: a name of at most 36 runes but more than 36 UTF-16 units makes `toBytes` panic
    (19 runes outside the BMP); repaired it is refused with an error -/
def cexName : Part := { index := 1, start := 2048, end_ := 2049, size := 0, typ := List.replicate 16 1,
                        guid := List.replicate 16 2, attrs := 0, name := List.replicate 19 0x1F600 }
theorem cex_name_overflow_panics : (entryEnc Cfg.asFound cexName).isPanic = true := by decide
theorem cex_name_overflow_repaired : entryEnc Cfg.fixed cexName = .err false := by decide

/-- as found: above 2^32 sectors the protective MBR size is the low 32 bits of the last LBA; repaired it is 0xFFFFFFFF -/
theorem cex_pmbr_truncated : pmbrSectors Cfg.asFound 6442450943 = 2147483647 ∧ pmbrSectors Cfg.fixed 6442450943 = 4294967295 := by
  decide

/-- as found: a 40-sector disk is accepted although the backup array (LBA 7..38) overlaps the primary (LBA 2..33) -/
theorem cex_min_disk :
    let t := initTable { parts := [], lss := 512, guid := [], pmbr := true } (40 * 512)
    arraySector t false = 7 ∧ arraySector t true = 2 ∧ partSectors t = 32 ∧ t.secondaryHeader < minSectors t - 1 := by
  decide

/-- facts regenerated from partition/gpt/partition.go, table.go, partition/mbr/*.go and
    partition/partition.go: the byte ranges the entry / header encoders and decoders touch, the name
    limit and offset, the MBR layout constants and the probe order — the shapes the hand-written
    mirror (entryEnc / entryDec / hdrBody / readHeader / Mbr.tableEnc / PartTable.read) relies on -/
theorem facts_agree_codec_offsets :
    Generated.GptCodec.entryEncSlices = [(0, 16), (16, 32), (32, 40), (40, 48), (48, 56)] ∧
    Generated.GptCodec.entryDecSlices = [(0, 16), (16, 32), (32, 40), (40, 48), (48, 56)] ∧
    Generated.GptCodec.nameLimit = 36 ∧ Generated.GptCodec.nameOffset = 56 ∧ Generated.GptCodec.entrySize = 128 ∧
    Generated.GptCodec.headerEncSlices =
      [(0, 8), (8, 12), (12, 16), (16, 20), (20, 24), (24, 32), (32, 40), (40, 48), (48, 56), (56, 72), (72, 80),
       (80, 84), (84, 88), (88, 92), (0, 92)] ∧
    Generated.GptCodec.mbr_partitionEntriesStart = 446 ∧ Generated.GptCodec.mbr_partitionEntriesCount = 4 ∧
    Generated.GptCodec.mbr_signatureStart = 510 ∧ Generated.GptCodec.mbr_mbrSize = 512 ∧
    Generated.GptCodec.mbr_partitionEntrySize = 16 ∧
    Generated.GptCodec.mbr_partitionTableUUIDStart = 440 ∧ Generated.GptCodec.mbr_partitionTableUUIDEnd = 444 ∧
    Generated.GptCodec.mbrEntryEncSlices = [(8, 12), (12, 16)] ∧ Generated.GptCodec.mbrEntryDecSlices = [(8, 12), (12, 16)] ∧
    Generated.GptCodec.probeOrder = ["gpt.Read", "mbr.Read"] := by
  decide

/-- non-vacuity: a concrete well-formed entry with a name outside the BMP -/
example : EntryWF { index := 3, start := 34, end_ := 2047, size := 0, typ := List.replicate 16 7, guid := List.replicate 16 9,
                    attrs := 2 ^ 63, name := [0x41, 0x1F600, 0x4E2D] } :=
  ⟨by decide, by decide, by decide, by decide, by decide, by decide, by decide, by decide⟩

/-! ### ANY WELL-FORMED GEOMETRY (Model/GptGeom.lean; Proofs/GptGeomWhole.lean): a table gpt.Read returned
    from a foreign disk and that was then edited — other entry counts (4, 30, 32, 64, 256, …), arrays that do
    not end on a sector boundary, aligned first usable LBA, any sector size ≥ 512.  `writeUp` is table.go
    Write as it is now (array sectors rounded UP, b8755c1): an initialised table keeps the geometry its header
    carried and Write ignores its size argument; `GeomWF` is the explicit well-formedness of that geometry. -/

/-- BRIDGE: on the domain of the theorems above (fresh table, 512/4096-byte sectors) the model the driver
    executes, `writeUp`, IS `write` -/
theorem write_up_is_write (c : Cfg) (crc : Bytes → Nat) (t0 : Table) (size : Nat) (hf : Fresh t0)
    (hl : t0.lss = 512 ∨ t0.lss = 4096) : writeUp c crc t0 size = write c crc t0 size :=
  writeUp_eq_write c crc t0 size hf hl

/-- READ ∘ WRITE, ANY WELL-FORMED GEOMETRY: for EVERY prior device content, what Write emits for an initialised
    table of well-formed geometry with well-formed entries reads back through gpt.Read — from the primary
    copy — as the same partitions (slot order over the table's n slots), the same disk GUID (disk identity)
    and the same geometry: header LBAs, usable range, entry count, array at LBA 2 -/
theorem gpt_read_write_geom (c : Cfg) (crc : Bytes → Nat) (hcrc : ∀ b, crc b < two32) (d : Dev)
    (t : Table) (size : Nat) (ws : List Wr) (t' : Table) (hg : GeomWF t size)
    (hwf : ∀ p ∈ t.parts, allZero p.typ = true ∨ (EntryWF p ∧ p.size < two64))
    (hw : writeUp c crc t size = .ok (ws, t')) :
    ∃ tr, (read c crc (applyWrs d ws) size t.lss).1 = .ok tr ∧ tr.parts = normParts t'.parts t.arrCount ∧
      tr.guid = t.guid ∧ tr.backup = false ∧ tr.primaryHeader = 1 ∧ tr.secondaryHeader = t.secondaryHeader ∧
      tr.firstData = t.firstData ∧ tr.lastData = t.lastData ∧ tr.arrCount = t.arrCount ∧ tr.entSize = 128 ∧
      tr.firstLBA = 2 ∧ tr.initialized = true := by
  obtain ⟨pm, arr, _, _, h⟩ := read_writeUp c crc hcrc d t size ws t' hg.init hg.primary hwf hw
  exact ⟨_, h, rfl, rfl, rfl, rfl, rfl, rfl, rfl, rfl, rfl, rfl, rfl⟩

/-- …in particular a FRESH table on ANY sector size ≥ 512 (1024, 2048, 8192, …; `gpt_read_write` above is the
    512/4096 case): `initTable` makes it a table of well-formed geometry with 128 slots -/
theorem gpt_read_write_any_sector_size (c : Cfg) (crc : Bytes → Nat) (hcrc : ∀ b, crc b < two32) (d : Dev)
    (t0 : Table) (size : Nat) (ws : List Wr) (t' : Table)
    (hf : Fresh t0) (hl : 512 ≤ t0.lss) (hgd : t0.guid.length = 16) (hsz : size < two63)
    (hmin : (2 * ((16384 + t0.lss - 1) / t0.lss) + 3) * t0.lss ≤ size)
    (hwf : ∀ p ∈ t0.parts, allZero p.typ = true ∨ (EntryWF p ∧ p.size < two64))
    (hw : writeUp c crc t0 size = .ok (ws, t')) :
    ∃ tr, (read c crc (applyWrs d ws) size t0.lss).1 = .ok tr ∧ tr.parts = normParts t'.parts 128 ∧
      tr.guid = t0.guid ∧ tr.backup = false := by
  obtain ⟨hg, hp, hgu, _, hl', hac⟩ := initTableUp_geom t0 size hf hl hgd hsz hmin
  rw [writeUp_fresh c crc t0 size hf] at hw
  obtain ⟨pm, arr, _, _, h⟩ := read_writeUp c crc hcrc d (initTableUp t0 size) size ws t' hg.init hg.primary (by rw [hp]; exact hwf) hw
  rw [hl'] at h
  exact ⟨_, h, by rw [reread, hac], hgu, rfl⟩

/-- VALID FOR AN INDEPENDENT PARSER, ANY WELL-FORMED GEOMETRY: for EVERY prior device content, the bytes Write
    leaves for an initialised table with well-formed geometry and a sane usable range (`UsableWF`: Write copies
    FirstUsableLBA / LastUsableLBA from the table without checking them) satisfy `GptSpec.GptValid` — both header
    CRCs, both array CRCs over n·128 bytes, backup mirrors primary, layout without overlap with the array
    sectors rounded up — and `PmbrValid` when a protective MBR is requested (repaired size clamp) -/
theorem gpt_written_valid_geom (c : Cfg) (crc : Bytes → Nat) (hcrc : ∀ b, crc b < two32) (d : Dev)
    (t : Table) (size : Nat) (ws : List Wr) (t' : Table) (hg : GeomWF t size) (hu : UsableWF t)
    (hw : writeUp c crc t size = .ok (ws, t')) :
    GptSpec.GptValid crc (applyWrs d ws) size t.lss ∧
    (t.pmbr = true → c.pmbrClamp = true → GptSpec.PmbrValid (applyWrs d ws) size t.lss) :=
  ⟨written_gpt_valid_geom c crc hcrc d t size ws t' hg hu hw,
   fun hpm hcl => written_pmbr_valid_geom c crc d t size ws t' hg hpm hcl hw⟩

/-- …in particular for a fresh table on any sector size ≥ 512 (`initTable` computes a sane usable range) -/
theorem gpt_written_valid_any_sector_size (c : Cfg) (crc : Bytes → Nat) (hcrc : ∀ b, crc b < two32) (d : Dev)
    (t0 : Table) (size : Nat) (ws : List Wr) (t' : Table)
    (hf : Fresh t0) (hl : 512 ≤ t0.lss) (hgd : t0.guid.length = 16) (hsz : size < two63)
    (hmin : (2 * ((16384 + t0.lss - 1) / t0.lss) + 3) * t0.lss ≤ size)
    (hw : writeUp c crc t0 size = .ok (ws, t')) :
    GptSpec.GptValid crc (applyWrs d ws) size t0.lss := by
  obtain ⟨hg, _, _, _, hl', _⟩ := initTableUp_geom t0 size hf hl hgd hsz hmin
  rw [writeUp_fresh c crc t0 size hf] at hw
  have := written_gpt_valid_geom c crc hcrc d (initTableUp t0 size) size ws t' hg
    (initTableUp_spec t0 size hf hl hsz hmin).2.1 hw
  rw [hl'] at this
  exact this

/-- the repaired Write accepts an initialised table only when its AlternateLBA leaves room for both copies
    (2·p + 2 ≤ AlternateLBA, p the array sectors rounded up): with the backup header at the device's last LBA
    this is the `fits` clause of `GeomWF` — Write itself never compares AlternateLBA with the device size -/
theorem write_up_ok_fits (c : Cfg) (crc : Bytes → Nat) (t : Table) (size : Nat) (ws : List Wr) (t' : Table)
    (hc : c.minDiskCheck = true) (hi : t.initialized = true) (hl : 0 < t.lss) (hph : t.primaryHeader = 1)
    (hps : partSectorsUp t < two32) (hw : writeUp c crc t size = .ok (ws, t')) :
    2 * partSectorsUp t + 2 ≤ t.secondaryHeader :=
  writeUp_ok_fits c crc t size ws t' hc hi hl hph hps hw

/-- a table as gpt.Read returns it for a valid foreign GPT with 30 entries (3840-byte array = 7.5 sectors),
    first usable LBA 34, on a disk of 100 sectors of 512 bytes, one partition in slot 30 -/
def exT30 : Table :=
  { parts := [{ index := 30, start := 40, end_ := 47, size := 4096, typ := List.replicate 16 7,
                guid := List.replicate 16 9, attrs := 0, name := [0x61] }],
    lss := 512, guid := List.replicate 16 3, pmbr := true, initialized := true, arrCount := 30,
    entSize := 128, firstLBA := 2, primaryHeader := 1, secondaryHeader := 99, firstData := 34, lastData := 90 }

set_option maxRecDepth 100000 in
-- non-vacuity of the geometry theorems: well-formed geometry, sane usable range, Write accepts it
example : GeomWF exT30 51200 ∧ (writeUp Cfg.fixed (fun _ => 0) exT30 51200).isOk = true := by decide
example : UsableWF exT30 := ⟨by decide, by decide, by decide, by decide⟩

end Diskfs.Gpt.C02
