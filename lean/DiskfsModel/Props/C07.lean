/-
  C07 — A squashfs image contains exactly the tree it was built from.
  Proved for all inputs about the logic cores mirrored in Model/Sqfs, bottom up: a file built as full
  blocks plus a tail in a shared fragment block reads back as its plain contents, whatever the codec,
  the NoCompress flags and the block size; fragment and metadata references resolve; the superblock,
  inode and directory-table codecs round-trip; Finalize's `location` bookkeeping lays the regions end
  to end over [96, bytes_used) and the WriteAt calls cover [0, bytes_used) exactly once
  (`sizes_describe_bytes` and the five theorems after it); the readers over the BYTES of an image
  (Model/Sqfs/ImageRd.lean) return what the writers (Model/Sqfs/ImageWr.lean) lay down, ending in
  `writer_reader_roundtrip`: on any device showing the written bytes the reader returns the
  superblock and exactly the depth-first walk of the file list with inodes, owners and contents,
  within the stated limits (`Limits`).
  The compressors themselves are outside Lean (parameter `Codec`); the end-to-end clause is
  evaluated on the real code by the engine (see the note of check C07 in MANIFEST.json).
-/
import DiskfsModel.Proofs.SqfsMap
import DiskfsModel.Proofs.SqfsFrag
import DiskfsModel.Proofs.SqfsMeta
import DiskfsModel.Proofs.SqfsCodec
import DiskfsModel.Proofs.SqfsRegions
import DiskfsModel.Proofs.SqfsInode
import DiskfsModel.Proofs.SqfsWalk
import DiskfsModel.Proofs.SqfsImageRd
import DiskfsModel.Proofs.SqfsImageWr
import DiskfsModel.Proofs.SqfsRoundTrip
import DiskfsModel.Proofs.SqfsImageRegions
import DiskfsModel.Generated.Sqfs
namespace Diskfs.Sqfs.C07

/-- one Read call on the built file = the slice of the contents, the new offset and the EOF flag of
    a plain byte reader -/
theorem readS_spec (c : Codec) (noCompData noCompFrag : Bool) (bs : Nat) (pre post content : Bytes)
    (hbs : 0 < bs) (off n : Nat) :
    readS c (buildFile c noCompData noCompFrag bs pre post content) off n =
      ((content.drop off).take n, off + min n (content.length - off),
        decide (content.length ≤ off + min n (content.length - off))) :=
  readS_maps c _ content (buildFile_maps c noCompData noCompFrag bs pre post content hbs) off n

/-- any call sequence, from any starting offset -/
theorem readS_spec_seq (c : Codec) (noCompData noCompFrag : Bool) (bs : Nat) (pre post content : Bytes)
    (hbs : 0 < bs) (off : Nat) (ns : List Nat) :
    readSeq c (buildFile c noCompData noCompFrag bs pre post content) off ns = specSeq content off ns := by
  induction ns generalizing off with
  | nil => rfl
  | cons n ns ih =>
    simp only [readSeq, specSeq, readS_spec c noCompData noCompFrag bs pre post content hbs]
    rw [ih]

/-- the view is independent of the compressor, of the NoCompress flags, of the block size and of
    what else is packed into the fragment block -/
theorem view_codec_independent (c₁ c₂ : Codec) (d₁ f₁ d₂ f₂ : Bool) (bs₁ bs₂ : Nat) (pre₁ post₁ pre₂ post₂ content : Bytes)
    (h₁ : 0 < bs₁) (h₂ : 0 < bs₂) (off : Nat) (ns : List Nat) :
    readSeq c₁ (buildFile c₁ d₁ f₁ bs₁ pre₁ post₁ content) off ns =
    readSeq c₂ (buildFile c₂ d₂ f₂ bs₂ pre₂ post₂ content) off ns := by
  rw [readS_spec_seq _ _ _ _ _ _ _ h₁, readS_spec_seq _ _ _ _ _ _ _ h₂]

/-- a data block round-trips through store/load whether or not compression paid off -/
theorem block_roundtrip (c : Codec) (noComp : Bool) (bs : Nat) (blk : Bytes) (h : blk.length = bs) (hbs : 0 < bs) :
    loadBlock c bs (storeBlock c noComp blk) = blk := loadBlock_store c noComp bs blk h hbs

/-- a stored size of zero is a sparse block: it reads as `bs` zero bytes -/
theorem sparse_block_reads_zero (c : Codec) (bs : Nat) (flag : Bool) :
    loadBlock c bs ⟨flag, []⟩ = zeros bs := by
  simp [loadBlock]

/-- fragment packing (`writeFragmentBlocks`): the (fragment block, offset) reference handed to a
    file points at that file's tail inside the packed fragment blocks — for any list of tails
    shorter than a block; files without a tail get no reference -/
theorem frag_ref_resolves (bs : Nat) (tails : List Bytes) (hlt : ∀ t ∈ tails, t.length < bs) (i : Nat) (hi : i < tails.length) :
    RefOK (packFrags bs tails [] []) (tails.getD i []) ((fragRefs bs (tails.map List.length) 0 0).getD i none) :=
  fragRefs_resolve bs tails hlt [] [] i hi

/-- the reference computed for inode `i` resolves to that inode's bytes: for any inode byte
    strings, reading from block `r.1` at offset `r.2` of the chunked stream (and on into the
    following blocks) starts with exactly the bytes of inode `i` -/
theorem meta_ref_resolves (inodes : List Bytes) (i : Nat) (hi : i < inodes.length) :
    (resolve (chunksOf metaBlock (inodes.flatten.length) inodes.flatten)
        ((inodeRefs (inodes.map List.length) 0).getD i (0, 0)).1
        ((inodeRefs (inodes.map List.length) 0).getD i (0, 0)).2).take (inodes.getD i []).length
      = inodes.getD i [] := by
  unfold resolve
  rw [chunksOf_drop_flatten metaBlock (by decide) _ _ _ (Nat.le_refl _), List.drop_drop,
    inodeRefs_getD _ 0 i (by simpa using hi), Nat.zero_add, ← flatten_take_length]
  simp only [Nat.mul_comm _ metaBlock, Nat.div_add_mod]
  rw [flatten_drop_prefix inodes i hi]
  exact List.take_left

theorem superblock_roundtrip (s : Superblock) (h : s.WF) : decodeSB (encodeSB s) = some s := decode_encodeSB s h

/-- facts regenerated from squashfs.go / superblock.go / inode.go / file.go -/
theorem facts_agree_constants :
    Generated.Sqfs.metadataBlockSize = metaBlock ∧ Generated.Sqfs.superblockSize = 96 ∧
    Generated.Sqfs.inodeHeaderSize = 16 ∧ Generated.Sqfs.minBlocksize = 4096 ∧ Generated.Sqfs.maxBlocksize = 1048576 := by decide

/-! non-vacuity -/
/-- a toy codec meeting the laws: prefix a marker byte (it never shrinks a block, so every block is kept uncompressed) -/
private def mark : Codec :=
  { compress := fun x => 7 :: x, decompress := fun x => x.drop 1, roundtrip := fun _ => rfl,
    nonempty := fun _ _ => by simp }
/-- a codec that shrinks one particular block, so that compressed blocks occur -/
private def rle : Codec :=
  { compress := fun x => if x = [5, 5, 5, 5] then [1] else 0 :: x
    decompress := fun y => if y = [1] then [5, 5, 5, 5] else y.drop 1
    roundtrip := by
      intro x
      by_cases h : x = [5, 5, 5, 5]
      · simp [h]
      · simp [h]
    nonempty := by
      intro x _
      by_cases h : x = [5, 5, 5, 5] <;> simp [h] }
example : (buildFile rle false false 4 [9, 9] [8] [5, 5, 5, 5, 1, 2, 3, 4, 6, 7]).blocks =
    [⟨true, [1]⟩, ⟨false, [1, 2, 3, 4]⟩] := by decide
example : readSeq rle (buildFile rle false false 4 [9, 9] [8] [5, 5, 5, 5, 1, 2, 3, 4, 6, 7]) 2 [3, 100, 1] =
    [[5, 5, 1], [2, 3, 4, 6, 7], []] := by decide
example : fragRefs 8 [3, 0, 4, 2, 7] 0 0 = [some (0, 0), none, some (0, 3), some (1, 0), some (2, 0)] := by decide
example : packFrags 8 [[1, 1, 1], [], [2, 2, 2, 2], [3, 3], [4, 4, 4, 4, 4, 4, 4]] [] [] =
    [[1, 1, 1, 2, 2, 2, 2], [3, 3], [4, 4, 4, 4, 4, 4, 4]] := by decide
example : (inodeRefs [5000, 5000, 100] 0) = [(0, 0), (0, 5000), (1, 1808)] := by decide

/-- **sizes_describe_bytes.**  For ANY sizes of the pieces (data blocks, fragment blocks, metadata
    blocks of the five tables, compressor option bytes) and with or without an export table, the
    mirror of Finalize's bookkeeping agrees with the specification "eleven regions laid end to end
    from byte 96"; fragment / export / id table start are the starts of the INDEX regions of those
    tables (each preceded by its metadata blocks). -/
theorem sizes_describe_bytes (p : Pieces) :
    Tiles sbSize (regions p) ∧
    (finalize p).bytesUsed = endOf sbSize (regions p) ∧
    (finalize p).inodeStart = startOf .inodeTbl (regions p) ∧
    (finalize p).dirStart = startOf .dirTbl (regions p) ∧
    (finalize p).fragStart = startOf .fragIdx (regions p) ∧
    (finalize p).idStart = startOf .idIdx (regions p) ∧
    (finalize p).exportStart = (if p.exportTbl.isSome then startOf .exportIdx (regions p) else absent64) ∧
    (finalize p).writes = flatWrites (regions p) ++ [(0, sbSize)] :=
  ⟨regions_tile p, finalize_bytesUsed p, (finalize_starts p).1, (finalize_starts p).2.1, (finalize_starts p).2.2.1,
    (finalize_starts p).2.2.2.1, (finalize_starts p).2.2.2.2, finalize_writes p⟩

/-- the regions are in ascending order, pairwise disjoint, and lie inside [96, bytes_used) -/
theorem regions_disjoint_inside (p : Pieces) :
    (regions p).Pairwise (fun a b => a.hi ≤ b.lo) ∧
    ∀ r ∈ regions p, sbSize ≤ r.lo ∧ r.hi ≤ (finalize p).bytesUsed := by
  refine ⟨tiles_pairwise _ _ (regions_tile p), ?_⟩
  rw [finalize_bytesUsed]
  exact tiles_inside _ _ (regions_tile p)

/-- the table starts are ordered and inside the image; bytes_used is the end of the id index, the
    last thing written before the superblock -/
theorem table_starts_ordered (p : Pieces) :
    sbSize ≤ (finalize p).inodeStart ∧ (finalize p).inodeStart ≤ (finalize p).dirStart ∧
    (finalize p).dirStart ≤ (finalize p).fragStart ∧
    (finalize p).fragStart + 8 * p.fragTbl.length ≤ (finalize p).idStart ∧
    (finalize p).idStart + 8 * p.idTbl.length = (finalize p).bytesUsed ∧
    (∀ e, p.exportTbl = some e →
      (finalize p).fragStart + 8 * p.fragTbl.length ≤ (finalize p).exportStart ∧
      (finalize p).exportStart + 8 * e.length ≤ (finalize p).idStart) := by
  have h1 := finalize_inodeStart p
  have h2 := finalize_dirStart p
  have h3 := finalize_fragStart p
  have h4 := finalize_exportStart p
  have h5 := finalize_idStart p
  refine ⟨by omega, by omega, by omega, by omega, (finalize_bytesUsed_eq p).symm, ?_⟩
  intro e he
  simp only [he, Option.elim] at h4 h5
  omega

/-- "the size fields describe exactly the bytes written": a byte offset is below bytes_used iff
    some WriteAt of Finalize covers it — nothing beyond bytes_used is written, no hole is left —
    and no byte is written twice -/
theorem written_bytes_exact (p : Pieces) :
    (∀ x, x < (finalize p).bytesUsed ↔ ∃ w ∈ (finalize p).writes, w.1 ≤ x ∧ x < w.1 + w.2) ∧
    (finalize p).writes.Pairwise (fun a b => a.1 + a.2 ≤ b.1 ∨ b.1 + b.2 ≤ a.1) := by
  refine ⟨finalize_cover p, ?_⟩
  rw [(finalize_writes_seq p).1, List.pairwise_append]
  refine ⟨(seqWrites_pairwise _ _).imp (fun h => Or.inl h), by simp, ?_⟩
  intro a ha b hb
  simp only [List.mem_singleton] at hb
  subst hb
  right
  have := (seqWrites_bounds sbSize (allLens p) a ha).1
  simpa using this

/-- chunking of the inode and directory tables (`writeInodes`, `writeDirectories`): the blocks hold
    the whole stream; with items of at most 8 KiB every block holds 1..8192 bytes and all but the
    last are full -/
theorem meta_chunks_gt (items : List Nat) (h : ∀ s ∈ items, s ≤ metaMax) :
    (chunkGT items 0).sum = items.sum ∧ (∀ c ∈ chunkGT items 0, 0 < c ∧ c ≤ metaMax) ∧
    (∀ c ∈ (chunkGT items 0).dropLast, c = metaMax) :=
  have s := chunkGT_spec items 0
  ⟨by simpa using s.1, s.2.2 (by simp [metaMax]) h, s.2.1⟩

/-- chunking of the fragment / export / id tables (entries of 16 / 8 / 4 bytes): exactly
    ⌊n·e / 8192⌋ full blocks and one block with the rest, so the index has ⌈n·e / 8192⌉ entries -/
theorem meta_chunks_ge (e n : Nat) (hd : e ∣ metaMax) :
    chunkGE e n 0 = List.replicate (n * e / metaMax) metaMax ++ (if n * e % metaMax > 0 then [n * e % metaMax] else []) := by
  simpa using chunkGE_exact e hd n 0 (by simp [metaMax]) (Nat.dvd_zero e)

/-- facts regenerated from finalize.go: Finalize calls its writers in the order of the
    model's regions (the xattr writer, not modelled, comes last); `NoPad`, `NoFragments` and
    `NonSparse` are not consulted by the layout code, which is why the region sequence does not
    depend on them; block and superblock sizes -/
theorem facts_agree_regions :
    Generated.Sqfs.finalize_writer_order = writerOrder ++ ["writeXattrs"] ∧
    "NoPad" ∉ Generated.Sqfs.finalize_options_consulted ∧ "NoFragments" ∉ Generated.Sqfs.finalize_options_consulted ∧
    "NonSparse" ∉ Generated.Sqfs.finalize_options_consulted ∧ "NonExportable" ∈ Generated.Sqfs.finalize_options_consulted ∧
    Generated.Sqfs.metadataBlockSize = metaMax ∧ Generated.Sqfs.superblockSize = sbSize := by decide

/-! non-vacuity / worked example: 2 data blocks, 1 fragment block, one block per table -/
private def ex1 : Pieces := { opt := 8, data := [4096, 100], frags := [50], inodes := [200], dirs := [60], fragTbl := [16],
                              exportTbl := some [40], idTbl := [4] }
example : (finalize ex1).inodeStart = 4350 ∧ (finalize ex1).dirStart = 4552 ∧ (finalize ex1).fragStart = 4632 ∧
    (finalize ex1).exportStart = 4682 ∧ (finalize ex1).idStart = 4696 ∧ (finalize ex1).bytesUsed = 4704 := by decide
example : (finalize { ex1 with exportTbl := none }).exportStart = absent64 ∧ (finalize { ex1 with exportTbl := none }).idStart = 4646 := by decide
example : (finalize ex1).writes = [(96, 8), (104, 4096), (4200, 100), (4300, 50), (4350, 202), (4552, 62), (4614, 18), (4632, 8),
    (4640, 42), (4682, 8), (4690, 6), (4696, 8), (0, 96)] := by decide
example : chunkGT [5000, 5000, 100] 0 = [8192, 1908] := by rfl
example : chunkGE 16 513 0 = [8192, 16] ∧ chunkGE 16 512 0 = [8192] ∧ chunkGE 4 0 0 = [] :=
  ⟨by rw [meta_chunks_ge 16 513 ⟨512, by rfl⟩]; rfl, by rw [meta_chunks_ge 16 512 ⟨512, by rfl⟩]; rfl, by rfl⟩

/-- inode codec round trip (header + the directory / regular file / symlink bodies Finalize writes:
    basic and extended directory without index entries, basic and extended file with their block
    lists, basic symlink): decoding at the front of any stream returns the inode and leaves exactly
    the bytes that follow it; the encoded length is the size `updateInodeLocations` adds up -/
theorem inode_roundtrip (bs : Nat) (i : Inode) (rest : Bytes) (h : i.WF bs) :
    decodeInode bs (encodeInode i ++ rest) = some (i, rest) ∧ (encodeInode i).length = i.size :=
  ⟨decode_encodeInode bs i rest h, encodeInode_length i⟩

/-- directory table codec round trip for a whole listing of any length: `directory.toBytes` starts
    a new 12-byte header whenever the inode block changes or the header already counts 256
    entries; `parseDirectory` returns the same entries in order, each with the inode block of its
    header and its inode number restored from the 16-bit difference -/
theorem dir_listing_roundtrip (base : Nat) (hb : base < 2 ^ 32) (es : List DEnt) (h : ∀ e ∈ es, e.WF base) :
    decodeDir (es.length + 1) (encodeListing base es) = some es :=
  by simpa [encodeListing] using decode_encodeDir_tail base hb [] (by decide) es.length es (es.length + 1) (Nat.le_refl _) (Nat.lt_succ_self _) h

/-- **the reader walks the tree** (uncompressed metadata): if every entry's inode stands in the
    inode stream at the place its (block, offset) reference names and every directory's listing
    stands in the directory stream at the place its inode names, then reading below a directory's
    inode returns exactly the depth-first list of (path, inode) of the tree — names, kinds, sizes,
    block lists, fragment references, symlink targets, modes, owners' indices and times included,
    since the whole decoded inode is returned.  How references map to stream positions is a
    parameter (`meta_ref_resolves` is the statement about that arithmetic). -/
theorem reader_walks_tree (env : WalkEnv) (t : STree) (hs : Shows env t) (fuel : Nat) (pre : List Bytes) (d : Nat)
    (hd : d < t.n) (hdir : t.isDir d = true) (hfit : t.Fits fuel d) :
    sqWalk env fuel pre (t.ino d) = some (t.walk fuel pre d) := by
  induction fuel generalizing pre d with
  | zero => exact hfit.elim
  | succ fuel ih =>
    obtain ⟨⟨sb, off, sz⟩, hl⟩ := Option.isSome_iff_exists.1 (hdir : (listingRef (t.ino d).body).isSome = true)
    obtain ⟨hbytes, hsz⟩ := hs.listing d hd sb off sz hl
    have hlen : ((t.kids d).map t.dent).length ≤ sz := by
      rw [hsz]; exact encodeDir_length_ge 0 _ _ (Nat.le_refl _)
    have hdecdir : decodeDir (sz + 1) ((env.D.drop (env.dpos sb off)).take sz) = some ((t.kids d).map t.dent) := by
      rw [hbytes]
      simpa [encodeListing] using decode_encodeDir_tail 0 (by decide) [] (by decide) _ _ (sz + 1) (Nat.le_refl _) (by omega)
        (map_dent_wf t hs.closed hs.entWF d hd)
    rw [sqWalk, hl]
    simp only [hdecdir]
    refine walk_kids (fun ks => walkEnts env (fun p i => sqWalk env fuel p i) pre (ks.map t.dent)) _ _ rfl ?_
    intro c hck ks r hr
    have hcn : c < t.n := hs.closed d hd c hck
    obtain ⟨rest, hI⟩ := hs.inode c hcn
    have hdec : decodeInode env.bs (env.I.drop (env.ipos (t.dent c).startBlock (t.dent c).offset)) = some (t.ino c, rest) :=
      hI ▸ decode_encodeInode env.bs (t.ino c) rest (hs.inodeWF c hcn)
    have hsub := walk_sub (listingRef (t.ino c).body).isSome (sqWalk env fuel (pre ++ [(t.dent c).name]) (t.ino c)) _
      fun hcd => ih (pre ++ [t.name c]) c hcn hcd (hfit c hck hcd)
    simp only [List.map_cons, walkEnts, hdec, hsub, hr]
    rfl

/-- facts regenerated from directory.go: a header counts at most 256 entries, is 12 bytes
    long, and the decoder refuses a stored name length above 256 -/
theorem facts_agree_codec :
    Generated.Sqfs.maxDirEntries = maxDirEntries ∧ Generated.Sqfs.dirHeaderSize = 12 ∧ Generated.Sqfs.dirNameMaxSize = 256 := by decide

/-! non-vacuity -/
private def exHdr : IHdr := { mode := 0o644, uid := 0, gid := 1, mtime := 1700000000, index := 2 }
private def exFile : Inode := ⟨exHdr, .basicFile 96 0 10 8200 [⟨4096, false⟩, ⟨1234, true⟩]⟩
example : exFile.WF 4096 := by decide
example : decodeInode 4096 (encodeInode exFile ++ [9, 9]) = some (exFile, [9, 9]) := by decide
example : (encodeInode ⟨exHdr, .basicSymlink 1 [46, 46, 47, 97]⟩).length = 28 := by decide
private def exEnts : List DEnt :=
  [⟨0, 2, 2, [97], 0⟩, ⟨40, 3, 1, [98, 98], 0⟩, ⟨8, 4, 3, [99], 8194⟩]
example : encodeListing 0 exEnts =
    [1, 0, 0, 0, 0, 0, 0, 0, 0, 0, 0, 0,  0, 0, 2, 0, 2, 0, 0, 0, 97,  40, 0, 3, 0, 1, 0, 1, 0, 98, 98,
     0, 0, 0, 0, 2, 32, 0, 0, 0, 0, 0, 0,  8, 0, 4, 0, 3, 0, 0, 0, 99] := by decide
example : decodeDir 4 (encodeListing 0 exEnts) = some exEnts := by decide

-- a root directory holding one empty file, both streams a few dozen bytes long
private def wRoot : Inode := ⟨{ mode := 0o755, uid := 0, gid := 0, mtime := 5, index := 1 }, .extDir 2 24 0 2 0 (2 ^ 32 - 1)⟩
private def wFile : Inode := ⟨{ mode := 0o644, uid := 0, gid := 0, mtime := 6, index := 2 }, .basicFile 96 noFrag 0 0 []⟩
private def wT : STree :=
  { n := 2, ino := fun c => if c = 0 then wRoot else wFile, name := fun c => if c = 0 then [47] else [97],
    kids := fun d => if d = 0 then [1] else [], refBlk := fun _ => 0, refOff := fun c => if c = 0 then 0 else 40 }
private def wEnv : WalkEnv :=
  { bs := 4096, I := encodeInode wRoot ++ encodeInode wFile, D := encodeListing 0 [wT.dent 1],
    ipos := fun _ off => off, dpos := fun _ off => off }
private theorem wShows : Shows wEnv wT := by
  have two : ∀ c, c < 2 → c = 0 ∨ c = 1 := by omega
  refine ⟨by decide, ?_, by decide, by decide, ?_⟩
  · intro c hc
    rcases two c hc with rfl | rfl
    · exact ⟨encodeInode wFile, by decide⟩
    · exact ⟨[], by decide⟩
  · intro d hd sb off sz hl
    rcases two d hd with rfl | rfl
    · simp [wT, wRoot, listingRef] at hl
      obtain ⟨rfl, rfl, rfl⟩ := hl
      exact ⟨by decide, by decide⟩
    · simp [wT, wFile, listingRef] at hl
example : sqWalk wEnv 1 [] wRoot = some [([[97]], wFile)] := by
  have := reader_walks_tree wEnv wT wShows 1 [] 0 (by decide) (by decide) (by
    intro c hc hd
    simp [wT] at hc; subst hc
    simp [STree.isDir, wT, wFile, listingRef] at hd)
  simpa [wT, STree.walk, STree.isDir, wFile, listingRef] using this

/-- one metadata block round-trips through `writeMetadataBlock` / `readMetaBlock` on the device:
    whatever the codec did (compressed and kept, or stored with the 0x8000 flag), reading at the
    block's location returns its contents and its stored length (header included) -/
theorem metadata_block_roundtrip (c : Codec) (noComp : Bool) (img : Dev) (loc : Nat) (blk : Bytes) (hb : BlockOK blk)
    (h : HoldsAt img loc (encodeMetaBlock c noComp blk)) :
    readMetaBlock c img loc = (blk, (encodeMetaBlock c noComp blk).length) :=
  readMetaBlock_written c noComp img loc blk hb h

/-- **readMetadata over a table laid down by `metaTable` returns the stream** (blocks of 1..8192
    bytes before compression, any codec, compressed or not): called with the byte offset of block
    `k` (the value `writeInodes` records in `blockOffsets`) and an offset inside it, it returns a
    prefix, at least `size` bytes long, of the uncompressed stream from (k, off) on — across as
    many blocks as it takes. -/
theorem metadata_stream_reads_back (c : Codec) (noComp : Bool) (img : Dev) (tbl : Nat) (blocks : List Bytes)
    (hok : ∀ x ∈ blocks, BlockOK x) (hT : HoldsAt img tbl (metaTable c noComp blocks)) (k off : Nat) (hk : k < blocks.length)
    (ho : off ≤ (blocks.getD k []).length) (size : Nat) (hs : size ≤ ((blocks.drop k).flatten.drop off).length) :
    (∃ n, size ≤ n ∧ n ≤ ((blocks.drop k).flatten.drop off).length ∧
      readMetadata c img tbl (metaOff c noComp blocks k) off size = some (((blocks.drop k).flatten.drop off).take n)) ∧
    (blockOffsets (blocks.map fun b => (storeBlock c noComp b).payload.length) 0).getD k 0 = metaOff c noComp blocks k :=
  ⟨readsFrom_of_table c noComp img tbl blocks hok hT k off hk ho size hs, by simpa using metaOff_blockOffsets c noComp blocks 0 k hk⟩

/-- **getInode finds the inode**, whatever basic or extended type (1..14) the caller announces: the
    read / re-read with the header's type / re-read with the body's `extra` sequence ends with the
    inode that is encoded at the reference -/
theorem get_inode_finds_inode (c : Codec) (img : Dev) (tbl bs blockOff byteOff typ : Nat) (i : Inode) (rest : Bytes)
    (hwf : i.WF bs) (htyp : 16 ≤ typeSize typ) (hts : typeSize typ ≤ (encodeInode i ++ rest).length)
    (hask : i.ask ≤ (encodeInode i ++ rest).length)
    (RM : ReadsFrom c img tbl blockOff byteOff (encodeInode i ++ rest)) :
    getInodeM c img tbl bs blockOff byteOff typ = some i :=
  getInodeM_spec c img tbl bs blockOff byteOff typ i rest hwf htyp hts hask RM

/-- `getDirectory` returns the listing that is encoded at the reference, when asked — as
    `getDirectoryEntries` does — for the inode's file_size, 3 bytes more than the listing is long:
    the 3 bytes that follow are read and ignored by `parseDirectory` -/
theorem get_directory_finds_listing (c : Codec) (img : Dev) (tbl blockOff byteOff : Nat) (es : List DEnt) (rest : Bytes)
    (hwf : ∀ e ∈ es, e.WF 0) (hrest : 3 ≤ rest.length) (RM : ReadsFrom c img tbl blockOff byteOff (encodeListing 0 es ++ rest)) :
    getDirM c img tbl blockOff byteOff ((encodeListing 0 es).length + 3) = some es := by
  obtain ⟨n, h1, h2, h3⟩ := RM ((encodeListing 0 es).length + 3) (by simp only [List.length_append]; omega)
  unfold getDirM
  simp only [h3]
  rw [List.take_take, Nat.min_eq_left h1, List.take_append, List.take_of_length_le (by omega)]
  have hlen : es.length ≤ (encodeListing 0 es).length := encodeDir_length_ge 0 _ _ (Nat.le_refl _)
  exact decode_encodeDir_tail 0 (by decide) _ (by rw [List.length_take]; omega) _ _ _ (Nat.le_refl _) (by omega) hwf

/-- **the reader walks the image**: if the image shows the tree to `readMetadata` (`ImgShows`), then
    the walk `ReadDir` / `hydrateDirectoryEntries` / `ReadFile` perform below a directory inode
    returns exactly the depth-first list of the tree: path, decoded inode, owner ids, file bytes —
    for every codec, compressed or uncompressed metadata, every nesting depth -/
theorem image_walk_returns_tree (c : Codec) (img : Dev) (o : Opened) (t : STree) (a : Nat → Attr) (hs : ImgShows c img o t a)
    (fuel : Nat) (pre : List Bytes) (d : Nat) (hd : d < t.n) (hdir : t.isDir d = true) (hfit : t.Fits fuel d) :
    imgWalk c img o fuel pre (t.ino d) = some (t.walkS a fuel pre d) := by
  induction fuel generalizing pre d with
  | zero => exact hfit.elim
  | succ fuel ih =>
    obtain ⟨⟨sb, off, sz⟩, hl⟩ := Option.isSome_iff_exists.1 (dirAsk_isSome _ ▸ hdir : (dirAsk (t.ino d).body).isSome = true)
    obtain ⟨rest, hRM, hsz, hr3⟩ := hs.listing d hd sb off sz hl
    have hdir2 := get_directory_finds_listing c img o.dirStart sb off _ rest (map_dent_wf t hs.closed (fun k hk => (hs.entWF k hk).1) d hd) hr3 hRM
    rw [← hsz] at hdir2
    rw [imgWalk, hl]
    simp only [hdir2]
    refine walk_kids (fun ks => imgEnts c img o (fun p i => imgWalk c img o fuel p i) pre (ks.map t.dent)) _ _ rfl ?_
    intro k hck ks r hr
    have hcn : k < t.n := hs.closed d hd k hck
    obtain ⟨rest, hRM, hask, hts⟩ := hs.inode k hcn
    have hget : getInodeM c img o.inodeStart o.bs (t.dent k).startBlock (t.dent k).offset (t.dent k).typ = some (t.ino k) :=
      getInodeM_spec c img _ _ _ _ _ (t.ino k) rest (hs.inodeWF k hcn) (hs.entWF k hcn).2 hts hask hRM
    have hhyd : hydrate c img o (pre ++ [(t.dent k).name]) (t.ino k) = some (t.sent a pre k) := by
      simp [hydrate, (hs.owner k hcn).1, (hs.owner k hcn).2, hs.content k hcn, STree.sent, STree.dent]
    have hsub := walk_sub (listingRef (t.ino k).body).isSome (imgWalk c img o fuel (pre ++ [(t.dent k).name]) (t.ino k)) _
      fun hcd => ih (pre ++ [t.name k]) k hcn hcd (hfit k hck hcd)
    simp only [List.map_cons, imgEnts, hget, hhyd, hsub, hr]
    rfl

/-- the fragment table reads back: metadata blocks of 16-byte entries at `loc`, the index of
    8-byte pointers at `fragStart` — `readFragmentTable` with the superblock's count returns
    exactly the entries (any number of them, any codec) -/
theorem fragment_table_roundtrip (c : Codec) (noComp : Bool) (img : Dev) (loc fragStart : Nat) (ents : List FragEnt)
    (hwf : ∀ e ∈ ents, e.WF) (hT : HoldsAt img loc (metaTable c noComp (metaChunks (fragStream ents))))
    (hI : HoldsAt img fragStart (lookupIndex c noComp loc (metaChunks (fragStream ents))))
    (h64 : loc + (metaTable c noComp (metaChunks (fragStream ents))).length < 2 ^ 64) :
    readFragTable c img fragStart ents.length = some ents :=
  readFragTable_written c noComp img loc fragStart ents hwf hT hI h64

/-- the id table reads back, for any number of ids (`readUidsGids` counts the metadata blocks in
    int since fix 0ff62c2; the uint16 arithmetic it replaced gave 1 block for 16385 ids, nine are
    needed and nine are read) -/
theorem id_table_roundtrip (c : Codec) (noComp : Bool) (img : Dev) (loc idStart : Nat) (ids : List Nat)
    (hwf : ∀ x ∈ ids, x < 2 ^ 32)
    (hT : HoldsAt img loc (metaTable c noComp (metaChunks (idStream ids))))
    (hI : HoldsAt img idStart (lookupIndex c noComp loc (metaChunks (idStream ids))))
    (h64 : loc + (metaTable c noComp (metaChunks (idStream ids))).length < 2 ^ 64) :
    readIdTable c img idStart ids.length = ids ∧
    (idBlocks 16385 = 9 ∧ ((16385 * 4) % 65536 + 65535) % 65536 / 8192 + 1 = 1) :=
  ⟨readIdTable_written c noComp img loc idStart ids hwf hT hI h64, by decide⟩

/-- **block counts of the two-level lookup tables.**  For every number of entries: the number of
    index pointers `readFragmentTable` takes (count/512, one more if count%512 > 0) is exactly the
    number of metadata blocks `writeFragmentTable` cut, ⌈16·n / 8192⌉ — so an exact multiple of 512
    fragments has n/512 blocks, not one more; for n ≥ 1 ids the count `readUidsGids` computes is the
    number of blocks `writeIDTable` cut, ⌈4·n / 8192⌉ (before fix 0ff62c2 it was not from 16385 ids
    on: the repaired finding sqfs-idtable-uint16-blockcount) -/
theorem lookup_table_block_counts :
    (∀ ents : List FragEnt,
      ents.length / 512 + (if ents.length % 512 > 0 then 1 else 0) = (metaChunks (fragStream ents)).length ∧
      (metaChunks (fragStream ents)).length = (16 * ents.length + 8191) / 8192) ∧
    (∀ ids : List Nat, 0 < ids.length →
      idBlocks ids.length = (metaChunks (idStream ids)).length ∧
      (metaChunks (idStream ids)).length = (4 * ids.length + 8191) / 8192) ∧
    (∀ k, 512 * k / 512 + (if 512 * k % 512 > 0 then 1 else 0) = k) :=
  ⟨frag_block_count, id_block_count, fun k => by
    have h1 : 512 * k % 512 = 0 := Nat.mul_mod_right 512 k
    have h2 : 512 * k / 512 = k := Nat.mul_div_cancel_left k (by decide)
    rw [h1, h2]; rfl⟩

/-! non-vacuity: a device holding one compressed and one uncompressed metadata block (codec `rle`
    shrinks [5,5,5,5]) -/
private def exBlocks : List Bytes := [[5, 5, 5, 5], [1, 2, 3]]
private def exDev : Dev := fun i => ([9, 9] ++ metaTable rle false exBlocks).getD i 0
example : metaTable rle false exBlocks = [1, 0, 1, 3, 128, 1, 2, 3] := by decide
example : HoldsAt exDev 2 (metaTable rle false exBlocks) := holdsAt_getD [9, 9] _
example : ∀ x ∈ exBlocks, BlockOK x := by simp [exBlocks, BlockOK, metaBlock]
example : readMetadata rle exDev 2 0 1 5 = some [5, 5, 5, 1, 2, 3] := by decide
example : readMetadata rle exDev 2 (metaOff rle false exBlocks 1) 1 2 = some [2, 3] := by decide
private def exFrags : List FragEnt := [⟨96, 100, true⟩, ⟨196, 4096, false⟩]
private def exDev2 : Dev := fun i =>
  (metaTable mark true (metaChunks (fragStream exFrags)) ++ lookupIndex mark true 0 (metaChunks (fragStream exFrags))).getD i 0
example : readFragTable mark exDev2 34 2 = some exFrags := by decide

-- `ImgShows` is satisfiable: the two-entry tree `wT` (a root holding one empty file) on a device that
-- holds one inode-table block and one directory-table block
private def iI : Bytes := encodeInode wRoot ++ encodeInode wFile
private def iD : Bytes := encodeListing 0 [wT.dent 1]
private def iNext : Bytes := [7, 7, 7, 7]
private def iDev : Dev := fun i => (metaTable mark false [iI, iD, iNext]).getD i 0
private def iO : Opened := { bs := 4096, inodeStart := 0, dirStart := 74, frags := [], ids := [1000] }
private def iA : Nat → Attr := fun _ => ⟨1000, 1000, []⟩
private theorem iShows : ImgShows mark iDev iO wT iA := by
  have two : ∀ c, c < 2 → c = 0 ∨ c = 1 := by omega
  have hok : ∀ x ∈ [iI, iD, iNext], BlockOK x := by simp only [BlockOK]; decide
  have hT : HoldsAt iDev 0 (metaTable mark false [iI, iD, iNext]) := holdsAt_getD [] _
  have hTD : HoldsAt iDev 74 (metaTable mark false [iD, iNext]) := holdsAt_table_drop mark false iDev 0 [iI, iD, iNext] 1 hT
  have r0 := readsFrom_of_table mark false iDev 0 [iI, iD, iNext] hok hT 0 0 (by decide) (by decide)
  have r1 := readsFrom_of_table mark false iDev 0 [iI, iD, iNext] hok hT 0 40 (by decide) (by decide)
  have rD := readsFrom_of_table mark false iDev 74 [iD, iNext] (fun x hx => hok x (by simp at hx ⊢; exact Or.inr hx)) hTD 0 0 (by decide) (by decide)
  refine ⟨wShows.closed, ?_, wShows.inodeWF, by decide, ?_, by decide, by decide⟩
  · intro k hk
    rcases two k hk with rfl | rfl
    · exact ⟨encodeInode wFile ++ (iD ++ iNext), by simpa [iO, wT, iI, metaOff, metaTable] using r0, by decide, by decide⟩
    · refine ⟨iD ++ iNext, ?_, by decide, by decide⟩
      have e : ([iI, iD, iNext].drop 0).flatten.drop 40 = encodeInode (wT.ino 1) ++ (iD ++ iNext) := by decide
      rw [e] at r1
      simpa [iO, wT, metaOff, metaTable] using r1
  · intro d hd sb off sz hl
    rcases two d hd with rfl | rfl
    · simp [wT, wRoot, dirAsk] at hl
      obtain ⟨rfl, rfl, rfl⟩ := hl
      refine ⟨iNext, ?_, by decide, by decide⟩
      have e : ([iD, iNext].drop 0).flatten.drop 0 = encodeListing 0 ((wT.kids 0).map wT.dent) ++ iNext := by decide
      rw [e] at rD
      simpa [iO, metaOff, metaTable] using rD
    · simp [wT, wFile, dirAsk] at hl
example : imgWalk mark iDev iO 1 [] wRoot = some [⟨[[97]], wFile, 1000, 1000, []⟩] := by
  have := image_walk_returns_tree mark iDev iO wT iA iShows 1 [] 0 (by decide) (by decide) (by
    intro c hc hd
    simp [wT] at hc; subst hc
    simp [STree.isDir, wT, wFile, listingRef] at hd)
  simpa [wT, STree.walkS, STree.sent, STree.isDir, wFile, listingRef, iA] using this

/-- **the writers' chunking, on the bytes**: `writeInodes` / `writeDirectories` (append an item, cut
    8 KiB whenever the buffer EXCEEDS 8 KiB, write what is left) cut exactly the 8 KiB chunks of the
    concatenated stream, provided no item is longer than 8 KiB -/
theorem writer_cuts_stream_chunks (items : List Bytes) (h : ∀ x ∈ items, x.length ≤ metaBlock) :
    cutGT items [] = metaChunks items.flatten := by
  simpa using cutGT_chunks items [] (by simp) h

/-- **references into a written table resolve on the device**: the device shows the encoded 8 KiB
    chunks of a stream `S` at `tbl`, followed by the blocks `X` of the next table.  For every
    position `pos` of `S`, the reference Finalize hands out for it — `translateInodeLocations` of the
    logical block `pos / 8192` over the block offsets `writeInodes` recorded, and `pos % 8192` —
    makes `readMetadata` answer from `S` at `pos` and on into `X`: any codec, compressed or not -/
theorem written_reference_resolves (c : Codec) (nc : Bool) (img : Dev) (tbl : Nat) (S : Bytes) (X : List Bytes)
    (hX : ∀ x ∈ X, BlockOK x) (hT : HoldsAt img tbl (metaTable c nc (metaChunks S ++ X))) (pos : Nat) (hpos : pos < S.length) :
    ReadsFrom c img tbl
      (translate (blockOffsets ((metaChunks S).map fun b => (storeBlock c nc b).payload.length) 0) (pos / metaBlock))
      (pos % metaBlock) (S.drop pos ++ X.flatten) := by
  have hk := div_lt_chunks S pos hpos
  rw [translate_metaOff c nc _ _ hk]
  exact readsFrom_stream c nc img tbl S X hX hT pos (Nat.le_of_lt hpos) hk

/-- **file contents read back**: the full blocks `copyFileData` stored stand at the inode's
    `blocksStart`, and the fragment reference leads through the fragment table to a stored block
    that holds the tail (`FragOK`); then `ReadFile` over the inode `createInodes` builds for the
    entry (basic or extended) returns exactly the contents -/
theorem file_contents_read_back (c : Codec) (o : WOpt) (hbs : 0 < o.bs) (img : Dev) (frags : List FragEnt) (e : FEnt) (hk : e.kind = 0)
    (dloc : Nat) (fr : Option (Nat × Nat)) (dir : Nat × Nat × Nat)
    (hD : HoldsAt img dloc (storedBytes (fileStored c o e)))
    (hF : FragOK c o.noCompFrag img frags (tailOf o e) fr) :
    fileBytes c img o.bs frags (mkBody c o e dloc fr dir) = some e.data :=
  fileBytes_written c o hbs img frags e hk dloc fr dir hD hF

/-! non-vacuity -/
example : cutGT [[1, 2], [3]] [] = [[1, 2, 3]] := by decide
private def exOpt : WOpt := { bs := 4, noCompData := false, noCompFrag := false, optBytes := [], exportable := true, modTime := 0,
                              compression := 1, flags := 0 }
private def exEnt : FEnt := { name := [97], kind := 0, mode := 0o644, uid := 0, gid := 0, mtime := 0, links := 1, data := [5, 5, 5, 5, 7, 8], kids := [] }
-- the file's one full block (compressed by `rle` to one byte) at byte 0, its tail inside an uncompressed fragment block at byte 1
private def exDev3 : Dev := fun i => ([1, 9, 7, 8, 9] : Bytes).getD i 0
example : fileStored rle exOpt exEnt = [⟨true, [1]⟩] ∧ tailOf exOpt exEnt = [7, 8] := by decide
example : HoldsAt exDev3 0 (storedBytes (fileStored rle exOpt exEnt)) := by unfold HoldsAt; decide
example : FragOK rle false exDev3 [⟨1, 4, false⟩] (tailOf exOpt exEnt) (some (0, 1)) :=
  Or.inr ⟨by decide, ⟨1, 4, false⟩, [9, 7, 8, 9], by decide, by decide, by decide⟩
example : fileBytes rle exDev3 4 [⟨1, 4, false⟩] (mkBody rle exOpt exEnt 0 (some (0, 1)) (0, 0, 0)) = some [5, 5, 5, 5, 7, 8] := by decide

/-- **writer ∘ reader = id on the bytes of the image.**  `bImage c o fl fuel` is the image the model
    of `Finalize` (Model/Sqfs/ImageWr.lean: data blocks, packed fragment blocks, inodes with their
    references, directory listings, the five metadata tables with their indexes, the superblock —
    byte-identical to what the real Finalize writes in the correspondence) lays out for the file
    list `fl` that `walkTree` returns.  On ANY device that shows these bytes, for every codec
    obeying the two laws, every block size, compressed or uncompressed data / fragments / metadata,
    exportable or not: the model of `Read` + the walk of ReadDir / ReadFile (`readImageS`,
    Model/Sqfs/ImageRd.lean) returns the superblock that was written and exactly the depth-first
    walk of the file list: every path, every decoded inode, the owner ids and, for regular files,
    the contents.  `Limits` are the stated limits: every inode at most 8 KiB, the whole directory
    table inside one metadata block and not empty (listings beyond the first block are the
    recorded finding sqfs-dir-startblock-index), at most 65535 owner ids, kinds file / directory /
    symlink, every directory reachable from the root, and the numeric field bounds (`WF`) of the
    built inodes, entries, fragment entries and superblock. -/
theorem writer_reader_roundtrip (c : Codec) (o : WOpt) (fl : List FEnt) (fuel : Nat) (L : Limits c o fl fuel)
    (hroot : (fl.getD 0 FEnt.nil).kind = 1) (img : Dev) (h : HoldsAt img 0 (bImage c o fl fuel)) (f : Nat)
    (hfit : (bTree c o fl fuel).Fits f 0) :
    readImageS c img f = some (bSB c o fl fuel, expectWalk fl (bInodes c o fl fuel) f [] 0) := by
  have D := onDev_of_image img h
  have hdir0 : (bTree c o fl fuel).isDir 0 = true := by rw [bTree_isDir L 0 L.n0, hroot]; rfl
  rw [readImageS, openImage_written L hroot img D]
  show (imgWalk c img (bOpened c o fl fuel) f [] ((bTree c o fl fuel).ino 0)).map _ = _
  rw [image_walk_returns_tree c img _ _ (bAttr fl) (img_shows L img D) f [] 0 L.n0 hdir0 hfit, bTree_walkS L f [] 0 L.n0]
  rfl

/-! non-vacuity: root { a (6 bytes: one block that `rle` compresses + a 2-byte tail), d { b (3 bytes) }, l -> a }, block size 4 -/
private def rtFl : List FEnt :=
  [ { name := [46], kind := 1, mode := 0o755, uid := 0, gid := 0, mtime := 1, links := 3, data := [], kids := [1, 2, 4] },
    { name := [97], kind := 0, mode := 0o644, uid := 1000, gid := 100, mtime := 2, links := 1, data := [5, 5, 5, 5, 7, 8], kids := [] },
    { name := [100], kind := 1, mode := 0o755, uid := 0, gid := 0, mtime := 3, links := 2, data := [], kids := [3] },
    { name := [98], kind := 0, mode := 0o600, uid := 1000, gid := 0, mtime := 4, links := 1, data := [1, 2, 3], kids := [] },
    { name := [108], kind := 2, mode := 0o777, uid := 0, gid := 0, mtime := 5, links := 1, data := [97], kids := [] } ]
private def rtDev : Dev := fun i => (bImage rle exOpt rtFl 2).getD i 0
-- the image is evaluated by the kernel alone: the elaborator's evaluator runs out of recursion depth on it
private theorem rtLimits : Limits rle exOpt rtFl 2 := limits_of_check rle exOpt rtFl 2 (by decide +kernel)
set_option maxRecDepth 20000 in
example : (bImage rle exOpt rtFl 2).length = 501 := by decide +kernel
set_option maxRecDepth 20000 in
example : readImageS rle rtDev 2 = some (bSB rle exOpt rtFl 2, expectWalk rtFl (bInodes rle exOpt rtFl 2) 2 [] 0) :=
  writer_reader_roundtrip rle exOpt rtFl 2 rtLimits (by decide) rtDev (holdsAt_getD [] _) 2
    (fits_of_check rle exOpt rtFl 2 rtLimits 2 0 (by decide) (by decide))
example : (expectWalk rtFl (bInodes rle exOpt rtFl 2) 2 [] 0).map (fun e => (e.path, e.uid, e.data)) =
    [([[97]], 1000, [5, 5, 5, 5, 7, 8]), ([[100]], 0, []), ([[100], [98]], 1000, [1, 2, 3]), ([[108]], 0, [])] := by decide

/-- **the two writer models agree**: the region mirror of Finalize (`finalize`, the subject of
    sizes_describe_bytes and of C03's sqfs_finalize_in_range), run on the sizes of the pieces the
    byte-level writer model produces, computes exactly the table starts and bytes_used that the
    byte-level model puts into the superblock — for every file list, codec and option set — and
    bytes_used is the length of the image -/
theorem writer_image_is_region_image (c : Codec) (o : WOpt) (fl : List FEnt) (fuel : Nat) :
    (finalize (bPieces c o fl fuel)).inodeStart = (bSB c o fl fuel).inodeStart ∧
    (finalize (bPieces c o fl fuel)).dirStart = (bSB c o fl fuel).dirStart ∧
    (finalize (bPieces c o fl fuel)).fragStart = (bSB c o fl fuel).fragStart ∧
    (finalize (bPieces c o fl fuel)).exportStart = (bSB c o fl fuel).exportStart ∧
    (finalize (bPieces c o fl fuel)).idStart = (bSB c o fl fuel).idStart ∧
    (finalize (bPieces c o fl fuel)).bytesUsed = (bSB c o fl fuel).bytesUsed ∧
    (bSB c o fl fuel).bytesUsed = (bImage c o fl fuel).length := by
  -- not exportable: no export blocks
  have e0 : (metaLens (storedLens c o [])).sum = 0 := rfl
  -- `finalize` gives each start from the one before it; the byte-level starts are defined that way; once the
  -- length of every piece is written as the sum of its stored sizes the two sides are the same sums
  rw [finalize_bytesUsed_eq, finalize_idStart, finalize_exportStart, finalize_fragStart, finalize_dirStart, finalize_inodeStart]
  cases h : o.exportable <;>
    simp only [bPieces, bSB, h, bImage, bTables, bIdidx, bIdStart, bIdLoc, bIdtab, bEidx, bEtab, bEblocks, bELoc, bFidx, bFragIdx, bFLoc, bFtab,
      bDtab, bDirStart, bItab, bInodeStart, bFragStart0, bDataStart, sbSize, List.length_append, encodeSB_length, metaTable_length,
      lookupIndex_length, storedLens_length, bData_length, storedBytes_length, Option.elim, if_true, if_false, Bool.false_eq_true, e0,
      List.length_nil, Nat.mul_zero, Nat.add_zero, Nat.zero_add, Nat.add_assoc, and_self]

end Diskfs.Sqfs.C07
