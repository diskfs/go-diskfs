/-
  C04 — ext4 behaves like a plain tree of files, directories and symlinks: the property theorems of the logic cores
  that carry it (helper lemmas in Proofs/Ext4*.lean) - util/bitmap, File.Read / File.Write over the flat extent list,
  allocateExtents, Directory.toBytes / parseDirEntriesLinear and Remove's directory write-back, the extent tree
  (extendExtentTree, the node codec, the invariant along histories of calls) and the path walk.  Each section names the
  model file it is about; the `cex_` theorems are the findings, as concrete inputs on which the code as found fails.

  PARTIAL (stated in the manifest): only these cores are mirrored. The extent-tree mirror abstracts the device as
  nesting; the path walk is mirrored on the list of components, without creation along the walk; inode encoding and the
  htree directory format are not mirrored; the end-to-end clause of the property is checked by the engine's
  reference-tree oracle on sampled histories only.
-/
import DiskfsModel.Proofs.Ext4Bitmap
import DiskfsModel.Proofs.Ext4FileIO
import DiskfsModel.Proofs.Ext4FileWrite
import DiskfsModel.Proofs.Ext4FileSparse
import DiskfsModel.Proofs.Ext4DirPack
import DiskfsModel.Proofs.Ext4DirRewrite
import DiskfsModel.Proofs.Ext4DirCsum
import DiskfsModel.Proofs.Ext4Alloc
import DiskfsModel.Proofs.Ext4AllocSlow
import DiskfsModel.Proofs.Ext4ExtTree
import DiskfsModel.Proofs.Ext4ExtCodec
import DiskfsModel.Proofs.Ext4ExtInv
import DiskfsModel.Proofs.Ext4ExtInvDec
import DiskfsModel.Proofs.Ext4ExtAlloc
import DiskfsModel.Proofs.Ext4PathWalk
namespace Diskfs.Ext4.C04
open Diskfs.Ext4

/-! ### util/bitmap (Model/Ext4/Bitmap.lean) -/

/-- Set / Clear of a bit inside the bitmap: the length stays, bit `i` is set / clear, every other bit is as before -/
theorem bitmap_set_get (bm : Bytes) (i : Nat) (h : i < 8 * bm.length) :
    ∃ bm', Bitmap.set bm i = .ok bm' ∧ bm'.length = bm.length ∧ Bitmap.bit bm' i = true ∧
      ∀ j, j ≠ i → Bitmap.bit bm' j = Bitmap.bit bm j :=
  Bitmap.bitmap_set_get bm i h

theorem bitmap_clear_get (bm : Bytes) (i : Nat) (h : i < 8 * bm.length) :
    ∃ bm', Bitmap.clear bm i = .ok bm' ∧ bm'.length = bm.length ∧ Bitmap.bit bm' i = false ∧
      ∀ j, j ≠ i → Bitmap.bit bm' j = Bitmap.bit bm j :=
  Bitmap.bitmap_clear_get bm i h

theorem bitmap_isSet_spec (bm : Bytes) (i : Nat) (h : i < 8 * bm.length) :
    Bitmap.isSet bm i = .ok (Bitmap.bit bm i) := by
  have hm : i / 8 < bm.length := by omega
  have h1 : ¬ (i / 8 > bm.length) := by omega
  have h0 : ¬ ((i : Int) < 0) := by omega
  simp only [Bitmap.isSet, h0, if_false, Int.toNat_natCast, h1, List.getElem?_eq_getElem hm]
  rw [Bitmap.testSet_eq _ _ (Nat.mod_lt i (by decide))]
  simp [Bitmap.bit, List.getD_eq_getElem?_getD, List.getElem?_eq_getElem hm]

/-- FirstFree: the least clear bit at or after `start`, or -1 when there is none -/
theorem bitmap_firstFree_spec (bm : Bytes) (start : Nat) :
    (Bitmap.firstFree bm start = -1 ∧ ∀ i, start ≤ i → i < 8 * bm.length → Bitmap.bit bm i = true) ∨
    (∃ n : Nat, Bitmap.firstFree bm start = n ∧ start ≤ n ∧ n < 8 * bm.length ∧ Bitmap.bit bm n = false ∧
      ∀ i, start ≤ i → i < n → Bitmap.bit bm i = true) :=
  Bitmap.firstFree_spec bm start

/-- FreeList: every run is clear and inside the bitmap, every clear bit lies in exactly one run, runs are
    sorted, separated and maximal — the runs partition the clear bits. -/
theorem bitmap_freeList_spec (bm : Bytes) :
    (∀ r ∈ Bitmap.freeList bm, 0 < r.2 ∧ r.1 + r.2 ≤ 8 * bm.length ∧
        ∀ i, r.1 ≤ i → i < r.1 + r.2 → Bitmap.bit bm i = false) ∧
    (∀ i, i < 8 * bm.length → Bitmap.bit bm i = false → ∃ r ∈ Bitmap.freeList bm, r.1 ≤ i ∧ i < r.1 + r.2) ∧
    (∀ i, ∀ r1 ∈ Bitmap.freeList bm, ∀ r2 ∈ Bitmap.freeList bm,
        r1.1 ≤ i → i < r1.1 + r1.2 → r2.1 ≤ i → i < r2.1 + r2.2 → r1 = r2) ∧
    (Bitmap.freeList bm).Pairwise (fun a b => a.1 + a.2 < b.1) ∧
    (∀ r ∈ Bitmap.freeList bm, (0 < r.1 → Bitmap.bit bm (r.1 - 1) = true) ∧
        (r.1 + r.2 < 8 * bm.length → Bitmap.bit bm (r.1 + r.2) = true)) :=
  Bitmap.freeList_spec bm

/-- the free counter an allocator derives from FreeList equals the number of clear bits -/
theorem bitmap_freeList_sum (bm : Bytes) :
    ((Bitmap.freeList bm).map (·.2)).sum = Bitmap.countFree bm (8 * bm.length) := by
  rw [Bitmap.freeList_eq_scan, Bitmap.flFlush_sum, Bitmap.total_scan]
  exact fun h => ((Bitmap.inv_scan _ _).cur_none h).1

/-! ### File.Read over the flat extent list (Model/Ext4/FileIO.lean) -/

/-- readE_sparse_spec: File.Read over an extent list WITH holes (fix ea015d2; images made by other tools have
    them): for every device content, block size, sorted extent list, file size, offset and length the bytes
    returned are the window of the denoted byte string — the extents' blocks, ZEROS for every hole between
    extents and behind the last extent up to the file size — the offset advances by it, EOF is reported exactly
    at the end, and there is no panic. `readE_spec` is the special case of a list without holes. -/
theorem readE_sparse_spec (dev : Dev) (bs : Nat) (es : List Extent) (size off n : Nat)
    (hbs : 0 < bs) (hs : Sorted 0 es) :
    ∃ r, readE false dev bs es size off n = .ok r ∧
      r.data = win (fileBytesS dev bs 0 es) off (min n (size - off)) ∧
      r.off = off + r.data.length ∧
      (r.eof = true ↔ size ≤ off + r.data.length) := by
  unfold readE
  by_cases hge : off ≥ size
  · have : min n (size - off) = 0 := by omega
    simp only [hge, if_true]
    exact ⟨_, rfl, by rw [this, win_zero], by simp, by simp; omega⟩
  · have hwant : (if off + n > size then size - off else n) = min n (size - off) := by split <;> omega
    simp only [hge, if_false, hwant]
    obtain ⟨r, hr, hdata, hroff⟩ := readLoop_sparse dev bs (off / bs) (min n (size - off)) hbs
      (fun j => (fileBytesS dev bs 0 es).getD j 0) es 0 off (min n (size - off)) [] [] hs (by simp) (by simp)
      (fun _ _ => Nat.le_div_iff_mul_le hbs) (by simp)
    -- `win F` is by definition `readAt` on `F` as a byte oracle
    have hlen : r.data.length = min n (size - off) := by rw [hdata]; simp
    exact ⟨_, by rw [hr], hdata.trans (List.nil_append _), by simp only [hroff, hlen], by simp only [hroff, hlen]; simp⟩

/-- readE_spec: with the repaired skip test, Read returns exactly the requested window of the byte string
    the extent list denotes (clipped to the file size), advances the offset by that much and reports EOF
    exactly at the end — for every device content, block size, contiguous extent list, size, offset, length. -/
theorem readE_spec (dev : Dev) (bs : Nat) (es : List Extent) (size off n : Nat)
    (hbs : 0 < bs) (hc : ExtentsCover bs es size) :
    ∃ r, readE false dev bs es size off n = .ok r ∧
      r.data = ((((fileBytes dev bs es).take size).drop off).take n) ∧
      r.off = off + r.data.length ∧
      (r.eof = true ↔ size ≤ off + r.data.length) := by
  obtain ⟨r, hr, hd, ho, he⟩ := readE_sparse_spec dev bs es size off n hbs (contig_sorted es 0 hc.1)
  refine ⟨r, hr, ?_, ho, he⟩
  have hlen := fileBytes_length dev bs es
  have hsize := hc.2
  rw [hd, fileBytesS_contig dev bs es 0 hc.1, win_eq_drop_take _ _ _ (by omega), List.drop_take, List.take_take]

/-- readE_no_panic: reading a file whose extent list the library itself built never panics -/
theorem readE_no_panic (dev : Dev) (bs : Nat) (es : List Extent) (size off n : Nat)
    (hbs : 0 < bs) (hc : ExtentsCover bs es size) :
    readE false dev bs es size off n ≠ .panic := by
  obtain ⟨r, hr, _⟩ := readE_spec dev bs es size off n hbs hc
  rw [hr]; exact fun h => by cases h

/-- the code as found: a 3000-byte file in two extents (blocks 0–1 and block 2), Read at offset 2500 panics -/
theorem cex_ext4_extent_skip_read :
    ExtentsCover 1024 [⟨0, 10, 2⟩, ⟨2, 20, 1⟩] 3000 ∧
    readE true (fun _ => 0) 1024 [⟨0, 10, 2⟩, ⟨2, 20, 1⟩] 3000 2500 10 = .panic ∧
    skipTrigger [⟨0, 10, 2⟩, ⟨2, 20, 1⟩] 1024 2500 = true := by
  refine ⟨⟨⟨rfl, by decide, rfl, by decide, trivial⟩, by decide⟩, by decide, by decide⟩

/-- the skip test as found: a 3-byte write at offset 2600 of that file (inside block 2, the block after the first extent
    ends) panics in Write; with the repaired test it goes to the second extent -/
theorem cex_ext4_extent_skip_write :
    writeE true false 1024 [⟨0, 10, 2⟩, ⟨2, 20, 1⟩] 3000 2600 [1, 2, 3] = .panic ∧
    writeE false false 1024 [⟨0, 10, 2⟩, ⟨2, 20, 1⟩] 3000 2600 [1, 2, 3] =
      .ok ⟨[(20 * 1024 + 552, [1, 2, 3])], 3, 2603, 3000⟩ := by
  refine ⟨by decide, by decide⟩

/-! ### File.Write over the flat extent list (Model/Ext4/FileIO.lean) -/

/-- File.Write asks for more blocks exactly when the size after the write does not fit into the blocks the
    extent list already has (then the allocator, not this core, decides) -/
theorem writeE_needAlloc_iff (lt cum : Bool) (bs : Nat) (es : List Extent) (size off : Nat) (b : Bytes) (hbs : 0 < bs) :
    writeE lt cum bs es size off b = .needAlloc ↔ blockCount es * bs < max size (off + b.length) := by
  rw [writeE_eq]
  have hceil := divUp_le_iff (max size (off + b.length)) bs (blockCount es) hbs
  generalize max size (off + b.length) / bs + (if max size (off + b.length) % bs > 0 then 1 else 0) = cl at *
  by_cases hN : cl > blockCount es
  · simp only [hN, if_true, true_iff]; omega
  · simp only [hN, if_false]
    constructor
    · intro hh; split at hh <;> cases hh
    · intro hh; omega

/-- writeE_spec: with the repaired loop, for every device content, block size, contiguous and disk-disjoint extent
    list, file size, offset and buffer that fit into the allocated blocks, File.Write succeeds, reports the whole
    buffer written, advances the offset by it, sets the size to max(size, off+len), issues no write at a negative
    offset, and afterwards the byte string the extent list denotes is the old one with the buffer spliced in at
    `off` — while every device byte outside the file's extents is unchanged (frame). Nothing is zero-filled:
    bytes between the old end of file and `off` keep what the blocks held (finding ext4-hole-stale-bytes). -/
theorem writeE_spec (dev : Dev) (bs : Nat) (es : List Extent) (size off : Nat) (b : Bytes)
    (hbs : 0 < bs) (hc : Contig 0 es) (hd : DiskDisjoint es)
    (hsz : size ≤ blockCount es * bs) (hfit : off + b.length ≤ blockCount es * bs) :
    ∃ r, writeE false true bs es size off b = .ok r ∧
      r.written = b.length ∧ r.off = off + b.length ∧ r.size = max size (off + b.length) ∧
      (∀ w ∈ r.ws, 0 ≤ w.1) ∧
      fileBytes (applyWrs dev (toWrs r.ws)) bs es = splice (fileBytes dev bs es) off b ∧
      ∀ i, Outside bs es i → applyWrs dev (toWrs r.ws) i = dev i := by
  obtain ⟨r, hr, hw, ho, hs, hin, hsp⟩ := writeE_ok bs es size off b hbs hc hsz hfit
  exact ⟨r, hr, hw, ho, hs, fun w hw => (hin w hw).nonneg, hsp hd dev⟩

/-- write_then_read: after that Write, File.Read at any offset and length returns the window of the spliced byte
    string (clipped to the new size); in particular reading `len(b)` bytes at `off` returns exactly `b`. -/
theorem write_then_read (dev : Dev) (bs : Nat) (es : List Extent) (size off : Nat) (b : Bytes)
    (hbs : 0 < bs) (hc : Contig 0 es) (hd : DiskDisjoint es)
    (hsz : size ≤ blockCount es * bs) (hfit : off + b.length ≤ blockCount es * bs) :
    ∃ w, writeE false true bs es size off b = .ok w ∧
      (∀ off' n, ∃ r, readE false (applyWrs dev (toWrs w.ws)) bs es w.size off' n = .ok r ∧
        r.data = ((((splice (fileBytes dev bs es) off b).take w.size).drop off').take n)) ∧
      (∃ r, readE false (applyWrs dev (toWrs w.ws)) bs es w.size off b.length = .ok r ∧ r.data = b) := by
  obtain ⟨w, hw, _, _, hsize, _, hF, _⟩ := writeE_spec dev bs es size off b hbs hc hd hsz hfit
  have hFl := fileBytes_length dev bs es
  have rd := fun off' n => readE_spec (applyWrs dev (toWrs w.ws)) bs es w.size off' n hbs ⟨hc, by rw [hsize]; omega⟩
  simp only [hF] at rd
  refine ⟨w, hw, fun off' n => (rd off' n).imp fun r h => ⟨h.1, h.2.1⟩, ?_⟩
  obtain ⟨r, hr, hdata, _⟩ := rd off b.length
  exact ⟨r, hr, hdata.trans (splice_window _ off b w.size (by rw [hFl]; exact hfit) (by rw [hsize]; omega))⟩

/-- writeZ_spec: the repaired File.Write as a whole (gap zero fill + the loop). For every device content, block
    size, contiguous and disk-disjoint extent list, size, offset and buffer that fit into the allocated blocks
    it succeeds, and the byte string the extent list denotes afterwards is the old one with ZEROS from the old
    end of file up to `off` (nothing when `off ≤ size`) and the buffer at `off`; every device byte outside the
    file's extents is unchanged. -/
theorem writeZ_spec (dev : Dev) (bs : Nat) (es : List Extent) (size off : Nat) (b : Bytes)
    (hbs : 0 < bs) (hc : Contig 0 es) (hd : DiskDisjoint es)
    (hsz : size ≤ blockCount es * bs) (hfit : off + b.length ≤ blockCount es * bs) :
    ∃ r, writeZ true false true bs es size off b = .ok r ∧
      r.written = b.length ∧ r.off = off + b.length ∧ r.size = max size (off + b.length) ∧
      (∀ w ∈ r.ws, 0 ≤ w.1) ∧
      fileBytes (applyWrs dev (toWrs r.ws)) bs es =
        splice (splice (fileBytes dev bs es) size (zeros (off - size))) off b ∧
      ∀ i, Outside bs es i → applyWrs dev (toWrs r.ws) i = dev i := by
  by_cases hgap : off > size
  · obtain ⟨ws0, hz, hin0, hsp0⟩ := zeroFill_spec bs es off hbs hc hd (by omega) (off - size) size []
      (by omega) (Nat.le_refl _)
    obtain ⟨r, hr, hw, ho, hs, hin, hsp⟩ := writeE_ok bs es off off b hbs hc (by omega) hfit
    simp only [writeZ, hgap, decide_true, Bool.and_self, if_true, hz, List.nil_append, hr]
    refine ⟨_, rfl, hw, ho, by rw [hs]; omega, ?_, ?_⟩
    · intro w hw'
      rcases List.mem_append.1 hw' with h | h
      · exact (hin0 w h).nonneg
      · exact (hin w h).nonneg
    · obtain ⟨hF0, hfr0⟩ := hsp0 dev
      obtain ⟨hF, hfr⟩ := hsp hd (applyWrs dev (toWrs ws0))
      simp only [applyWrs_toWrs_append]
      exact ⟨by rw [hF, hF0], fun i hi => by rw [hfr i hi, hfr0 i hi]⟩
  · obtain ⟨r, hr, hw, ho, hs, hnn, hF, hfr⟩ := writeE_spec dev bs es size off b hbs hc hd hsz hfit
    have hz : off - size = 0 := by omega
    simp only [writeZ, hgap, decide_false, Bool.and_false, Bool.false_eq_true, if_false, hz]
    exact ⟨r, hr, hw, ho, hs, hnn, by rw [hF]; simp [zeros, splice_nil], hfr⟩

/-- write_then_read for the repaired File.Write: whatever the blocks held, a Read of the gap returns zeros and a
    Read at `off` returns the buffer (both are windows of the spliced byte string, which every Read returns). -/
theorem writeZ_then_read (dev : Dev) (bs : Nat) (es : List Extent) (size off : Nat) (b : Bytes)
    (hbs : 0 < bs) (hc : Contig 0 es) (hd : DiskDisjoint es)
    (hsz : size ≤ blockCount es * bs) (hfit : off + b.length ≤ blockCount es * bs) :
    ∃ w, writeZ true false true bs es size off b = .ok w ∧
      (∀ off' n, ∃ r, readE false (applyWrs dev (toWrs w.ws)) bs es w.size off' n = .ok r ∧
        r.data = ((((splice (splice (fileBytes dev bs es) size (zeros (off - size))) off b).take w.size).drop off').take n)) ∧
      (∃ r, readE false (applyWrs dev (toWrs w.ws)) bs es w.size off b.length = .ok r ∧ r.data = b) ∧
      (∃ r, readE false (applyWrs dev (toWrs w.ws)) bs es w.size size (off - size) = .ok r ∧
        r.data = zeros (off - size)) := by
  obtain ⟨w, hw, _, _, hsize, _, hF, _⟩ := writeZ_spec dev bs es size off b hbs hc hd hsz hfit
  have hFl := fileBytes_length dev bs es
  have hZl : (splice (fileBytes dev bs es) size (zeros (off - size))).length = (fileBytes dev bs es).length :=
    splice_length _ _ _ (by rw [zeros_length, hFl]; omega)
  have rd := fun off' n => readE_spec (applyWrs dev (toWrs w.ws)) bs es w.size off' n hbs ⟨hc, by rw [hsize]; omega⟩
  simp only [hF] at rd
  refine ⟨w, hw, fun off' n => (rd off' n).imp fun r h => ⟨h.1, h.2.1⟩, ?_, ?_⟩
  · obtain ⟨r, hr, hdata, _⟩ := rd off b.length
    exact ⟨r, hr, hdata.trans (splice_window _ off b w.size (by rw [hZl, hFl]; exact hfit) (by rw [hsize]; omega))⟩
  · obtain ⟨r, hr, hdata, _⟩ := rd size (off - size)
    refine ⟨r, hr, ?_⟩
    rw [hdata]
    by_cases hgap : off > size
    · rw [splice_window_before _ off b w.size size (off - size) (by rw [hZl, hFl]; omega) (by rw [hsize]; omega) (by omega)]
      have := splice_window (fileBytes dev bs es) size (zeros (off - size)) off
        (by rw [zeros_length, hFl]; omega) (by rw [zeros_length]; omega)
      rwa [zeros_length] at this
    · have hz : off - size = 0 := by omega
      simp [hz, zeros]

/-- the write loop as found: a 4-byte write that crosses from the first into the second extent of a three-extent
    file goes on to the third extent with an empty write at a negative device offset and fails, although every
    byte had been written (finding ext4-write-trailing-empty-writes); the repaired loop stops in time. -/
theorem cex_ext4_write_trailing :
    Contig 0 [⟨0, 5, 1⟩, ⟨1, 7, 2⟩, ⟨3, 1, 1⟩] ∧ DiskDisjoint [⟨0, 5, 1⟩, ⟨1, 7, 2⟩, ⟨3, 1, 1⟩] ∧
    trailTrigger [⟨0, 5, 1⟩, ⟨1, 7, 2⟩, ⟨3, 1, 1⟩] 4 2 4 = true ∧
    writeE false false 4 [⟨0, 5, 1⟩, ⟨1, 7, 2⟩, ⟨3, 1, 1⟩] 16 2 [1, 2, 3, 4] =
      .err ⟨[(22, [1, 2]), (28, [3, 4])], 4, 6, 16⟩ ∧
    writeE false true 4 [⟨0, 5, 1⟩, ⟨1, 7, 2⟩, ⟨3, 1, 1⟩] 16 2 [1, 2, 3, 4] =
      .ok ⟨[(22, [1, 2]), (28, [3, 4])], 4, 6, 16⟩ := by
  refine ⟨⟨rfl, by decide, rfl, by decide, rfl, by decide, trivial⟩, by simp [DiskDisjoint], by decide, by decide, by decide⟩

/-! ### allocateExtents (Model/Ext4/Alloc.lean, AllocSlow.lean) -/

/-- alloc_disjoint: the extent the first-fit fast path picks consists of blocks that were free, lies inside one
    group's bitmap and has exactly the requested length — so it is disjoint from every extent already marked. -/
theorem alloc_disjoint (groups : List Alloc.Bits) (n g pos : Nat) (hn : 0 < n)
    (h : Alloc.fastPick groups n = some (g, pos)) :
    ∃ bm, groups[g]? = some bm ∧ pos + n ≤ bm.length ∧ ∀ i, pos ≤ i → i < pos + n → bm[i]? = some false :=
  Alloc.fastPick_spec groups n g pos hn h

/-- alloc_spec: the whole block-allocation policy of allocateExtents — the fast path and, when no single run is
    large enough, the slow path over the groups' free lists cut into pieces and sorted by size — for EVERY order
    the (unstable) sort may leave the pieces in, every state of the block bitmaps and every request `n > 0`:
    every extent handed out lies inside one group's bitmap and consists of bits that were clear, no two extents
    share a block, together they have exactly `n` blocks (so they are accepted by the accounting machine:
    `runsOK`); and the policy gives up only when fewer than `n` blocks are free in all groups together, or when
    more than 65535 blocks are asked for in one call (the code's own limit). -/
theorem alloc_spec (order : Nat → List (Nat × Nat) → List (Nat × Nat))
    (horder : ∀ g l, (order g l).Perm l) (s : Alloc.Acc) (n : Nat) (hn : 0 < n) :
    (∀ rs, Alloc.allocPolicy order (s.groups.map (·.bbm)) n = some rs →
      (∀ r ∈ rs, ∃ g, s.groups[r.1]? = some g ∧ 0 < r.2.2 ∧ r.2.1 + r.2.2 ≤ g.bbm.length ∧
        ∀ i, r.2.1 ≤ i → i < r.2.1 + r.2.2 → g.bbm[i]? = some false) ∧
      rs.Pairwise (fun a c => a.1 ≠ c.1 ∨ a.2.1 + a.2.2 ≤ c.2.1 ∨ c.2.1 + c.2.2 ≤ a.2.1) ∧
      (rs.map (·.2.2)).sum = n ∧ Alloc.runsOK s rs = true) ∧
    (Alloc.allocPolicy order (s.groups.map (·.bbm)) n = none →
      Alloc.maxUint16 < n ∨ Alloc.totalFree (s.groups.map (·.bbm)) < n) := by
  obtain ⟨h1, h2⟩ := Alloc.allocPolicy_spec order horder s n hn
  refine ⟨fun rs h => ?_, h2⟩
  obtain ⟨g1, g2, g3, g4⟩ := h1 rs h
  refine ⟨fun r hr => ?_, g2, g3, g4⟩
  obtain ⟨g, hg, hpos, hbits⟩ := g1 r hr
  refine ⟨g, hg, hpos, ?_, hbits⟩
  -- the last bit of the extent exists
  have := hbits (r.2.1 + r.2.2 - 1) (by simp only at hpos ⊢; omega) (by simp only at hpos ⊢; omega)
  have hlt := (List.getElem?_eq_some_iff.1 this).1
  simp only at hpos hlt ⊢
  omega

/-- the order the correspondence runs the model with is one of them -/
theorem alloc_hintOrder_perm (hint : Nat → List Nat) (g : Nat) (l : List (Nat × Nat)) :
    (Alloc.hintOrder hint g l).Perm l := List.mergeSort_perm l _

/-! ### directory blocks: Directory.toBytes, parseDirEntriesLinear, Remove's write-back (Model/Ext4/DirPack.lean) -/

/-- parseDirEntriesLinear reads back exactly the entries Directory.toBytes packed, for names of at most 247 bytes
    (`EntryParseOK`; longer ones: `cex_ext4_long_name`) -/
theorem dirpack_parse (bs : Nat) (csum : Bool) (tail : Bytes → Bytes) (es : List DirPack.Entry)
    (hbs : DirPack.BsOK bs) (ht : DirPack.TailOK csum tail) (hes : es ≠ [])
    (hok : ∀ e ∈ es, DirPack.EntryParseOK e) :
    DirPack.parse bs csum tail (DirPack.pack bs csum tail es) = some es :=
  DirPack.dirpack_parse bs csum tail es hbs ht hes hok

/-- every block Directory.toBytes emits is tiled by its rec_len chain (and ends in the checksum tail) -/
theorem dirpack_blocks_tile (bs : Nat) (csum : Bool) (tail : Bytes → Bytes) (es : List DirPack.Entry)
    (hbs : DirPack.BsOK bs) (ht : DirPack.TailOK csum tail) (hes : es ≠ [])
    (hok : ∀ e ∈ es, DirPack.EntryOK e) :
    ∀ k, k < (DirPack.pack bs csum tail es).length / bs →
      ∃ rs, DirPack.recLens bs csum (((DirPack.pack bs csum tail es).drop (k * bs)).take bs) = some rs ∧
        rs.sum = DirPack.blockLimit bs csum ∧
        (∀ r ∈ rs, 12 ≤ r) ∧
        (bs % 4 = 0 → ∀ r ∈ rs, r % 4 = 0) ∧
        (csum = true →
          (((DirPack.pack bs csum tail es).drop (k * bs)).take bs).drop (bs - 12)
            = tail ((((DirPack.pack bs csum tail es).drop (k * bs)).take bs).take (bs - 12))) := by
  open DirPack in
    obtain ⟨bodies, h1, h2, _⟩ := pack_image bs csum tail es hbs ht hes hok
    intro k hk
    rw [h1, image_length bs csum tail hbs ht bodies h2, Nat.mul_div_cancel_left _ (by unfold BsOK at hbs; omega)] at hk
    rw [h1, image_block bs csum tail hbs ht bodies h2 k hk]
    exact ⟨_, block_tile bs csum tail hbs bodies[k] (h2 _ (List.getElem_mem hk))⟩

theorem dirpack_length (bs : Nat) (csum : Bool) (tail : Bytes → Bytes) (es : List DirPack.Entry)
    (hbs : DirPack.BsOK bs) (ht : DirPack.TailOK csum tail) (hes : es ≠ [])
    (hok : ∀ e ∈ es, DirPack.EntryOK e) :
    (DirPack.pack bs csum tail es).length % bs = 0 := by
  obtain ⟨bodies, h1, h2, _⟩ := DirPack.pack_image bs csum tail es hbs ht hes hok
  rw [h1, DirPack.image_length bs csum tail hbs ht bodies h2, Nat.mul_mod_right]

/-- the real tail function is one the directory theorems cover -/
theorem dir_tail_ok (csum : Bool) (seed ino gen : Nat) : DirPack.TailOK csum (DirPack.dirTail seed ino gen) :=
  fun _ b => DirPack.dirTail_length seed ino gen b

/-- remove_dir_rewrite: Remove's write-back of the parent directory (repaired: blocks the re-packed entries no
    longer reach become empty directory blocks). For every block size, checksum setting, old directory contents
    of n blocks and every non-empty list of remaining entries that fits: the directory keeps its length, consists
    of what Directory.toBytes packs followed by empty blocks, and parseDirEntriesLinear reads back exactly the
    remaining entries followed by unused (inode 0) ones — so the entries a listing shows are the remaining ones. -/
theorem remove_dir_rewrite (bs : Nat) (csum : Bool) (tail : Bytes → Bytes) (old : Bytes) (n : Nat)
    (es : List DirPack.Entry) (hbs : DirPack.BsOK bs) (ht : DirPack.TailOK csum tail) (hes : es ≠ [])
    (hok : ∀ e ∈ es, DirPack.EntryParseOK e) (hino : ∀ e ∈ es, e.inode ≠ 0)
    (hold : old.length = n * bs) (hfit : (DirPack.pack bs csum tail es).length ≤ old.length) :
    (DirPack.rewriteDir true bs csum tail old es).length = old.length ∧
    ∃ k, DirPack.parse bs csum tail (DirPack.rewriteDir true bs csum tail old es) =
          some (es ++ List.replicate k DirPack.emp) ∧
      (es ++ List.replicate k DirPack.emp).filter (fun e => e.inode != 0) = es := by
  obtain ⟨k, _, hlen, hparse⟩ := DirPack.rewriteDir_spec bs csum tail old n es hbs ht hes hok hold hfit
  refine ⟨hlen, k, hparse, ?_⟩
  rw [List.filter_append]
  have h1 : es.filter (fun e => e.inode != 0) = es :=
    List.filter_eq_self.2 (fun e he => by simp [hino e he])
  have h2 : (List.replicate k DirPack.emp).filter (fun e => e.inode != 0) = [] :=
    List.filter_eq_nil_iff.2 (fun e he => by rw [(List.mem_replicate.1 he).2]; simp [DirPack.emp])
  rw [h1, h2, List.append_nil]

/-- remove_dir_rewrite_csum: the same for the bytes the library really writes when metadata_csum is on - the tail
    function is the real one, `dirTail seed ino gen` = inode 0 / rec_len 12 / type 0xDE / crc32c over the filesystem's
    checksum seed, the DIRECTORY's inode number, its generation and the block body (the correspondence compares
    these tails unmasked with the image, with seed / inode / generation decoded from the image by the engine): for
    every seed, inode number, generation, old content and list of remaining entries that fits, the write-back is what
    Directory.toBytes packs followed by k empty blocks, each of them one unused entry over `bs - 12` bytes and the
    checksum tail of exactly these bytes under the directory's own (inode, generation); it keeps the directory's
    length and parses back to the remaining entries followed by unused ones. -/
theorem remove_dir_rewrite_csum (bs seed ino gen : Nat) (old : Bytes) (n : Nat) (es : List DirPack.Entry)
    (hbs : DirPack.BsOK bs) (hes : es ≠ []) (hok : ∀ e ∈ es, DirPack.EntryParseOK e)
    (hold : old.length = n * bs) (hfit : (DirPack.pack bs true (DirPack.dirTail seed ino gen) es).length ≤ old.length) :
    ∃ k, DirPack.rewriteDir true bs true (DirPack.dirTail seed ino gen) old es =
        DirPack.pack bs true (DirPack.dirTail seed ino gen) es ++
          (List.replicate k (DirPack.encEntry DirPack.emp ((bs - 12) % 65536) ++
            DirPack.dirTail seed ino gen (DirPack.encEntry DirPack.emp ((bs - 12) % 65536)))).flatten ∧
      (DirPack.rewriteDir true bs true (DirPack.dirTail seed ino gen) old es).length = old.length ∧
      DirPack.parse bs true (DirPack.dirTail seed ino gen) (DirPack.rewriteDir true bs true (DirPack.dirTail seed ino gen) old es) =
        some (es ++ List.replicate k DirPack.emp) := by
  obtain ⟨k, h1, h2, h3⟩ := DirPack.rewriteDir_spec bs true (DirPack.dirTail seed ino gen) old n es hbs
    (dir_tail_ok true seed ino gen) hes hok hold hfit
  refine ⟨k, ?_, h2, h3⟩
  rw [h1, DirPack.emptyBlocks, DirPack.emptyBlock_csum]

/-- the write-back as found (32-byte blocks for brevity): a directory of two blocks [a b] [c]; after Remove of b
    the remaining entries fit one block, the second block keeps its old entry and c is listed twice (finding
    ext4-remove-stale-dir-block); with the padding the listing is [a c] and an unused entry -/
theorem cex_ext4_remove_stale_dir_block :
    let a : DirPack.Entry := ⟨12, [97, 97], 1⟩
    let b : DirPack.Entry := ⟨13, [98, 98], 1⟩
    let c : DirPack.Entry := ⟨14, [99, 99], 1⟩
    let old := DirPack.pack 32 false DirPack.exTail [a, b] ++ DirPack.pack 32 false DirPack.exTail [c]
    old.length = 64 ∧
    DirPack.parse 32 false DirPack.exTail (DirPack.rewriteDir false 32 false DirPack.exTail old [a, c]) = some [a, c, c] ∧
    DirPack.parse 32 false DirPack.exTail (DirPack.rewriteDir true 32 false DirPack.exTail old [a, c]) =
      some [a, c, DirPack.emp] := by
  decide

/-- the code as found: a 248-byte name is packed but cannot be parsed back (uint8 wrap of `8+nameLength`) -/
theorem cex_ext4_long_name :
    DirPack.EntryOK ⟨7, List.replicate 248 65, 1⟩ ∧
    DirPack.parse 1024 false DirPack.exTail
      (DirPack.pack 1024 false DirPack.exTail [⟨7, List.replicate 248 65, 1⟩]) = none :=
  DirPack.cex_dirent_namelen_wrap

/-- a fragmented group (free runs of 2, 1 and 3 blocks) and a request for 5 blocks: no run is large enough, the
    slow path walks the pieces (here in FreeList order, one of the orders covered) -/
example : Alloc.allocPolicy (fun _ l => l) [[true, false, false, true, false, true, false, false, false]] 5 =
    some [(0, 1, 2), (0, 4, 1), (0, 6, 2)] := by decide
example : Alloc.allocPolicy (fun _ l => l) [[true, false, false, true, false, true, false, false, false]] 7 = none := by
  decide
example : ExtentsCover 1024 [⟨0, 10, 2⟩, ⟨2, 20, 1⟩] 3000 :=
  ⟨⟨rfl, by decide, rfl, by decide, trivial⟩, by decide⟩
example : Contig 0 [⟨0, 10, 2⟩, ⟨2, 20, 1⟩] ∧ DiskDisjoint [⟨0, 10, 2⟩, ⟨2, 20, 1⟩] ∧
    3000 ≤ blockCount [⟨0, 10, 2⟩, ⟨2, 20, 1⟩] * 1024 ∧ 2600 + 3 ≤ blockCount [⟨0, 10, 2⟩, ⟨2, 20, 1⟩] * 1024 :=
  ⟨⟨rfl, by decide, rfl, by decide, trivial⟩, by simp [DiskDisjoint], by decide, by decide⟩
/-- a 2-block hole between two extents and one block behind the last one read as zeros -/
example : Sorted 0 [⟨0, 3, 1⟩, ⟨3, 7, 1⟩] ∧
    (readE false (fun i => UInt8.ofNat i) 2 [⟨0, 3, 1⟩, ⟨3, 7, 1⟩] 10 1 20) =
      .ok ⟨[7, 0, 0, 0, 0, 14, 15, 0, 0], [(7, 1), (14, 2)], 10, true⟩ := by
  refine ⟨⟨Nat.le_refl _, by decide, by decide, by decide, trivial⟩, by decide⟩
example : (readE false (fun i => UInt8.ofNat i) 4 [⟨0, 3, 1⟩, ⟨1, 7, 1⟩] 7 2 10) =
    .ok ⟨[14, 15, 28, 29, 30], [(14, 2), (28, 3)], 7, true⟩ := by decide

/-! ### the extent tree: extendExtentTree, blocks(), the node codec (Model/Ext4/ExtTree.lean) -/

/-- extendExtentTree only appends: for EVERY tree whose nodes are non-empty and whose pointer keys are the first
    file blocks of the nodes they point to (`wf`: what the library builds), every block size, allocator and list of
    added extents that lie behind the file's extents, whatever restructuring the call does (append to a leaf, move
    the root leaf into a block, leaf split under the root or under an index node in a block, the root's children
    moved into two index nodes and the tree one level deeper): when it succeeds, blocks() of the new tree is
    blocks() of the old one followed by the added extents - nothing lost, duplicated or reordered - and the file
    blocks stay strictly increasing. Both for the code as found and with the repair of
    ext4-extent-node-overfull-panic (`fx`). -/
theorem exttree_extend_appends {σ : Type} (fx : Bool) (A : ExtTree.Allocator σ) (s : σ) (bs : Nat) (t : ExtTree.Node)
    (added : List Extent) (t' : ExtTree.Node) (m : Nat) (s' : σ) (hw : ExtTree.wf t)
    (h : ExtTree.extend fx A s bs (some t) added = .ok (t', m, s'))
    (hs : ExtTree.SortedFB (ExtTree.flatten t ++ added)) :
    ExtTree.flatten t' = ExtTree.flatten t ++ added ∧ ExtTree.SortedFB (ExtTree.flatten t') := by
  have hfl := (ExtTree.extend_ok (bs := bs) h).1 (fun _ _ _ _ e => (e ▸ hw).2) hs
  exact ⟨hfl, hfl ▸ hs⟩

/-- extendExtentTree keeps the shape of the tree (`okRoot`): the root in the inode has at most max entries, every
    node below it carries the fan-out of a block as max, `(blockSize - 12) / 12`, and at most that many entries, and
    every child of an index node is exactly one level below it (all leaves at the same depth) - for every tree of
    that shape, block size, allocator answer and added extents, when the call succeeds -/
theorem exttree_extend_shape {σ : Type} (fx : Bool) (A : ExtTree.Allocator σ) (s : σ) (bs : Nat) (t : ExtTree.Node)
    (added : List Extent) (t' : ExtTree.Node) (m : Nat) (s' : σ) (hr : ExtTree.okRoot bs t)
    (h : ExtTree.extend fx A s bs (some t) added = .ok (t', m, s')) : ExtTree.okRoot bs t' :=
  (ExtTree.extend_ok h).2 hr

/-- a depth-2 tree at a (toy) block size of 36 bytes - two entries per block node -: the index node in block 50 is
    full and so is its last leaf -/
def fullIndexTree : ExtTree.Node :=
  .index 4 0 2 [(0, .index 2 50 1 [(0, .leaf 2 51 [⟨0, 100, 1⟩, ⟨1, 101, 1⟩]), (2, .leaf 2 52 [⟨2, 102, 1⟩, ⟨3, 103, 1⟩])])]

/-- non-vacuity of `okRoot` / `wf`: the depth-2 trees of the examples below have the shape -/
example : ExtTree.okRoot 36 fullIndexTree ∧ ExtTree.wf fullIndexTree := by
  simp [fullIndexTree, ExtTree.okRoot, ExtTree.okNode, ExtTree.okNode.okKids, ExtTree.nonRootMax, ExtTree.Node.depth,
    ExtTree.wf, ExtTree.wf.wfKids, ExtTree.Node.firstKey]

/-- createRootExtentTree: the first extents of a file become a leaf in the inode, no block is taken -/
theorem exttree_create_root {σ : Type} (fx : Bool) (A : ExtTree.Allocator σ) (s : σ) (bs : Nat) (added : List Extent)
    (t' : ExtTree.Node) (m : Nat) (s' : σ) (h : ExtTree.extend fx A s bs none added = .ok (t', m, s')) :
    ExtTree.flatten t' = added ∧ m = 0 := by
  simp only [ExtTree.extend] at h
  split at h
  · simp only [ExtTree.Res.ok.injEq, Prod.mk.injEq] at h
    obtain ⟨rfl, rfl, _⟩ := h
    exact ⟨rfl, rfl⟩
  · cases h

/-- toBytes: a node is 12 + 12*max bytes, and with the fan-out the library gives a node that lives in a block
    (`(blockSize - 12) / 12`) that is at most one block -/
theorem exttree_node_fits_block (bs : Nat) (hbs : 12 ≤ bs) (es : List Extent) (depth : Nat) (ps : List (Nat × Nat)) :
    (∀ b, ExtTree.encLeaf (ExtTree.nonRootMax bs) es = some b → b.length ≤ bs) ∧
    (∀ b, ExtTree.encIndex (ExtTree.nonRootMax bs) depth ps = some b → b.length ≤ bs) :=
  ⟨fun b h => (ExtTree.encLeaf_length _ _ b h) ▸ ExtTree.nonRootMax_fits bs hbs,
   fun b h => (ExtTree.encIndex_length _ _ _ b h) ▸ ExtTree.nonRootMax_fits bs hbs⟩

/-- parseExtents (toBytes leaf) = leaf, for every leaf with at most max entries whose fields fit their on-disk
    widths (file block 32 bit, start block 48 bit, length 16 bit) -/
theorem exttree_parse_encode_leaf (max : Nat) (es : List Extent) (h1 : es.length ≤ max) (h2 : 1 ≤ max) (h3 : max < 65536)
    (hes : ∀ e ∈ es, ExtTree.ExtentOK e) :
    ∃ b, ExtTree.encLeaf max es = some b ∧ b.length = 12 + 12 * max ∧ ExtTree.parseNode b = .ok (.leaf max es) := by
  open ExtTree in
    have henc : encLeaf max es = some (encHeader es.length max 0 ++ ((es.map encExtent).flatten ++ zeros (12 * (max - es.length)))) := by
      unfold encLeaf
      rw [if_pos h1, List.append_assoc]
    refine ⟨_, henc, encLeaf_length _ _ _ henc, ?_⟩
    rw [parseNode_enc encExtent encExtent_length es max 0 h1 h2 h3 (by omega), if_pos rfl,
      decEntries_enc encExtent decExtent encExtent_length es (fun e he => decExtent_encExtent e (hes e he))]

/-- parseExtents (toBytes index node) = the node's header and pointers -/
theorem exttree_parse_encode_index (max depth : Nat) (ps : List (Nat × Nat)) (h1 : ps.length ≤ max) (h2 : 1 ≤ max)
    (h3 : max < 65536) (hd : 1 ≤ depth) (hd' : depth < 65536) (hps : ∀ p ∈ ps, ExtTree.PtrOK p) :
    ∃ b, ExtTree.encIndex max depth ps = some b ∧ b.length = 12 + 12 * max ∧ ExtTree.parseNode b = .ok (.index max depth ps) := by
  open ExtTree in
    have henc : encIndex max depth ps = some (encHeader ps.length max depth ++ ((ps.map fun p => encPtr p.1 p.2).flatten ++ zeros (12 * (max - ps.length)))) := by
      unfold encIndex
      rw [if_pos h1, List.append_assoc]
    refine ⟨_, henc, encIndex_length _ _ _ _ henc, ?_⟩
    rw [parseNode_enc (fun p : Nat × Nat => encPtr p.1 p.2) (fun p => encPtr_length p.1 p.2) ps max depth h1 h2 h3 hd',
      if_neg (by omega), decEntries_enc (fun p : Nat × Nat => encPtr p.1 p.2) decPtr (fun p => encPtr_length p.1 p.2) ps
        (fun p hp => decPtr_encPtr p (hps p hp))]

/-- finding ext4-extent-node-overfull-panic, trigger (a): the code as found panics when a leaf splits under a full
    index node that lives in a block (the tree and the added extent satisfy the hypotheses of
    `exttree_extend_appends`); the repaired code refuses the call -/
theorem cex_ext4_index_full_panic :
    ExtTree.wf fullIndexTree ∧
    (ExtTree.extend false ExtTree.bump 200 36 (some fullIndexTree) [⟨4, 104, 1⟩]).isPanic = true ∧
    (ExtTree.extend true ExtTree.bump 200 36 (some fullIndexTree) [⟨4, 104, 1⟩]).errOf = some .unsupported := by
  refine ⟨?_, by decide, by decide⟩
  simp [fullIndexTree, ExtTree.wf, ExtTree.wf.wfKids, ExtTree.Node.firstKey]

/-- trigger (b): seven extents for the two halves of a split leaf that hold two each -/
theorem cex_ext4_split_overfull_panic :
    (ExtTree.extend false ExtTree.bump 200 36 (some (.leaf 4 0 [⟨0, 100, 1⟩, ⟨1, 101, 1⟩, ⟨2, 102, 1⟩, ⟨3, 103, 1⟩]))
      [⟨4, 104, 1⟩, ⟨5, 105, 1⟩, ⟨6, 106, 1⟩]).isPanic = true ∧
    (ExtTree.extend true ExtTree.bump 200 36 (some (.leaf 4 0 [⟨0, 100, 1⟩, ⟨1, 101, 1⟩, ⟨2, 102, 1⟩, ⟨3, 103, 1⟩]))
      [⟨4, 104, 1⟩, ⟨5, 105, 1⟩, ⟨6, 106, 1⟩]).errOf = some .unsupported := by
  decide

/-- non-vacuity of `exttree_extend_appends`: a leaf split under an index node in a block that has room (block size
    48: three entries per node) succeeds and the extent list grows at the end -/
example :
    ((ExtTree.extend false ExtTree.bump 200 48
        (some (.index 4 0 2 [(0, .index 3 50 1 [(0, .leaf 3 51 [⟨0, 100, 1⟩, ⟨1, 101, 1⟩, ⟨2, 102, 1⟩])])]))
        [⟨3, 103, 1⟩]).toOption.map fun r => (ExtTree.flatten r.1, ExtTree.treeBlocks r.1, r.2.1)) =
      some ([⟨0, 100, 1⟩, ⟨1, 101, 1⟩, ⟨2, 102, 1⟩, ⟨3, 103, 1⟩], [50, 51, 200], 1) := by
  decide

/-- non-vacuity: the fifth leaf under the root in the inode moves the root's children into two index nodes -/
example :
    ((ExtTree.extend false ExtTree.bump 200 48
        (some (.index 4 0 1 [(0, .leaf 3 51 [⟨0, 100, 1⟩]), (1, .leaf 3 52 [⟨1, 101, 1⟩]), (2, .leaf 3 53 [⟨2, 102, 1⟩]),
          (3, .leaf 3 54 [⟨3, 103, 1⟩, ⟨4, 104, 1⟩, ⟨5, 105, 1⟩])]))
        [⟨6, 106, 1⟩]).toOption.map fun r => (ExtTree.flatten r.1, r.1.depth, ExtTree.treeBlocks r.1, r.2.1)) =
      some ([⟨0, 100, 1⟩, ⟨1, 101, 1⟩, ⟨2, 102, 1⟩, ⟨3, 103, 1⟩, ⟨4, 104, 1⟩, ⟨5, 105, 1⟩, ⟨6, 106, 1⟩], 2,
        [201, 51, 52, 202, 53, 54, 200], 3) := by
  decide

example : ExtTree.ExtentOK ⟨5, 1000000, 32768⟩ ∧ ExtTree.PtrOK (7, 123456789) := by
  unfold ExtTree.ExtentOK ExtTree.PtrOK; decide

/-! ### the extent tree along a history of extendExtentTree calls (Proofs/Ext4ExtInv.lean) -/

/-- exttree_extend_total: ONE call of extendExtentTree (the repaired code) on a tree that has the invariant
    `StateInv` - the root in the inode with at most 4 entries; every node below it non-empty, with the fan-out of a
    block, in a block whose number is not 0, all node blocks pairwise distinct and none of them free; pointer keys =
    first file blocks; uniform depth; file blocks strictly increasing - with ANY allocator that hands out blocks
    that were free (`AllocOK`), any block size of 48 bytes or more, and any non-empty list of added extents behind
    the file's extents. The call answers
      * ok - and then the new tree has the invariant again (so the next call meets the same hypotheses), denotes the
        old extents followed by the added ones, and its node blocks are the old node blocks plus `taken`: exactly
        `metaBlocks` blocks, pairwise distinct, free before the call and not free after it, while no other block
        changed its state (no node is written over another node or over a block somebody else owns);
      * `nospace` - and then the allocator has a request it refuses (the statement names no state or size: it does not
        say that it was this call's);
      * `unsupported` - only in the two refusals of fix f6794f8 (`refusesTop`: the last leaf is full and either its
        parent index node lives in a block and is full, or the extents do not fit two leaves);
    and NEVER panics, reports `block number not found`, or takes a lookup by key / block number to another node
    than the one it descended into (`weird`). -/
theorem exttree_extend_total {σ : Type} (A : ExtTree.Allocator σ) (free : σ → Nat → Bool) (hA : ExtTree.AllocOK A free)
    (bs : Nat) (h3 : 3 ≤ ExtTree.nonRootMax bs) (s : σ) (t : ExtTree.Node) (a0 : Extent) (rest : List Extent)
    (hI : ExtTree.StateInv free bs s t) (hs : ExtTree.SortedFB (ExtTree.flatten t ++ a0 :: rest)) :
    match ExtTree.extend true A s bs (some t) (a0 :: rest) with
    | .ok (t', m, s') =>
      ExtTree.StateInv free bs s' t' ∧ ExtTree.flatten t' = ExtTree.flatten t ++ a0 :: rest ∧
        ∃ taken, taken.length = m ∧ ExtTree.Took free s s' taken ∧
          (ExtTree.treeBlocks t').Perm (ExtTree.treeBlocks t ++ taken)
    | .err .nospace => ∃ s0 n, A.take s0 n = none
    | .err .unsupported => ExtTree.refusesTop bs (rest.length + 1) t
    | _ => False := by
  open ExtTree in
    have hfl : ∀ t' m s', extend true A s bs (some t) (a0 :: rest) = .ok (t', m, s') → flatten t' = flatten t ++ a0 :: rest :=
      fun t' m s' h => (extend_ok (bs := bs) h).1
        (fun _ _ _ _ e => goodKids_wfKids _ _ _ (e ▸ hI.tree.root).2.2.2.2) hs
    -- a call that leaves a good root over the old node blocks and the blocks taken
    have fin : ∀ t' m s' taken, extend true A s bs (some t) (a0 :: rest) = .ok (t', m, s') → taken.length = m →
        Took free s s' taken → goodRoot bs t' → (treeBlocks t').Perm (treeBlocks t ++ taken) →
        StateInv free bs s' t' ∧ flatten t' = flatten t ++ a0 :: rest ∧
          ∃ taken, taken.length = m ∧ Took free s s' taken ∧ (treeBlocks t').Perm (treeBlocks t ++ taken) :=
      fun t' m s' taken h hm hT hr hp =>
        ⟨stateInv_step hI hT hp hr (hfl t' m s' h ▸ hs), hfl t' m s' h, taken, hm, hT, hp⟩
    cases t with
    | leaf max disk exts =>
      obtain ⟨rfl, rfl, _⟩ := hI.tree.root
      simp only [extend] at fin ⊢
      have := extendRootLeaf_good A free hA bs s exts (a0 :: rest) (by simpa [flatten] using hs) hI.zero
      generalize extendRootLeaf true A s bs 4 0 exts (a0 :: rest) = r at this fin ⊢
      cases r with
      | ok res =>
        obtain ⟨t', m, s'⟩ := res
        obtain ⟨taken, hm, hT, hr, htb⟩ := this
        exact fin t' m s' taken rfl hm hT hr (by rw [htb]; simp [treeBlocks])
      | err e => cases e <;> exact this
      | _ => exact this
    | index max disk depth kids =>
      obtain ⟨rfl, rfl, hl, hne, hg⟩ := hI.tree.root
      simp only [extend] at fin ⊢
      have := extendIx_good A free hA bs depth s none 4 0 kids a0 rest hne hl hg
        (Or.inl ⟨rfl, rfl, rfl, h3⟩) (by simpa [flatten] using hs) (by simpa [treeBlocks] using hI.tree.nodup) hI.zero
      generalize extendIx true A bs depth s none 4 0 depth kids (a0 :: rest) = r at this fin ⊢
      cases r with
      | ok res =>
        obtain ⟨t', m, s'⟩ := res
        obtain ⟨taken, kids', depth', hm, hT, rfl, hne', hl', hg', hp', _⟩ := this
        exact fin _ m s' taken rfl hm hT ⟨rfl, rfl, hl', hne', hg'⟩ (by simpa [treeBlocks] using hp')
      | err e => cases e <;> exact this
      | _ => exact this

/-- exttree_history_inv: the invariant theorem over a whole history. A file starts with no tree (or any tree that
    has the invariant: a new file of the library carries the empty root leaf) and extendExtentTree is called once per allocation with a non-empty list of extents, all of
    them in increasing file-block order behind what the file has. For EVERY such list of calls, allocator with the
    laws `AllocOK` and block size: the history never panics / loses a node / writes over another node; it stops only
    with `nospace` (and then the allocator has a request it refuses) or `unsupported` (of which the statement says no
    more); and when all calls succeed the final tree has the
    invariant, denotes exactly the extents of all calls in order, and the sum of the metaBlocks the calls reported
    (what File.Write adds to i_blocks) is the number of blocks taken from the allocator over the whole history -
    which are exactly the node blocks the final tree has more than the first one, pairwise distinct. -/
theorem exttree_history_inv {σ : Type} (A : ExtTree.Allocator σ) (free : σ → Nat → Bool) (hA : ExtTree.AllocOK A free)
    (bs : Nat) (h3 : 3 ≤ ExtTree.nonRootMax bs) (calls : List (List Extent)) (hne : ∀ c ∈ calls, c ≠ [])
    (s : σ) (t : Option ExtTree.Node) (hI : ExtTree.OInv free bs s t)
    (hs : ExtTree.SortedFB (ExtTree.oflat t ++ calls.flatten)) :
    match ExtTree.runExtends A bs s t calls with
    | .ok (s', t', M) =>
      ExtTree.OInv free bs s' t' ∧ ExtTree.oflat t' = ExtTree.oflat t ++ calls.flatten ∧
        ∃ taken, taken.length = M ∧ ExtTree.Took free s s' taken ∧
          (ExtTree.oblocks t').Perm (ExtTree.oblocks t ++ taken)
    | .err .nospace => ∃ s0 n, A.take s0 n = none
    | .err .unsupported => True
    | _ => False := by
  open ExtTree in
    revert s t
    induction calls with
    | nil =>
      intro s t hI _
      simp only [runExtends, List.flatten_nil, List.append_nil]
      exact ⟨hI, trivial, [], rfl, Took.refl free s, by simp⟩
    | cons a as ih =>
      intro s t hI hs
      obtain ⟨a0, rest, rfl⟩ := List.exists_cons_of_ne_nil (hne a (by simp))
      simp only [List.flatten_cons] at hs
      rw [← List.append_assoc] at hs
      -- the first call
      have hstep : match extend true A s bs t (a0 :: rest) with
          | .ok (t', m, s') =>
            StateInv free bs s' t' ∧ flatten t' = oflat t ++ a0 :: rest ∧
              ∃ taken, taken.length = m ∧ Took free s s' taken ∧ (treeBlocks t').Perm (oblocks t ++ taken)
          | .err .nospace => ∃ s0 n, A.take s0 n = none
          | .err .unsupported => True
          | _ => False := by
        cases t with
        | none =>
          simp only [extend]
          by_cases h4 : (a0 :: rest).length ≤ 4
          · rw [if_pos h4]
            refine ⟨⟨⟨⟨rfl, rfl, h4⟩, ?_, by simp [treeBlocks]⟩, hI, by simp [treeBlocks]⟩, by simp [flatten, oflat], [], rfl,
              Took.refl free s, by simp [treeBlocks, oblocks]⟩
            simpa [flatten, oflat] using hs.of_append_left
          · rw [if_neg h4]; trivial
        | some t0 =>
          have := exttree_extend_total A free hA bs h3 s t0 a0 rest hI (by simpa [oflat] using hs.of_append_left)
          generalize extend true A s bs (some t0) (a0 :: rest) = r at this ⊢
          cases r with
          | err e => cases e <;> first | exact this | trivial
          | _ => exact this
      simp only [runExtends]
      generalize extend true A s bs t (a0 :: rest) = r at hstep ⊢
      cases r with
      | err e => cases e <;> first | exact hstep | trivial
      | panic | weird => exact hstep
      | ok res =>
        obtain ⟨t1, m, s1⟩ := res
        simp only at hstep ⊢
        obtain ⟨hI1, hfl1, taken1, hm1, hT1, hp1⟩ := hstep
        have := ih (fun c hc => hne c (by simp [hc])) s1 (some t1) hI1 (by simpa [oflat, hfl1] using hs)
        generalize runExtends A bs s1 (some t1) as = r2 at this ⊢
        cases r2 with
        | err e => cases e <;> first | exact this | trivial
        | panic | weird => exact this
        | ok res2 =>
          obtain ⟨s2, t2, M⟩ := res2
          simp only at this ⊢
          obtain ⟨hI2, hfl2, taken2, hm2, hT2, hp2⟩ := this
          refine ⟨hI2, ?_, taken1 ++ taken2, by simp [hm1, hm2], hT1.trans hT2, ?_⟩
          · rw [hfl2]; simp [oflat, hfl1]
          · have : (oblocks (some t1) ++ taken2).Perm ((oblocks t ++ taken1) ++ taken2) := List.Perm.append_right _ hp1
            rw [List.append_assoc] at this
            exact hp2.trans this

/-- exttree_inv_decided: the checker the driver runs on every tree the correspondence reads from the device (op
    `ext4tree.inv`: the real trees after every compared extendExtentTree step and deeptree round, and damaged copies)
    decides exactly the invariant `TreeInv` of the two theorems above -/
theorem exttree_inv_decided (bs : Nat) (t : ExtTree.Node) : ExtTree.treeInvB bs t = true ↔ ExtTree.TreeInv bs t := by
  open ExtTree in
    simp only [treeInvB, nodupB, Bool.and_eq_true, goodRootB_iff, sortedB_iff, decide_eq_true_eq]
    constructor
    · rintro ⟨⟨h1, h2⟩, h3⟩; exact ⟨h1, h2, h3⟩
    · rintro ⟨h1, h2, h3⟩; exact ⟨⟨h1, h2⟩, h3⟩

/-- exttree_bmalloc_ok: the allocator the correspondence runs the tree mirror with - allocateExtents' fast path over
    the block bitmaps, refused when the superblock counts too few free blocks (`bmAlloc`, compared with the real
    allocateExtents answers on every step of the extent-tree sequences and deeptree histories) - has the laws
    `AllocOK` for every first data block and group size, with `free` = `the block lies in a group and its bit is
    clear`: so `exttree_extend_total` / `exttree_history_inv` hold for histories driven by it -/
theorem exttree_bmalloc_ok (fdb bpg : Nat) : ExtTree.AllocOK (ExtTree.bmAlloc fdb bpg) (ExtTree.bmFree fdb bpg) := by
  open ExtTree in
    refine ⟨?_, ?_⟩
    · intro s n b s' h i hi
      obtain ⟨g, p, bm, hbm, hbits, _, hmem⟩ := bmAlloc_take h
      obtain ⟨hx, hg, hq⟩ := (hmem (b + i)).1 ⟨by omega, by omega⟩
      simp [bmFree, hx, hg, hbm, hbits _ hq.1 hq.2]
    · intro s n b s' h x
      obtain ⟨g, p, bm, hbm, hbits, hs', hmem⟩ := bmAlloc_take h
      simp only [bmFree, hs', hmem x]
      rw [zipIdx_map_get s.groups (fun b => Alloc.setRun b p n) g]
      by_cases hx : fdb ≤ x
      · by_cases hg : (x - fdb) / bpg = g
        · simp only [hx, hg, hbm, if_true, Option.map_some, Alloc.setRun_get]
          by_cases hin : p ≤ (x - fdb) % bpg ∧ (x - fdb) % bpg < p + n
          · simp [hin, hbits _ hin.1 hin.2]
          · simp [hin]
        · simp [hx, hg]
      · simp [hx]

/-- non-vacuity: the bump allocator of the examples satisfies `AllocOK`; the depth-2 tree of the example above has
    the invariant with it; and a history of nine one-extent calls from no tree at all (block size 48: three entries
    per block node) runs through the root leaf, its split into two leaves in blocks, leaf splits under the root - four node
    blocks taken, four reported -/
example : ExtTree.AllocOK ExtTree.bump (fun s x => decide (s ≤ x)) := ExtTree.bump_ok
example : ExtTree.StateInv (fun s x => decide (s ≤ x)) 48 200
    (.index 4 0 2 [(0, .index 3 50 1 [(0, .leaf 3 51 [⟨0, 100, 1⟩, ⟨1, 101, 1⟩, ⟨2, 102, 1⟩])])]) := by
  refine ⟨⟨?_, ?_, ?_⟩, by decide, ?_⟩
  · simp [ExtTree.goodRoot, ExtTree.good, ExtTree.good.goodKids, ExtTree.nonRootMax, ExtTree.Node.depth, ExtTree.Node.firstKey]
  · simp [ExtTree.flatten, ExtTree.flattenKids, ExtTree.SortedFB]
  · simp [ExtTree.treeBlocks, ExtTree.treeBlocksKids, ExtTree.Node.disk]
  · simp [ExtTree.treeBlocks, ExtTree.treeBlocksKids, ExtTree.Node.disk]
example : ExtTree.OInv (fun s x => decide (s ≤ x)) 48 200 none := by simp [ExtTree.OInv]
example :
    ((ExtTree.runExtends ExtTree.bump 48 200 none
        ((List.range 9).map fun i => [⟨i, 100 + i, 1⟩])).toOption.map fun r =>
          (r.1, (ExtTree.oflat r.2.1).map (·.fileBlock), ExtTree.oblocks r.2.1, r.2.2)) =
      some (204, [0, 1, 2, 3, 4, 5, 6, 7, 8], [200, 201, 202, 203], 4) := by
  decide

/-! ### path walking (Model/Ext4/PathWalk.lean: readDirWithMkdir without creation, getEntryAndParent, splitPath) -/

/-- pathwalk_reaches_spec: for every directory structure on disk that represents a tree - the entries of every
    directory are ".", ".." and its children - and every list of components none of which is "." or "..", the
    component-by-component walk of the library (first entry with the name, stop at anything that is not a directory:
    symlinks are not followed) ends in a directory exactly when the plain tree lookup does, and then in that very
    directory with its on-disk entries; in every other case it reports an error -/
theorem pathwalk_reaches_spec (dirs : PathWalk.Dirs) (cs : List Bytes) (p ino : Nat) (kids : List (Bytes × PathWalk.Tree))
    (i : Nat) (hrep : PathWalk.Represents dirs p (.dir ino kids)) (hv : ∀ c ∈ cs, PathWalk.validComp c) :
    (PathWalk.walk dirs ino (PathWalk.dots ino p ++ PathWalk.entriesOf kids) cs i).isDir? =
      PathWalk.reached (PathWalk.walkSpec p (.dir ino kids) cs) ∧
    (PathWalk.walkSpec p (.dir ino kids) cs).map (·.2) = PathWalk.specLookup (.dir ino kids) cs :=
  ⟨PathWalk.walk_spec dirs cs p ino kids i hrep hv, PathWalk.walkSpec_specLookup cs p (.dir ino kids)⟩

/-- pathwalk_lookup_spec: getEntryAndParent against the plain tree, from the root (inode 2): it returns the entry
    (name, inode number, type) of exactly the child the tree has under `base` in the directory the parent
    components lead to; `absent` (entry nil) exactly when that directory has no such child; and the error exactly
    when the tree lookup of the parent components does not end in a directory (a component is missing, or is a file
    or a symlink) -/
theorem pathwalk_lookup_spec (dirs : PathWalk.Dirs) (kids : List (Bytes × PathWalk.Tree)) (parent : List Bytes) (base : Bytes)
    (hrep : PathWalk.Represents dirs 2 (.dir 2 kids)) (hv : ∀ c ∈ parent, PathWalk.validComp c)
    (hb : PathWalk.validComp base) :
    PathWalk.lookup dirs parent base =
      match PathWalk.specLookup (.dir 2 kids) parent with
      | some (.dir _ ks) =>
        (match ks.find? (fun k => k.1 == base) with
          | some k => .entry (PathWalk.entryOf k)
          | none => .absent)
      | _ => .noParent := by
  open PathWalk in
    rw [lookup_isDir, readDir, hrep.1]
    simp only [walk_spec dirs parent 2 2 kids 0 hrep hv, ← walkSpec_specLookup parent 2 (.dir 2 kids)]
    cases walkSpec 2 (Tree.dir 2 kids) parent with
    | none => rfl
    | some q =>
      obtain ⟨p', t⟩ := q
      cases t with
      | file j => rfl
      | link j => rfl
      | dir j ks =>
        simp only [reached, Option.map_some, find_entries p' j ks base hb]
        cases ks.find? (fun k => k.1 == base) <;> rfl

/-- non-vacuity: a root with a directory `a` (inode 12) holding a file `f` (13) and a symlink `l` (14): the table of
    directories represents the tree; "a/f" is found, "a/x" is absent, "a/l/f" has no parent (links are not followed);
    and splitPath drops empty parts -/
def pwDirs : PathWalk.Dirs := fun i =>
  if i = 2 then some [⟨[46], 2, 2⟩, ⟨[46, 46], 2, 2⟩, ⟨[97], 12, 2⟩]
  else if i = 12 then some [⟨[46], 12, 2⟩, ⟨[46, 46], 2, 2⟩, ⟨[102], 13, 1⟩, ⟨[108], 14, 7⟩]
  else none
example : PathWalk.Represents pwDirs 2 (.dir 2 [([97], .dir 12 [([102], .file 13), ([108], .link 14)])]) := by
  simp [PathWalk.Represents, PathWalk.Represents.repKids, pwDirs, PathWalk.dots, PathWalk.entriesOf, PathWalk.entryOf,
    PathWalk.Tree.ino, PathWalk.Tree.ftype]
example : PathWalk.lookup pwDirs [[97]] [102] = .entry ⟨[102], 13, 1⟩ ∧ PathWalk.lookup pwDirs [[97]] [120] = .absent ∧
    PathWalk.lookup pwDirs [[97], [108]] [102] = .noParent ∧
    PathWalk.splitPath [97, 47, 47, 102] = [[97], [102]] := by decide

end Diskfs.Ext4.C04
