/-
  C08 — FAT volumes stay structurally sound on disk.

  `Inv k lim m owners` (Model/Fat/Chain.lean) is the cluster-map half of soundness: every
  directory entry's chain consists of in-range clusters ending in an end-of-chain mark, no
  cluster is in two chains, and no cluster is marked used that no chain owns.
  The theorems are for every table, every owner set, every operation history (induction),
  accepted or refused, for the repaired configuration `Cfg.fixed`; the as-found behaviour is
  refuted by concrete counterexamples (`cex_*`).
  In this order: the cluster-level machine `cstep` (Model/Fat/Fs.lean; proved here, it has no
  Proofs module) with the executable checker and the two FAT copies; the geometry the three
  `Create`s compute, for any well-formed cluster-size table and for the regenerated ones; the boot
  sector / FSInfo encoders; the one-directory model; the tree of directories (`tree_*`,
  `dir_rewrite_sound`, every directory fits its chain); the counterexamples for `cstep` as found;
  zero-length writes; the same soundness over the entries PARSED from the volume's bytes
  (`tree_parsed_entries_sound`, `dir_rewrite_holds_image`).
-/
import DiskfsModel.Proofs.FatChain
import DiskfsModel.Proofs.FatTable
import DiskfsModel.Model.Fat.Fs
import DiskfsModel.Proofs.FatGeomGen
import DiskfsModel.Proofs.FatFlatFs
import DiskfsModel.Proofs.FatTreeStep
import DiskfsModel.Proofs.FatTreeFit
import DiskfsModel.Proofs.FatTreeImgCheck
import DiskfsModel.Proofs.FatTreeImgStep
import DiskfsModel.Generated.Fat
import DiskfsModel.Proofs.FatBoot
import DiskfsModel.Proofs.FatEmptyWrite
namespace Diskfs.Fat.C08

/-- a volume geometry the theorems apply to: allocation limit inside both the FAT and the data
    area, cluster numbers below it are not end-of-chain values, clusters are not empty -/
structure GeomOk (g : VolGeom) : Prop where
  lim : LimOk g.kind (min g.max g.dataLim)
  bpc : 0 < g.bpc

theorem allocLim_fixed (g : VolGeom) : g.allocLim Cfg.fixed = min g.max g.dataLim := rfl

theorem inv_rotate {k lim m} {owners : List (List Nat)} {i : Nat} (h : Inv k lim m owners)
    (hi : i < owners.length) : Inv k lim m (owners[i] :: owners.eraseIdx i) := by
  refine inv_perm (List.Perm.symm ?_) h
  have h1 : owners = owners.take i ++ owners[i] :: owners.drop (i + 1) := by
    rw [List.getElem_cons_drop]
    exact (List.take_append_drop i owners).symm
  rw [List.eraseIdx_eq_take_drop_succ]
  conv => rhs; rw [h1]
  exact List.perm_middle.symm

/-- **inv_preserved**: every operation of the repaired filesystem, accepted or refused, keeps
    the cluster map sound. -/
theorem inv_preserved (g : VolGeom) (hg : GeomOk g) (fuel : Nat) (s : CState) (op : COp)
    (hfuel : ∀ l ∈ s.owners, l.length ≤ fuel)
    (h : Inv g.kind (min g.max g.dataLim) s.m s.owners) :
    Inv g.kind (min g.max g.dataLim) (cstep Cfg.fixed g fuel s op).1.m (cstep Cfg.fixed g fuel s op).1.owners := by
  have hmax : min g.max g.dataLim ≤ g.max := Nat.min_le_left ..
  cases op with
  | create size =>
    simp only [cstep]
    split
    · exact h
    · rename_i hs
      rw [allocLim_fixed]
      split
      · rename_i l hres
        exact (alloc_new_inv h (firstFit_spec _) hg.bpc (Nat.pos_of_ne_zero hs) hres).1
      · rename_i hres
        rw [alloc_refused_unchanged hres]
        exact h
  | resize i size =>
    simp only [cstep]
    split
    · rename_i hi
      rw [allocLim_fixed]
      have hrot := inv_rotate h hi
      have hf : (s.owners[i]).length ≤ fuel := hfuel _ (List.getElem_mem hi)
      split
      · rename_i l' hres
        by_cases hlt : clusterCount g.bpc size < (s.owners[i]).length
        · simp only [hlt, if_true]
          exact (alloc_shrink_inv (pick := firstFit (min g.max g.dataLim)) hrot hg.lim hmax hg.bpc hf hlt).2
        · simp only [hlt, if_false]
          exact (alloc_grow_inv hrot (firstFit_spec _) hg.lim hmax hf (Nat.le_of_not_lt hlt) hres).1
      · rename_i hres
        rw [alloc_refused_unchanged hres]
        exact h
    · exact h
  | remove i =>
    simp only [cstep]
    split
    · rename_i hi
      have hrot := inv_rotate h hi
      have hf : (s.owners[i]).length ≤ fuel := hfuel _ (List.getElem_mem hi)
      have := freeChain_inv hrot hg.lim hmax hf
      simp only [Cfg.fixed, if_true]
      rw [this.1]
      exact this.2
    · exact h

/-- chains never get longer than the data area, so one fuel value serves a whole history -/
theorem owners_bounded {k lim m owners} (h : Inv k lim m owners) : ∀ l ∈ owners, l.length ≤ lim - 2 :=
  fun l hl => (inv_chain_fuel h (Nat.le_refl _) l hl).2

/-- **inv_history**: soundness after every prefix of every operation history (induction over the
    history), with the walks' fuel fixed at the size of the data area. -/
theorem inv_history (g : VolGeom) (hg : GeomOk g) (ops : List COp) (s : CState)
    (h : Inv g.kind (min g.max g.dataLim) s.m s.owners) :
    Inv g.kind (min g.max g.dataLim) (crun Cfg.fixed g (min g.max g.dataLim - 2) s ops).m
      (crun Cfg.fixed g (min g.max g.dataLim - 2) s ops).owners := by
  induction ops generalizing s with
  | nil => exact h
  | cons op rest ih =>
    simp only [crun, List.foldl_cons]
    exact ih _ (inv_preserved g hg _ s op (owners_bounded h) h)

/-- a refused operation leaves the table exactly as it was -/
theorem refused_unchanged (c : Cfg) (g : VolGeom) (fuel : Nat) (s : CState) (op : COp)
    (h : (cstep c g fuel s op).2 = false) : (cstep c g fuel s op).1.m = s.m := by
  cases op with
  | create size =>
    simp only [cstep] at h ⊢
    by_cases hs : size = 0
    · simp [hs]
    · simp only [hs, if_false] at h ⊢
      cases hres : (allocateSpace g.kind g.max g.bpc (firstFit (g.allocLim c)) fuel s.m size 0).res with
      | some l => simp [hres] at h
      | none => exact alloc_refused_unchanged hres
  | resize i size =>
    simp only [cstep] at h ⊢
    by_cases hi : i < s.owners.length
    · simp only [hi, dite_true, List.headD_eq_head?_getD] at h ⊢
      cases hres : (allocateSpace g.kind g.max g.bpc (firstFit (g.allocLim c)) fuel s.m size ((s.owners[i]).head?.getD 0)).res with
      | some l => simp [hres] at h
      | none => exact alloc_refused_unchanged hres
    · simp [hi]
  | remove i =>
    simp only [cstep] at h ⊢
    by_cases hi : i < s.owners.length
    · simp only [hi, dite_true] at h ⊢
      by_cases hc : c.removeFreesChain = true
      · simp only [hc, if_true, List.headD_eq_head?_getD] at h ⊢
        by_cases hr : (freeChain g.kind g.max fuel s.m ((s.owners[i]).head?.getD 0)).2 = true
        · simp [hr] at h
        · simp [hr]
      · simp [hc] at h
    · simp [hi]

/-- **sound_iff_inv**: the executable checker the driver runs on what the real code produced
    (table + chains read from the directory entries) decides exactly the invariant. -/
theorem sound_iff_inv (k : Kind) (lim : Nat) (m : CMap) (owners : List (List Nat)) :
    invB k lim m owners = true ↔ Inv k lim m owners := invB_iff

/-- both FAT copies receive the same bytes: reading the two regions back after `WriteFat`
    gives the same image, whatever was on the device (copies do not overlap). -/
theorem fat_copies_equal (d : Dev) (k : Kind) (fatID size : Nat) (m : CMap) (p1 p2 : Nat)
    (hdis : p1 + (tableBytes k fatID size m).length ≤ p2) :
    let b := tableBytes k fatID size m
    let d' := applyWrs d [⟨p1, b⟩, ⟨p2, b⟩]
    readAt d' p1 b.length = readAt d' p2 b.length := by
  intro b d'
  have h2 : readAt d' p2 b.length = b := by
    simp only [d', applyWrs, List.foldl_cons, List.foldl_nil]
    exact readAt_applyWr_same (applyWr d ⟨p1, b⟩) ⟨p2, b⟩
  have h1 : readAt d' p1 b.length = b := by
    simp only [d', applyWrs, List.foldl_cons, List.foldl_nil]
    rw [readAt_applyWr_disjoint _ ⟨p2, b⟩ p1 b.length (Or.inl hdis)]
    exact readAt_applyWr_same d ⟨p1, b⟩
  rw [h1, h2]

/-! ### geometry computed at mkfs time (mirror of the three `Create`s over the regenerated tables) -/

/-- **the geometry theorems are parametric in the cluster-size tables**: for EVERY table that
    satisfies the decidable predicate `ClusterTableWF` (rows in increasing order of size, cluster
    sizes non-decreasing, each a power of two between 1 and 128 sectors; FAT32: 512…32768 bytes and
    no row whose sizes would wrap the 16-bit sectors-per-FAT field) the mirrored mkfs arithmetic
    yields a well-formed geometry for every size it accepts.  Nothing in the proofs mentions a
    threshold of today's tables. -/
theorem create_geom12_any_table (tbl : List (Nat × Nat)) (hT : ClusterTableWF spcAllowed tbl = true)
    (size : Nat) (g : Geom) (h : mkGeom12 tbl size = some g) :
    g.WF size ∧ g.kind = .f12 ∧ g.clusters < 4085 := mkGeom12_wf_tbl tbl hT size g h

theorem create_geom16_any_table (tbl : List (Nat × Nat)) (hT : ClusterTableWF spcAllowed tbl = true)
    (size : Nat) (g : Geom) (h : mkGeom16 tbl size = some g) :
    g.WF size ∧ g.kind = .f16 ∧ 4085 ≤ g.clusters ∧ g.clusters < 65525 := mkGeom16_wf_tbl tbl hT size g h

theorem create_geom32_any_table (tbl : List (Nat × Nat)) (hT : ClusterTableWF32 tbl = true)
    (size bs : Nat) (g : Geom) (hmax : size ≤ 274940771839 ∨ bs = 4096)
    (h : mkGeom32Fixed tbl size bs = some g) : g.WF size ∧ g.kind = .f32 :=
  mkGeom32Fixed_wf_tbl tbl hT size bs g hmax h

/-- the tables regenerated from /repo on this run satisfy the predicate (`decide`, re-run every
    time): a harmless edit of a threshold re-proves everything below by itself -/
theorem facts_tables_wf :
    ClusterTableWF spcAllowed Generated.Fat.fat12_spc_table = true ∧
    ClusterTableWF spcAllowed Generated.Fat.fat16_spc_table = true ∧
    ClusterTableWF32 Generated.Fat.fat32_clusterBytes_table = true :=
  ⟨fat12_table_wf, fat16_table_wf, fat32_table_wf⟩

/-- … while harmful edits are refused by the predicate: a cluster size that is not a power of two,
    one that is not a multiple of the sector size, thresholds out of order, cluster sizes that
    shrink as the volume grows, a FAT32 row that keeps 512-byte clusters up to 64 GiB (the 16-bit
    sectors-per-FAT would wrap) — and a moved threshold is accepted -/
theorem table_predicate_discriminates :
    ClusterTableWF spcAllowed [(2097153, 1), (4194305, 3), (0, 64)] = false ∧
    ClusterTableWF32 [(272629761, 768), (0, 32768)] = false ∧
    ClusterTableWF spcAllowed [(4194305, 1), (2097153, 2), (0, 64)] = false ∧
    ClusterTableWF spcAllowed [(2097153, 4), (4194305, 2), (0, 64)] = false ∧
    ClusterTableWF32 [(68719476737, 512), (0, 32768)] = false ∧
    ClusterTableWF32 [(134217729, 512), (8589934593, 4096), (17179869185, 8192), (34359738369, 16384), (0, 32768)] = true :=
  ⟨by decide, by decide, by decide, by decide, by decide, table_harmless_edit.2⟩

/-- **create_geom12 / 16**: for EVERY size FAT12 / FAT16 `Create` accepts, the boot-sector geometry
    matches the byte range given (sector count, nothing beyond the range), reserved area + both
    FATs + root region lie in front of a non-empty data area, the FAT has an entry for every
    cluster plus the two reserved ones, every data cluster lies inside the range, and the cluster
    count is on the right side of 4085 / 65525. -/
theorem create_geom12 (size : Nat) (g : Geom) (h : mkGeom12 Generated.Fat.fat12_spc_table size = some g) :
    g.WF size ∧ g.kind = .f12 ∧ g.clusters < 4085 := mkGeom12_wf size g h

theorem create_geom16 (size : Nat) (g : Geom) (h : mkGeom16 Generated.Fat.fat16_spc_table size = some g) :
    g.WF size ∧ g.kind = .f16 ∧ 4085 ≤ g.clusters ∧ g.clusters < 65525 := mkGeom16_wf size g h

/-- FAT32 with the repaired sectors-per-FAT formula: well formed for every accepted size up to
    256 GiB with 512-byte sectors and for every accepted size with 4096-byte sectors -/
theorem create_geom32_fixed (size bs : Nat) (g : Geom) (hmax : size ≤ 274940771839 ∨ bs = 4096)
    (h : mkGeom32Fixed Generated.Fat.fat32_clusterBytes_table size bs = some g) :
    g.WF size ∧ g.kind = .f32 := mkGeom32Fixed_wf size bs g hmax h

/-- as found (before fix 911b8cc) the FAT32 FAT was short of the two reserved entries on a whole
    family of ordinary sizes (finding fat32-fatsize-omits-reserved-entries, now fixed): wherever
    the table assigns 512-byte clusters, 130k+32 sectors give 128k clusters and 128k entries -/
theorem cex_fat32_fat_short (tbl : List (Nat × Nat)) (k r : Nat) (hk1 : 1 ≤ k) (hk2 : k ≤ 4095) (hr : r < 512)
    (hl : sizeTableLookup tbl ((32 + 130 * k) * 512 + r) = 512) :
    (mkGeom32 tbl ((32 + 130 * k) * 512 + r) 512).map
      (fun g => (g.fatEntries, g.clusters)) = some (128 * k, 128 * k) := by
  rw [mkGeom32_fat_short_family tbl k r hk1 hk2 hr hl]
  simp only [Option.map, Geom.fatEntries, Geom.clusters, Geom.dataSectors, Geom.rootSectors,
    Option.some.injEq, Prod.mk.injEq]
  omega

/-- … e.g. today's table at 161 sectors: 1 FAT sector = 128 entries for 127 clusters (129 needed) -/
theorem cex_fat32_fat_short_161 :
    (mkGeom32 Generated.Fat.fat32_clusterBytes_table 82432 512).map
      (fun g => (g.fatSectors, g.fatEntries, g.clusters)) = some (1, 128, 127) := cex_mkGeom32_fat_short

/-- above 256 GiB the uint16 sectors-per-FAT wraps (finding fat32-geometry-narrow-integers) -/
theorem cex_fat32_300GiB :
    (mkGeom32 Generated.Fat.fat32_clusterBytes_table (300 * GB) 512).map
      (fun g => decide (g.fatEntries < g.clusters + 2)) = some true := cex_mkGeom32_300GiB

/-- the FAT12 sizing before `fix: fat12/fat16: size the FAT for the two reserved entries as well` -/
theorem cex_fat12_fat_short_old :
    (mkGeom12Old Generated.Fat.fat12_spc_table 33554944).map
      (fun g => (g.fatEntries, g.clusters + 2)) = some (2048, 2049) := cex_fatsize_old_values

/-! ### boot sector, backup boot sector, FSInfo: byte encoders (mirrors of the `toBytes` writers) -/

/-- the 512-byte FAT12/16 boot sector `msDosBootSector.toBytes` builds (jump, OEM name, DOS 2.0 /
    3.31 BPB, DOS 4.0 EBPB with label and type, boot code, 55 AA) decodes, field by field at the
    fixed offsets, to exactly the record it was built from -/
theorem boot16_roundtrip (s : Boot16) (h : s.WF) : Boot16.parse s.bytes = some s ∧ s.bytes.length = 512 :=
  ⟨Fat.boot16_roundtrip s h, boot16_length s h⟩

/-- the FAT32 boot sector (DOS 7.1 EBPB: 32-bit FAT size, root cluster, FSInfo and backup sector
    numbers, big-endian serial as the Go code writes it), for every sector size ≥ 512; the backup
    boot sector is this same byte string written at sector `backup` -/
theorem boot32_roundtrip (s : Boot32) (sectorSize : Nat) (h : s.WF) (hs : 512 ≤ sectorSize) :
    Boot32.parse (s.bytes sectorSize) = some s ∧ (s.bytes sectorSize).length = sectorSize :=
  ⟨Fat.boot32_roundtrip s sectorSize h, boot32_length s sectorSize h hs⟩

/-- the FSInfo sector: three signatures, free-cluster count and next-free hint -/
theorem fsinfo_roundtrip (s : FsInfo) (sectorSize : Nat) (h1 : s.free < 4294967296) (h2 : s.last < 4294967296) :
    FsInfo.parse (s.bytes sectorSize) = some s := Fat.fsinfo_roundtrip s sectorSize h1 h2

/-- the record fat32.Create builds from a geometry (sectors per FAT, root cluster 2, FSInfo at
    sector 1, backup boot sector at 6, …) is well formed, so it is read back exactly from the boot
    sector and from its backup copy -/
theorem create_boot32_roundtrip (g : Geom) (serial : Nat) (label : Bytes) (hs : serial < 4294967296)
    (hl : label.length = 11) (hk : g.kind = .f32) (hbps : g.bps < 65536) (hspc : g.spc < 256)
    (hres : g.reserved < 65536) (hts : g.totalSectors < 4294967296) (hfs : g.fatSectors < 4294967296) :
    Boot32.parse ((boot32OfGeom g serial label).bytes g.bps) = some (boot32OfGeom g serial label) :=
  Fat.boot32_roundtrip _ _ (create_boot32_wf g serial label hs hl hk hbps hspc hres hts hfs)

/-- every call of the one-directory filesystem, accepted or refused, keeps `FInv`, whose first
    field is the cluster-map invariant over exactly the chains the directory's files own -/
theorem onedir_inv_preserved (eqn) (g : FGeom) (fuel : Nat) (s : FState) (op : FOp)
    (he : EqnOk eqn) (hb : 0 < g.io.bpc) (hlim : LimOk g.kind g.lim) (hmax : g.lim ≤ g.max)
    (hfuel : g.lim - 2 ≤ fuel) (h : FInv eqn g s) :
    Inv g.kind g.lim (fstep eqn g fuel s op).1.m ((fstep eqn g fuel s op).1.files.map (·.chain)) :=
  (fstep_inv he hb hlim hmax hfuel s op h).table

/-! ### the tree of directories keeps its table sound (layer E, Model/Fat/TreeFs.lean) -/

/-- **tree_inv_preserved**: every path-addressed call on the tree model of a volume (mkdir,
    create, write, truncating open, remove, rename; every one rewrites a parent directory whose
    chain may grow or shrink), accepted or refused, keeps the cluster map sound with EXACTLY the
    chains of the tree's files and directories (and the root directory's chain on FAT32) as owners:
    every chain in range and end-of-chain terminated, no cluster in two chains, no cluster marked
    used that no file or directory owns. -/
theorem tree_inv_preserved (eqn) (g : TGeom) (fuel : Nat) (s : DirSt) (op : TOp)
    (he : EqnOk eqn) (hg : TGeomOk g) (hfuel : g.f.lim - 2 ≤ fuel) (h : TInv eqn g s) :
    Inv g.f.kind g.f.lim (tstep eqn g fuel s op).1.m
      (chainOwner (tstep eqn g fuel s op).1.chain ++ kidsOwners (tstep eqn g fuel s op).1.kids) :=
  (tstep_inv he hg hfuel s op h).table

/-- **tree_inv_history**: the same after every history (induction over the call list) -/
theorem tree_inv_history (eqn) (g : TGeom) (fuel : Nat) (ops : List TOp) (s : DirSt)
    (he : EqnOk eqn) (hg : TGeomOk g) (hfuel : g.f.lim - 2 ≤ fuel) (h : TInv eqn g s) :
    Inv g.f.kind g.f.lim (trun eqn g fuel s ops).m
      (chainOwner (trun eqn g fuel s ops).chain ++ kidsOwners (trun eqn g fuel s ops).kids) :=
  (trun_inv he hg hfuel ops s h).table

/-- **tree_no_orphans_no_crosslinks**: spelled out — after every history every cluster of the data
    area is marked used exactly when it lies in the chain of some file or directory of the tree
    (no lost clusters), and it lies in at most one place of at most one chain (no cross links) -/
theorem tree_no_orphans_no_crosslinks (eqn) (g : TGeom) (fuel : Nat) (ops : List TOp) (s : DirSt)
    (he : EqnOk eqn) (hg : TGeomOk g) (hfuel : g.f.lim - 2 ≤ fuel) (h : TInv eqn g s) :
    let s' := trun eqn g fuel s ops
    let owned := (chainOwner s'.chain ++ kidsOwners s'.kids).flatten
    (∀ c, 2 ≤ c → c < g.f.lim → (s'.m c ≠ 0 ↔ c ∈ owned)) ∧ owned.Nodup := by
  intro s' owned
  have := tree_inv_history eqn g fuel ops s he hg hfuel h
  exact ⟨this.used_iff, this.nodup⟩

/-- **dir_rewrite_sound**: `writeDirectoryEntries` on a directory whose entries now need a
    different number of clusters grows or shrinks the directory's chain to exactly that number,
    keeps the cluster map sound with the new chain in place of the old one, keeps a fixed root
    fixed, and leaves the bytes of every other chain as they were -/
theorem dir_rewrite_sound (g : TGeom) (fuel : Nat) (m : CMap) (d : Dev) (chain : List Nat) (base : Nat)
    (ks : List TNode) (img : Bytes) (w : WD) (R : List (List Nat))
    (hg : TGeomOk g) (hfuel : g.f.lim - 2 ≤ fuel)
    (h : Inv g.f.kind g.f.lim m (chainOwner chain ++ R))
    (hw : writeDir g fuel m d chain base ks img = .ok w) :
    Inv g.f.kind g.f.lim w.m (chainOwner w.chain ++ R) ∧ (w.chain = [] ↔ chain = []) ∧
    (∀ o ∈ R, chainBytes w.d g.f.io o = chainBytes d g.f.io o) ∧
    (chain ≠ [] → w.chain.length = dirNeed g base ks) :=
  writeDir_ok hg hfuel h hw

/-- **tree_dirs_fit**: no directory is ever larger than its chain. `TFit`: every chained directory
    of the tree (the FAT32 root included) has exactly the clusters its entries need — what
    `writeDirectoryEntries` leaves behind — and the fixed FAT12/16 root has a slot for every entry.
    Every path-addressed call, accepted or refused for whatever reason, keeps that: in particular a
    Remove / Rename that is refused for lack of space has not cut the parent directory short of its
    entries (the defect of finding fat-rename-enospc-truncates-dir, fixed by 5b30bf0). -/
theorem tree_dirs_fit (eqn) (g : TGeom) (fuel : Nat) (s : DirSt) (op : TOp)
    (he : EqnOk eqn) (hb64 : 64 ≤ g.f.io.bpc) (h : TInv eqn g s) (hfit : TFit g s) :
    TFit g (tstep eqn g fuel s op).1 :=
  tstep_fit he hb64 s op h.wf hfit

/-- … and after every history (induction over the call list) -/
theorem tree_dirs_fit_history (eqn) (g : TGeom) (fuel : Nat) (ops : List TOp) (s : DirSt)
    (he : EqnOk eqn) (hg : TGeomOk g) (hfuel : g.f.lim - 2 ≤ fuel) (hb64 : 64 ≤ g.f.io.bpc)
    (h : TInv eqn g s) (hfit : TFit g s) : TFit g (trun eqn g fuel s ops) :=
  trun_fit he hg hfuel hb64 ops s h hfit

/-- non-vacuity: directory "B" (two clusters of 64 bytes, two slots per name) holding the file "A" -/
example : TGeomOk exTGeom2 ∧ 64 ≤ exTGeom2.f.io.bpc ∧ TInv exEqn exTGeom2 exTree2 ∧ TFit exTGeom2 exTree2 :=
  ⟨exTGeom2_ok, by decide, exTree2_inv, exTree2_fit⟩

/-- non-vacuity of the tree theorems' hypotheses -/
example : EqnOk exEqn ∧ TGeomOk exTGeom ∧ exTGeom.f.lim - 2 ≤ 8 ∧ TInv exEqn exTGeom exTree :=
  ⟨exEqn_ok, exTGeom_ok, by decide, exTree_inv⟩

/-- … and of `dir_rewrite_sound`: the directory "B" (chain 3 → 4) rewritten with five entries needs
    a third cluster and gets cluster 5 -/
example :
    (match writeDir exTGeom 8 exTable (fun _ => 0) [3, 4] 2
        [.file [67] [9] 0, .file [68] [9] 0, .file [69] [9] 0] [] with
      | .ok w => w.chain
      | .error _ => []) = [3, 4, 5] := by decide

/-- as found, Remove drops the entry and leaves its chain marked used: the invariant breaks
    (finding fat-remove-leaks-chain) -/
theorem cex_remove_leaks :
    let g : VolGeom := ⟨.f12, 10, 10, 512⟩
    let s : CState := ⟨exTable, [[2], [3, 4]]⟩
    invB .f12 10 s.m s.owners = true ∧
    invB .f12 10 (cstep Cfg.asFound g 10 s (.remove 1)).1.m (cstep Cfg.asFound g 10 s (.remove 1)).1.owners = false ∧
    invB .f12 10 (cstep Cfg.fixed g 10 s (.remove 1)).1.m (cstep Cfg.fixed g 10 s (.remove 1)).1.owners = true := by
  decide

/-- as found, the allocator scans up to the number of FAT entries: once the data area
    (clusters 2..3 here) is full it hands out cluster 4, which lies past the volume
    (finding fat-maxcluster-from-fat-size); repaired, the request is refused. -/
theorem cex_maxcluster :
    let g : VolGeom := ⟨.f12, 6, 4, 512⟩
    let s : CState := ⟨CMap.ofList [0, 0, 0xFFF, 0xFFF], [[2], [3]]⟩
    (cstep Cfg.asFound g 10 s (.create 1)).1.owners = [[4], [2], [3]] ∧
    (cstep Cfg.asFound g 10 s (.create 1)).2 = true ∧
    (cstep Cfg.fixed g 10 s (.create 1)).2 = false := by
  decide

/-! non-vacuity -/
example : GeomOk ⟨.f12, 3072, 2849, 512⟩ :=
  ⟨by intro c hc; have : c < 2849 := by simpa using hc
      simp only [Kind.isEOC]; simp; omega, by decide⟩

example : Inv .f12 (min 10 10) exTable [[2], [3, 4]] := ex_inv

/-- **empty_write_keeps_invariant**: `File.Write` of an empty buffer, mirrored without a shortcut
    for `len(p) = 0` (`fileWriteRaw`), at an offset inside a well-formed file or at its end (not a
    positive whole number of clusters): accepted, chain and size as before, and the table it leaves
    - for an EMPTY file allocateSpace(0, c) goes through the shrink branch with count = 0, keeps the
    first cluster and marks it end-of-chain again, whatever end-of-chain value it carried - still
    meets the invariant with the SAME owners: the cluster stays the file's, nobody else can be
    handed it.  (A shrink that released `clusters[count:]` for count = 0 would free a cluster its
    directory entry still names: `cex_shrink_to_zero_frees_owned`.) -/
theorem empty_write_keeps_invariant (g : FGeom) (fuel : Nat) (m : CMap) (d : Dev) (l : List Nat)
    (others : List (List Nat)) (size off : Nat)
    (hb : 0 < g.io.bpc) (hlim : LimOk g.kind g.lim) (hmax : g.lim ≤ g.max) (hf : l.length ≤ fuel)
    (h : Inv g.kind g.lim m (l :: others))
    (hlen : l.length = Nat.max (clusterCount g.io.bpc size) 1)
    (hoff : off ≤ size) (hnb : ¬ (0 < off ∧ off = size ∧ off % g.io.bpc = 0)) :
    ∃ m' w, fileWriteRaw g fuel m d l size off [] = .ok m' d l size w ∧
      Inv g.kind g.lim m' (l :: others) ∧ (∀ i, i ≠ l.headD 0 → m' i = m i) := by
  have ha := alloc_same_size (pick := firstFit g.lim) (bpc := g.io.bpc) h hlim hmax hf hlen
  have hns : Nat.max size (off + ([] : Bytes).length) = size := by
    show Max.max size (off + 0) = size; omega
  obtain ⟨ws, hws, hd⟩ := writeH_nil_noop g.io d l size off hb hlen hoff hnb
  unfold fileWriteRaw falloc
  simp only [hns]
  rw [ha]
  by_cases hc : cnt size g.io.bpc = 0
  · rw [if_pos hc]
    simp only [hws, hd]
    refine ⟨_, true, rfl, ?_, fun i hi => CMap.set_ne m _ hi⟩
    have hl1 : l.length = 1 := by rw [hlen, show clusterCount g.io.bpc size = 0 from hc]; rfl
    match l, hl1, h with
    | [c], _, h => exact alloc_zero_keeps_inv h
  · rw [if_neg hc]
    simp only [hws, hd]
    exact ⟨m, false, rfl, h, fun _ _ => rfl⟩

example : ∃ m' w, fileWriteRaw ⟨.f12, 10, 10, ⟨0, 0, 4⟩⟩ 8 exTable (fun _ => 7) [2] 0 0 [] = .ok m' (fun _ => 7) [2] 0 w ∧
    Inv .f12 10 m' ([2] :: [[3, 4]]) ∧ (∀ i, i ≠ 2 → m' i = exTable i) :=
  empty_write_keeps_invariant ⟨.f12, 10, 10, ⟨0, 0, 4⟩⟩ 8 exTable (fun _ => 7) [2] [[3, 4]] 0 0 (by decide) ex_limOk
    (Nat.le_refl _) (by decide) ex_inv (by decide) (Nat.le_refl _) (by omega)

/-- a shrink branch that releases `clusters[count:]` and writes the end-of-chain mark only when
    count > 0 (a tidied-up allocateSpace without the clamp `lastAlloc < 0 → 0`) breaks the
    invariant on allocateSpace(0, c): the cluster of an empty file is free while its entry still
    owns it, and the first-fit scan hands it to the next file -/
theorem cex_shrink_to_zero_frees_owned :
    ¬ invB .f12 10 (freeAll exTable ([2].drop 0)) [[2], [3, 4]] = true
    ∧ firstFit 10 (freeAll exTable ([2].drop 0)) 1 = [2]
    ∧ invB .f12 10 (allocateSpace .f12 10 4 (firstFit 10) 8 exTable 0 2).m [[2], [3, 4]] = true := by decide

/-- **tree_parsed_entries_sound**: "every directory entry's chain made of in-range clusters ending
    in an end-of-chain mark and long enough for the recorded size", over the PARSED entries: in the
    bytes of the volume (`image`: every directory's chain holds the serialisation of its child
    list) a reader that parses the root directory, skips volume label, "." and "..", and descends
    into every subdirectory through the FAT (`reopenCheck`, to any depth) finds for EVERY entry a
    chain that `getClusterList` walks to its end, whose clusters lie in [2, lim) with consecutive
    links and an end-of-chain mark (`chainOkB`), and that has at least the clusters the entry's
    size field needs. For every state that meets the invariants, hence (`tree_inv_history`,
    `tree_dirs_fit_history`) after every history. -/
theorem tree_parsed_entries_sound (eqn) (X : ImgParams) (g : TGeom) (fuel depth : Nat) (s : DirSt)
    (hX : ImgParamsOk X g) (hg : TGeomOk g) (hfuel : g.f.lim - 2 ≤ fuel)
    (h : TInv eqn g s) (hfit : TFit g s) (hok : kidsImgOk X g s.kids) :
    reopenCheck g fuel depth s.m (image X g s) (s.chain.headD 0) = true := by
  unfold reopenCheck
  rw [root_parse hX hg hfuel h hfit hok, rootEntries, checkLvl_skip _ _ _ hX.pre_skip]
  exact check_kids hX hg s.kids (rootParOf X s) depth hX.par hok h.wf (image_subOk hX hg hfuel h hfit hok)

/-- … and after every history whose calls introduce only names the entry codec carries faithfully
    and write below 4 GiB (`OpOk`, so that `kidsImgOk` is kept: `trun_imgok`) -/
theorem tree_parsed_entries_sound_history (eqn) (X : ImgParams) (g : TGeom) (fuel depth : Nat) (ops : List TOp) (s : DirSt)
    (he : EqnOk eqn) (hX : ImgParamsOk X g) (hg : TGeomOk g) (hfuel : g.f.lim - 2 ≤ fuel) (hb64 : 64 ≤ g.f.io.bpc)
    (h : TInv eqn g s) (hfit : TFit g s) (hok : kidsImgOk X g s.kids) (hops : ∀ op ∈ ops, OpOk X g op) :
    reopenCheck g fuel depth (trun eqn g fuel s ops).m (image X g (trun eqn g fuel s ops))
      ((trun eqn g fuel s ops).chain.headD 0) = true :=
  tree_parsed_entries_sound eqn X g fuel depth _ hX hg hfuel (trun_inv he hg hfuel ops s h)
    (trun_fit he hg hfuel hb64 ops s h hfit) (trun_imgok ops s hops hok)

/-- non-vacuity: the volume `exTree2` with its label, subdirectory and file -/
example : reopenCheck exTGeom2 8 3 exTree2.m (image exX exTGeom2 exTree2) (exTree2.chain.headD 0) = true :=
  tree_parsed_entries_sound exEqn exX exTGeom2 8 3 exTree2 exX_ok exTGeom2_ok (by decide) exTree2_inv exTree2_fit
    exTree2_imgok

/-- the check is not vacuous: an entry whose size needs more clusters than its chain has fails it -/
example : entryChainOkB exTGeom2 8 exTree2.m
    { short := [65], ext := [], long := [], attr := 0, lcase := 0, cTime := 0, cDate := 0, aDate := 0, mTime := 0,
      mDate := 0, cluster := 2, size := 65 } = false := by decide

example : entryChainOkB exTGeom2 8 exTree2.m
    { short := [65], ext := [], long := [], attr := 0, lcase := 0, cTime := 0, cDate := 0, aDate := 0, mTime := 0,
      mDate := 0, cluster := 2, size := 64 } = true := by decide

/-- **dir_rewrite_holds_image**: the operational side of one rewrite. `writeDirectoryEntries` of
    the tree model (grow or shrink the chain to the clusters the entries need, one WriteAt per
    cluster), handed an image that fills the directory's new chain exactly — as `entriesToBytes`
    of the child list does (`level_image_length`) — leaves that chain reading as the image; the
    fixed root region of FAT12/16 reads as the fixed-size image. For every table, device, chain. -/
theorem dir_rewrite_holds_image (g : TGeom) (fuel : Nat) (m : CMap) (d : Dev) (chain : List Nat) (base : Nat)
    (ks : List TNode) (img : Bytes) (w : WD) (R : List (List Nat))
    (hg : TGeomOk g) (hfuel : g.f.lim - 2 ≤ fuel)
    (h : Inv g.f.kind g.f.lim m (chainOwner chain ++ R))
    (hw : writeDir g fuel m d chain base ks img = .ok w) :
    (chain ≠ [] → img.length = w.chain.length * g.f.io.bpc → chainBytes w.d g.f.io w.chain = img) ∧
    (chain = [] → img.length = 32 * g.rootCap → readAt w.d g.rootOff (32 * g.rootCap) = img) := by
  obtain ⟨hinv, hroot, _, _⟩ := writeDir_ok hg hfuel h hw
  obtain ⟨hd1, hd2⟩ := writeDir_dev hw
  constructor
  · intro hne hlen
    have hwne : w.chain ≠ [] := fun e => hne (hroot.1 e)
    rw [chainOwner_of_ne hwne] at hinv
    rw [hd1 hne]
    exact dirWrs_bytes g.f.io w.chain img d (inv_head hinv).2.1 (inv_ge2 hinv List.mem_cons_self) hlen
  · intro hnil hlen
    rw [hd2 hnil, show img.take (32 * g.rootCap) = img from by rw [← hlen, List.take_length]]
    have := readAt_applyWr_same d ⟨g.rootOff, img⟩
    rw [hlen] at this
    exact this

end Diskfs.Fat.C08
