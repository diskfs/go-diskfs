/-
  C12 — Existing filesystems and tables are recognised as what they are.

  Quantifiers: every prior device content (`stale : Dev`, an arbitrary function),
  every size Create accepts, every label / serial / FAT / root-directory payload,
  every probe order that satisfies the stated order constraints, every outcome of
  the parts of the readers that the header model does not read (`deep`).

  Full for FAT12, FAT16 and FAT32 (Create's write list, the readers' acceptance tests —
  for FAT32 including the FSInfo sector and the comparison of the two FAT copies — and
  the probe chain are all mirrored).  For squashfs, ext4 and iso9660 the `_hdr` theorems are
  the header level (hypotheses about the header bytes named in each statement); probe_create_sqfs,
  probe_create_ext4 and probe_create_iso put the write lists of Finalize / Create and the reader
  parts of Model/DetectMid.lean under them, and leave what lies behind those parts as the
  hypothesis `deep2` (for ext4 also that the superblock Create left decodes to its geometry).
-/
import DiskfsModel.Proofs.Detect
import DiskfsModel.Proofs.DetectFat32
import DiskfsModel.Proofs.DetectMid
import DiskfsModel.Proofs.DetectTable
import DiskfsModel.Proofs.DetectIso
import DiskfsModel.Proofs.DetectStale
import DiskfsModel.Model.Sqfs.Regions
import DiskfsModel.Generated.Detect
namespace Diskfs.Detect.C12
open Diskfs.Detect

/-- the model's parameters, taken from the regenerated facts -/
def genParams : Params :=
  { f12ReadGe := Generated.Detect.fat12ReadGe, f16ReadLt := Generated.Detect.fat16ReadLt,
    f16ReadGe := Generated.Detect.fat16ReadGe, f12CreateGe := Generated.Detect.fat12CreateGe,
    f16CreateLt := Generated.Detect.fat16CreateLt, f16CreateGe := Generated.Detect.fat16CreateGe,
    spc12 := Generated.Detect.fat12SpcTable, spc12d := Generated.Detect.fat12SpcDefault,
    spc16 := Generated.Detect.fat16SpcTable, spc16d := Generated.Detect.fat16SpcDefault,
    f12Max := Generated.Detect.fat12MaxSize, f16Max := Generated.Detect.fat16MaxSize,
    f32Max := Generated.Detect.fat32MaxSize,
    f12RefuseZero := Generated.Detect.fat12CreateRefusesZeroClusters,
    cb32 := Generated.Detect.fat32ClusterBytesTable, cb32d := Generated.Detect.fat32ClusterBytesDefault }

def genOrder : List Kind := Generated.Detect.fsProbeOrder.filterMap Kind.ofName?

/-- order constraints every theorem below needs: all six kinds are probed, the FAT kinds before
    iso9660 and ext4 (FAT Create does not wipe a stale descriptor at 32 KiB nor a stale superblock at
    1 KiB), squashfs before ext4 -/
def orderCore (order : List Kind) : Bool :=
  Kind.all.all (fun k => decide (k ∈ order)) &&
  [Kind.fat32, Kind.fat16, Kind.fat12].all (fun f => before order f .iso9660 && before order f .ext4) &&
  before order .squashfs .ext4

/-- after fat12.Create / fat16.Create the first 512 bytes of the volume are the boot sector with the
    final label — whatever the range held before -/
theorem create1x_sector0 (stale : Dev) (is16 : Bool) (L : Layout) (serial : Nat) (label : List Nat)
    (fat rootDir : Bytes) (hres : 1 ≤ L.reserved) (i : Nat) (hi : i < 512) :
    applyWrs stale (createWrs1x is16 L serial label fat rootDir) i = bootFat1x is16 L serial label i := by
  rw [applyWrs_nth stale _ 4 _ rfl i (Nat.zero_le _) (by simpa [sectorBytes_length] using hi)]
  · simp only [Nat.sub_zero]
    exact sectorBytes_getD _ _ _ hi
  · simp [createWrs1x]
    omega

/-- the cluster count fat12.Read computes from the BPB bytes fat12.Create wrote (uint32 wrap included)
    is the count Create checked, and lies below fat12.Read's refusal threshold -/
theorem create12_count_lt (P : Params) (hP : P.wf = true) (stale : Dev) (size serial : Nat) (label : List Nat)
    (fat rootDir : Bytes) (L : Layout) (h : layout12 P size = some L) :
    (readBpb (applyWrs stale (createWrs1x false L serial label fat rootDir))).count = L.count ∧
    L.count < P.f12ReadGe := by
  obtain ⟨ok, hc, -⟩ := layout12_ok P hP size L h
  exact ⟨boot_count (create1x_sector0 stale false L serial label fat rootDir ok.res_pos) ok, hc⟩

/-- FAT16 likewise: the count Create checked, inside fat16.Read's acceptance range -/
theorem create16_count_range (P : Params) (hP : P.wf = true) (stale : Dev) (size serial : Nat) (label : List Nat)
    (fat rootDir : Bytes) (L : Layout) (h : layout16 P size = some L) :
    (readBpb (applyWrs stale (createWrs1x true L serial label fat rootDir))).count = L.count ∧
    P.f16ReadLt ≤ L.count ∧ L.count < P.f16ReadGe := by
  obtain ⟨ok, -, -, hlo, hhi, -⟩ := layout16_ok P hP size L h
  exact ⟨boot_count (create1x_sector0 stale true L serial label fat rootDir ok.res_pos) ok, hlo, hhi⟩

theorem orderCore_out (order : List Kind) (h : orderCore order = true) :
    (∀ k, k ∈ order) ∧
    (∀ f, f = .fat32 ∨ f = .fat16 ∨ f = .fat12 →
      pos order f < pos order .iso9660 ∧ pos order f < pos order .ext4) ∧
    pos order .squashfs < pos order .ext4 := by
  simp only [orderCore, Bool.and_eq_true, List.all_eq_true, decide_eq_true_eq, before] at h
  exact ⟨fun k => h.1.1 k (by cases k <;> simp [Kind.all]), fun f hf => h.1.2 f (by simpa using hf), h.2⟩

/-- FAT12: for every stale content, size, label, serial and every admissible probe order -/
theorem probe_create_fat12 (P : Params) (hP : P.wf = true) (order : List Kind) (hord : orderCore order = true)
    (stale : Dev) (size avail serial : Nat) (label : List Nat) (fat rootDir : Bytes) (deep : Kind → Verdict)
    (L : Layout) (h : layout12 P size = some L) (hpos : 0 < L.count) (hav : size ≤ avail) :
    probe (verdict P (applyWrs stale (createWrs1x false L serial label fat rootDir)) ⟨size, avail, 512, deep⟩) order
      = .found .fat12 := by
  obtain ⟨ok, h12, h16⟩ := layout12_ok P hP size L h
  have hrd := create1x_sector0 stale false L serial label fat rootDir ok.res_pos
  obtain ⟨hmem, hfat, -⟩ := orderCore_out order hord
  have hb := hfat .fat12 (.inr (.inr rfl))
  apply probe_on_boot1x hrd P order _ (hmem _) hb.1 hb.2
  · exact (fat12_on_boot hrd P ok hpos hav).trans (if_pos h12)
  · rintro k (rfl | rfl) hne
    · exact absurd rfl hne
    · exact (fat16_on_boot hrd P ok hpos hav).trans (if_neg (by omega))

/-- FAT16 likewise -/
theorem probe_create_fat16 (P : Params) (hP : P.wf = true) (order : List Kind) (hord : orderCore order = true)
    (stale : Dev) (size avail serial : Nat) (label : List Nat) (fat rootDir : Bytes) (deep : Kind → Verdict)
    (L : Layout) (h : layout16 P size = some L) (hav : size ≤ avail) :
    probe (verdict P (applyWrs stale (createWrs1x true L serial label fat rootDir)) ⟨size, avail, 512, deep⟩) order
      = .found .fat16 := by
  obtain ⟨ok, hpos, h12, hlo, hhi, -⟩ := layout16_ok P hP size L h
  have hrd := create1x_sector0 stale true L serial label fat rootDir ok.res_pos
  obtain ⟨hmem, hfat, -⟩ := orderCore_out order hord
  have hb := hfat .fat16 (.inr (.inl rfl))
  apply probe_on_boot1x hrd P order _ (hmem _) hb.1 hb.2
  · exact (fat16_on_boot hrd P ok hpos hav).trans (if_pos ⟨hlo, hhi⟩)
  · rintro k (rfl | rfl) hne
    · exact (fat12_on_boot hrd P ok hpos hav).trans (if_neg (by omega))
    · exact absurd rfl hne

/-- FAT32, header level: a volume whose boot sector says "no fixed root directory" (root entry
    count 0, which fat32.Create writes) is refused by fat12.Read and fat16.Read; so if fat32.Read
    accepts it, GetFilesystem says FAT32 — for every order that probes the FAT kinds first and
    squashfs sees no magic. -/
theorem probe_create_fat32_hdr (P : Params) (order : List Kind) (hord : orderCore order = true)
    (rd : Dev) (c : Ctx) (hre : u16 rd 17 = 0) (hacc : verdict P rd c .fat32 = .accept)
    (hsq : Refuses rd .squashfs) :
    probe (verdict P rd c) order = .found .fat32 := by
  obtain ⟨hmem, hfat, -⟩ := orderCore_out order hord
  have hb := hfat .fat32 (.inl rfl)
  apply probe_of_refuses (hmem _) hacc
  intro k hne
  cases k with
  | fat32 => exact absurd rfl hne
  | fat16 => exact .inl (.inr hre)
  | fat12 => exact .inl (.inr hre)
  | iso9660 => exact .inr hb.1
  | squashfs => exact .inl hsq
  | ext4 => exact .inr hb.2

/-- iso9660, header level: Finalize blanks the 32 KiB system area; then no other reader accepts,
    in ANY probe order — so if iso9660.Read accepts its own image, GetFilesystem says iso9660 -/
theorem probe_create_iso_hdr (P : Params) (order : List Kind) (hmem : Kind.iso9660 ∈ order)
    (rd : Dev) (c : Ctx) (hz : ∀ j, j < 32768 → rd j = 0) (hacc : verdict P rd c .iso9660 = .accept) :
    probe (verdict P rd c) order = .found .iso9660 :=
  probe_of_refuses hmem hacc fun _ hne =>
    .inl (refuses_of_zero fun j hj => hz j ((sigAt_lt hj).resolve_left hne).1)

/-- squashfs, header level: the superblock's block-size field makes every FAT reader refuse; with
    squashfs probed before ext4 (orderCore) AND before iso9660 the image is recognised over any stale
    content. The second condition is what the probe order as found lacked (cex_sqfs_over_iso). -/
theorem probe_create_sqfs_hdr (P : Params) (order : List Kind) (hord : orderCore order = true)
    (hsi : before order .squashfs .iso9660 = true)
    (rd : Dev) (c : Ctx) (h12 : rd 12 = 0) (hacc : verdict P rd c .squashfs = .accept) :
    probe (verdict P rd c) order = .found .squashfs := by
  obtain ⟨hmem, -, hse⟩ := orderCore_out order hord
  simp only [before, decide_eq_true_eq] at hsi
  apply probe_of_refuses (hmem _) hacc
  intro k hne
  cases k with
  | iso9660 => exact .inr hsi
  | squashfs => exact absurd rfl hne
  | ext4 => exact .inr hse
  | _ => exact .inl (refuses_of_zero (by simpa [sigAt] using h12))

/-- ext4, header level, REPAIRED behaviour (boot area 0..1023 zeroed by Create): the FAT readers and
    squashfs refuse; iso9660 must either refuse (Create overwrote the descriptor at 32 KiB) or be
    probed later -/
theorem probe_create_ext4_fixed_hdr (P : Params) (order : List Kind) (hmem : Kind.ext4 ∈ order)
    (rd : Dev) (c : Ctx) (hz : ∀ j, j < 1024 → rd j = 0) (hacc : verdict P rd c .ext4 = .accept)
    (hiso : verdict P rd c .iso9660 = .reject ∨ before order .ext4 .iso9660 = true) :
    probe (verdict P rd c) order = .found .ext4 := by
  apply probe_found _ order .ext4 hmem hacc
  intro k _ hne hlt
  by_cases hk : k = .iso9660
  · subst hk
    rcases hiso with h | h
    · exact h
    · simp only [before, decide_eq_true_eq] at h; omega
  · exact verdict_reject (refuses_of_zero fun j hj =>
      hz j (((sigAt_lt hj).resolve_left hk).2.resolve_left hne))

/-- a blank (all-zero) range has no filesystem: every reader refuses at its header check, in any
    order, whatever the deeper parts would say -/
theorem blank_is_none (P : Params) (order : List Kind) (rd : Dev) (c : Ctx) (hz : ∀ j, rd j = 0) :
    probe (verdict P rd c) order = .none :=
  probe_none _ _ fun _ _ => verdict_reject (refuses_of_zero fun j _ => hz j)

def genTableOrder : List TableKind :=
  Generated.Detect.tableProbeOrder.filterMap fun s => if s == "gpt" then some .gpt else if s == "mbr" then some .mbr else none

/-- a disk on which gpt.Read succeeds is reported as GPT whether or not its (protective) MBR would
    also be readable — in the regenerated probe order of partition.Read -/
theorem gpt_is_gpt (mbrOk : Bool) : tableProbe true mbrOk genTableOrder = some .gpt := by
  cases mbrOk <;> decide

/-- and a disk on which only mbr.Read succeeds is MBR -/
theorem mbr_is_mbr : tableProbe false true genTableOrder = some .mbr := by decide

/-- the same with the legacy-MBR check of partition.Read, on or off: a GPT disk - sector 0 is a protective
    MBR or no MBR at all, so `legacy = false` - is GPT -/
theorem gpt_is_gpt_l (checks mbrOk : Bool) : tableProbeL checks true mbrOk false genTableOrder = some .gpt := by
  cases checks <;> cases mbrOk <;> decide

/-- a disk partitioned as MBR whose previous GPT structures are still readable (stale primary or backup
    header: `gptOk` arbitrary) is MBR once partition.Read makes the check ... -/
theorem mbr_over_stale_gpt_is_mbr (gptOk : Bool) : tableProbeL true gptOk true true genTableOrder = some .mbr := by
  cases gptOk <;> decide

/-- ... and is reported as GPT (with the partitions of its previous life) on the tree as found -/
theorem cex_mbr_over_stale_gpt : tableProbeL false true true true genTableOrder = some .gpt := by decide

/-- ext4 over a stale FAT16 (as found: ext4.Create leaves bytes 0..1023 alone): a device whose
    sector 0 is a FAT16 boot sector and whose ext4 superblock is in place is reported as FAT16 by the
    regenerated probe order, although ext4.Read itself would accept it. -/
theorem cex_ext4_over_fat16 :
    ∃ (rd : Dev) (c : Ctx), verdict genParams rd c .ext4 = .accept ∧
      probe (verdict genParams rd c) [.fat32, .fat16, .fat12, .iso9660, .squashfs, .ext4] = .found .fat16 := by
  let L := mkLayout16 genParams 16777216
  have hL : layout16 genParams 16777216 = some L := by decide
  let rd : Dev := fun i => if i < 512 then bootFat1x true L 0 [] i else if i = 1080 then 0x53 else if i = 1081 then 0xEF else 0
  let c : Ctx := ⟨16777216, 16777216, 512, fun _ => .accept⟩
  have hrd : ∀ i, i < 512 → rd i = bootFat1x true L 0 [] i := by
    intro i hi; simp [rd, hi]
  obtain ⟨ok, hpos, -, hlo, hhi, -⟩ := layout16_ok genParams (by decide) 16777216 L hL
  refine ⟨rd, c, ?_, ?_⟩
  · simp [verdict, verdictExt4, c, readOk, u16, u8, rd]
  · have h32 : verdict genParams rd c .fat32 = .reject := verdict_reject (boot1x_refuses hrd).1
    have h16 : verdict genParams rd c .fat16 = .accept :=
      (fat16_on_boot hrd genParams ok hpos (Nat.le_refl _)).trans (if_pos ⟨hlo, hhi⟩)
    simp [probe, h32, h16]

/-- FAT12 with no data cluster (as found: fat12.Create accepts a size at which reserved sector, FATs
    and root directory fill the volume; CheckGeometry in fat12.Read refuses that boot sector): a
    5120-byte volume is created and then recognised by no reader. -/
theorem cex_fat12_zero_clusters :
    ∃ L : Layout, layout12 { genParams with f12RefuseZero := false } 5120 = some L ∧ L.count = 0 ∧
      ∀ (stale : Dev) (deep : Kind → Verdict),
        verdict genParams (applyWrs stale (createWrs1x false L 0 [] [] [])) ⟨5120, 5120, 512, deep⟩ .fat12 = .reject := by
  have hlay : layout12 { genParams with f12RefuseZero := false } 5120 = some (mkLayout12 genParams 5120) := by decide
  refine ⟨_, hlay, by decide, ?_⟩
  intro stale deep
  have hrd := create1x_sector0 stale false (mkLayout12 genParams 5120) 0 [] [] [] (by decide)
  have hL : mkLayout12 genParams 5120 = { total := 10, spc := 1, reserved := 1, rootEnts := 112, spf := 1, media := 0xF0, count := 0 } := by
    decide
  have hb := boot_bpb hrd (layout12_ok _ (by decide) 5120 _ hlay).1
  simp only [verdict, verdictFat1x]
  rw [hb, hL]
  simp [readOk, validBps, extSigOk, checkGeometry, metaSectors]

/-- with the repair (Create refuses zero data clusters) the side condition of probe_create_fat12 holds
    for every accepted size -/
theorem layout12_count_pos (P : Params) (hz : P.f12RefuseZero = true) (size : Nat) (L : Layout)
    (h : layout12 P size = some L) : 0 < L.count := by
  unfold layout12 at h
  simp only [Option.ite_none_left_eq_some, Option.some.injEq, hz, Bool.true_and, beq_iff_eq] at h
  obtain ⟨-, -, h3, rfl⟩ := h
  omega

/-- squashfs over a stale iso9660 (as found: iso9660 is probed before squashfs and squashfs.Finalize
    does not reach the descriptor at 32 KiB): reported as iso9660 -/
theorem cex_sqfs_over_iso :
    ∃ (rd : Dev) (c : Ctx), verdict genParams rd c .squashfs = .accept ∧
      probe (verdict genParams rd c) [.fat32, .fat16, .fat12, .iso9660, .squashfs, .ext4] = .found .iso9660 := by
  let rd : Dev := fun i =>
    if i = 0 then 0x68 else if i = 1 then 0x73 else if i = 2 then 0x71 else if i = 3 then 0x73   -- "hsqs"
    else if i = 14 then 0x02                                                                       -- block size 131072
    else if i = 28 then 4                                                                           -- version 4.0
    else if i = 32768 then 1 else if i = 32769 then 0x43 else if i = 32770 then 0x44
    else if i = 32771 then 0x30 else if i = 32772 then 0x30 else if i = 32773 then 0x31 else if i = 32774 then 1
    else 0
  let c : Ctx := ⟨16777216, 16777216, 4096, fun _ => .accept⟩
  refine ⟨rd, c, ?_, ?_⟩
  · simp [verdict, verdictSqfs, c, readOk, u32, u16, u8, rd, isPow2]
  · have h12 : rd 12 = 0 := by simp [rd]
    have hfat {k : Kind} (hk : k = .fat32 ∨ k = .fat16 ∨ k = .fat12) : verdict genParams rd c k = .reject := by
      rcases hk with rfl | rfl | rfl <;> exact verdict_reject (refuses_of_zero (by simpa [sigAt] using h12))
    have hiso : verdict genParams rd c .iso9660 = .accept := by
      simp [verdict, verdictIso, c, readOk, u8, rd, two32]
    simp [probe, hfat, hiso]

/-- thresholds and tables regenerated from fat12.go / fat16.go satisfy the well-formedness the
    theorems assume (what Create lets through, the matching Read accepts and the others refuse) -/
theorem facts_agree_params_wf : genParams.wf = true := by decide

/-- the regenerated probe order of disk.GetFilesystem satisfies the order constraints -/
theorem facts_agree_order_core : orderCore genOrder = true := by decide

/-- every probed package is one the model knows (none was dropped by the name mapping) -/
theorem facts_agree_order_complete : genOrder.length = Generated.Detect.fsProbeOrder.length := by decide

/-- partition.Read tries GPT, then MBR -/
theorem facts_agree_table_order : genTableOrder = [.gpt, .mbr] := by decide

/-- magic numbers and offsets hard-wired in the model's acceptance tests -/
theorem facts_agree_magic :
    Generated.Detect.sqfsMagic = 0x73717368 ∧ Generated.Detect.sqfsMajor = 4 ∧ Generated.Detect.sqfsMinor = 0 ∧
    Generated.Detect.sqfsMinBlock = 4096 ∧ Generated.Detect.sqfsMaxBlock = 1048576 ∧
    Generated.Detect.ext4Magic = 0xEF53 ∧ Generated.Detect.isoIdentifier = 0x4344303031 ∧
    Generated.Detect.isoSystemArea = 32768 ∧
    Generated.Detect.fatBootSignature = 0x55AA ∧ Generated.Detect.fat32BootSignature = 0x55AA ∧
    Generated.Detect.fsisSigStart = 0x52526141 ∧ Generated.Detect.fsisSigMid = 0x72724161 ∧
    Generated.Detect.fsisSigEnd = 0x000055AA := by decide

/-- FAT12 / FAT16 in /repo's current probe order with /repo's current thresholds and tables -/
theorem probe_create_fat12_repo (stale : Dev) (size avail serial : Nat) (label : List Nat) (fat rootDir : Bytes)
    (deep : Kind → Verdict) (L : Layout) (h : layout12 genParams size = some L) (hpos : 0 < L.count) (hav : size ≤ avail) :
    probe (verdict genParams (applyWrs stale (createWrs1x false L serial label fat rootDir)) ⟨size, avail, 512, deep⟩) genOrder
      = .found .fat12 :=
  probe_create_fat12 genParams facts_agree_params_wf genOrder facts_agree_order_core stale size avail serial label fat rootDir deep L h hpos hav

theorem probe_create_fat16_repo (stale : Dev) (size avail serial : Nat) (label : List Nat) (fat rootDir : Bytes)
    (deep : Kind → Verdict) (L : Layout) (h : layout16 genParams size = some L) (hav : size ≤ avail) :
    probe (verdict genParams (applyWrs stale (createWrs1x true L serial label fat rootDir)) ⟨size, avail, 512, deep⟩) genOrder
      = .found .fat16 :=
  probe_create_fat16 genParams facts_agree_params_wf genOrder facts_agree_order_core stale size avail serial label fat rootDir deep L h hav

example : layout12 genParams 1474560 ≠ none := by decide          -- a 1.44 MB floppy
example : layout12 genParams 8386048 = none := by decide          -- 4085 clusters: refused
example : layout16 genParams 16777216 ≠ none := by decide
example : layout16 genParams 4194304 = none := by decide          -- below 4085 clusters: refused
example : before [.fat32, .fat16, .fat12, .iso9660, .squashfs, .ext4] .squashfs .iso9660 = false := by decide -- the order of cex_sqfs_over_iso

/-- after fat32.Create both FAT copies hold the same bytes — whatever the range held before, for
    every payload, label and serial -/
theorem create32_fat_copies_equal (stale : Dev) (L : Layout32) (serial : Nat) (label : List Nat)
    (fat rootDir : Bytes) (hb : 0 < L.bps) (j : Nat) (hj : j < L.spf * L.bps) :
    applyWrs stale (createWrs32 L serial label fat rootDir) (32 * L.bps + j) =
    applyWrs stale (createWrs32 L serial label fat rootDir) (32 * L.bps + L.spf * L.bps + j) := by
  rw [create32_fat1 stale L serial label fat rootDir j hj, create32_fat2 stale L serial label fat rootDir j hj]

/-- fat32.Read (header checks, FSInfo sector, geometry check and the comparison of the two FAT
    copies — nothing observed) accepts what fat32.Create wrote, for every size Create accepts at
    sector size 0/512/4096, every stale content, payload, label and serial -/
theorem fat32_read_accepts_created (P : Params) (hP : P.wf32 = true) (stale : Dev)
    (size avail bs0 serial : Nat) (label : List Nat) (fat rootDir : Bytes)
    (L : Layout32) (h : layout32 P size bs0 = some L) (hav : size ≤ avail) :
    verdictFat32Full P (applyWrs stale (createWrs32 L serial label fat rootDir)) size avail bs0 = .accept := by
  obtain ⟨ok, hmax, hbs⟩ := layout32_ok P hP size bs0 L h
  have h512 : 512 ≤ L.bps := by rcases ok.bps_ok with h | h <;> omega
  have hrd (i : Nat) (hi : i < 512) := create32_sector0 stale L serial label fat rootDir i (Nat.lt_of_lt_of_le hi h512)
  rw [verdictFat32Full, fat32_hdr_on_created ok hav hrd P hmax hbs
      (fun i hi => create32_fsis stale L serial label fat rootDir i (by omega))]
  exact fat32Deep_on_created ok hav hrd (create32_fat_copies_equal stale L serial label fat rootDir (by omega))

/-- probe_create_fat32: after fat32.Create over ARBITRARY previous content, for every size Create
    accepts, every label, serial and payload, GetFilesystem's probe chain returns FAT32 — for every
    admissible probe order, with FAT32's own acceptance computed from the device (the deeper parts of
    the OTHER readers may say anything: fat12/fat16 refuse the zero root-entry count, squashfs sees
    no magic, iso9660 and ext4 are probed later) -/
theorem probe_create_fat32 (P : Params) (hP : P.wf32 = true) (order : List Kind) (hord : orderCore order = true)
    (stale : Dev) (size avail bs0 serial : Nat) (label : List Nat) (fat rootDir : Bytes) (deep : Kind → Verdict)
    (L : Layout32) (h : layout32 P size bs0 = some L) (hav : size ≤ avail) :
    probe (verdict P (applyWrs stale (createWrs32 L serial label fat rootDir))
      (fullCtx (applyWrs stale (createWrs32 L serial label fat rootDir)) size avail bs0 deep)) order = .found .fat32 := by
  obtain ⟨ok, hmax, hbs⟩ := layout32_ok P hP size bs0 L h
  have h512 : 512 ≤ L.bps := by rcases ok.bps_ok with h | h <;> omega
  obtain ⟨-, -, hre, -, -, -, -, hmagic⟩ := boot32_consts
    fun i hi => create32_sector0 stale L serial label fat rootDir i (Nat.lt_of_lt_of_le hi h512)
  apply probe_create_fat32_hdr P order hord _ _ hre
  · have := fat32_read_accepts_created P hP stale size avail bs0 serial label fat rootDir L h hav
    simpa [verdict, fullCtx, verdictFat32Full] using this
  · exact hmagic

/-- ext4.Create (repaired, fix cf6210f) starts by writing 1024 zero bytes at offset 0 of the volume and
    never writes below offset 1024 again (`rest`: everything it writes afterwards).  Then, over
    ARBITRARY stale content — a stale FAT12/FAT16/FAT32 boot sector, a squashfs superblock — no FAT
    reader and not squashfs accepts the volume; so if ext4.Read accepts its own image, GetFilesystem says
    ext4, in every order that probes ext4 before iso9660 (or when iso9660 refuses). -/
theorem probe_create_ext4_clears (P : Params) (order : List Kind) (hmem : Kind.ext4 ∈ order)
    (stale : Dev) (rest : List Wr) (hrest : ∀ w ∈ rest, 1024 ≤ w.off) (c : Ctx)
    (hacc : verdict P (applyWrs stale (⟨0, zeros 1024⟩ :: rest)) c .ext4 = .accept)
    (hiso : verdict P (applyWrs stale (⟨0, zeros 1024⟩ :: rest)) c .iso9660 = .reject ∨ before order .ext4 .iso9660 = true) :
    probe (verdict P (applyWrs stale (⟨0, zeros 1024⟩ :: rest)) c) order = .found .ext4 := by
  apply probe_create_ext4_fixed_hdr P order hmem _ c _ hacc hiso
  intro j hj
  rw [applyWrs_nth stale _ 0 _ rfl j (Nat.zero_le _) (by simpa using hj), zeros_getD]
  intro v hv
  exact .inl (Nat.lt_of_lt_of_le hj (hrest v hv))

/-- in /repo's current probe order ext4 is probed before iso9660, so the side condition is met -/
theorem probe_create_ext4_clears_repo (stale : Dev) (rest : List Wr) (hrest : ∀ w ∈ rest, 1024 ≤ w.off) (c : Ctx)
    (hacc : verdict genParams (applyWrs stale (⟨0, zeros 1024⟩ :: rest)) c .ext4 = .accept) :
    probe (verdict genParams (applyWrs stale (⟨0, zeros 1024⟩ :: rest)) c) genOrder = .found .ext4 :=
  probe_create_ext4_clears genParams genOrder (by decide) stale rest hrest c hacc (Or.inr (by decide))

/-- the regenerated FAT32 cluster-size table yields only sectors-per-cluster values the readers accept -/
theorem facts_agree_params_wf32 : genParams.wf32 = true := by decide

/-- ext4.Create still clears the boot area (the shape `probe_create_ext4_clears` assumes) -/
theorem facts_agree_ext4_clears : Generated.Detect.ext4CreateClearsBootArea = true := by decide

/-- FAT32 in /repo's current probe order with /repo's current table -/
theorem probe_create_fat32_repo (stale : Dev) (size avail bs0 serial : Nat) (label : List Nat) (fat rootDir : Bytes)
    (deep : Kind → Verdict) (L : Layout32) (h : layout32 genParams size bs0 = some L) (hav : size ≤ avail) :
    probe (verdict genParams (applyWrs stale (createWrs32 L serial label fat rootDir))
      (fullCtx (applyWrs stale (createWrs32 L serial label fat rootDir)) size avail bs0 deep)) genOrder = .found .fat32 :=
  probe_create_fat32 genParams facts_agree_params_wf32 genOrder facts_agree_order_core stale size avail bs0 serial label fat rootDir deep L h hav

example : layout32 genParams 67108864 512 ≠ none := by decide       -- 64 MiB, 512-byte sectors
example : layout32 genParams 67108864 4096 ≠ none := by decide      -- 4096-byte sectors
example : layout32 genParams 40960 512 = none := by decide          -- less than 32 KiB of data area: refused

/-! ### squashfs and ext4: the readers' tests behind the magic numbers are inside the model

  `midCtx` (Model/DetectMid.lean): parseSuperblock's block-log test and newCompressor's id test for squashfs;
  superblockFromBytes, the feature gate, the validity checks on the decoded superblock and the read of the
  group descriptor table for ext4; the volume-descriptor loop for iso9660.  `deep2 k` is what is left of
  reader k behind that (observed from the real code in the correspondence, a hypothesis here). -/

/-- squashfs.Finalize writes the superblock LAST, at offset 0 (Model/Sqfs/Regions.lean `finalize`, the mirror
    Props/C07 is about): every write list of that shape ends with 96 bytes at offset 0 -/
theorem sqfs_finalize_sb_last (p : Sqfs.Pieces) (ws : List Wr) (h : shape ws = (Sqfs.finalize p).writes) :
    ∃ pre data, ws = pre ++ [⟨0, data⟩] ∧ data.length = 96 := by
  obtain ⟨l1, l2, rfl, -, h2⟩ := List.map_eq_append_iff.1 (h.trans (rfl : _ = _ ++ [(0, 96)]))
  obtain ⟨⟨o, d⟩, rfl, hw⟩ := List.map_eq_singleton_iff.1 h2
  obtain ⟨rfl, hd⟩ := Prod.mk.inj hw
  exact ⟨l1, d, rfl, hd⟩

/-- probe_create_sqfs: whatever the volume held before and whatever Finalize wrote first (`pre`), once its
    last write has put a superblock at offset 0 whose block size squashfs.Create accepts and whose compression
    id the library knows, the three FAT readers refuse the volume (byte 12), squashfs.Read's header tests,
    block-log test and compressor test pass, and the probe chain answers squashfs provided the rest of
    squashfs.Read (tables, root inode: `deep2`) accepts - for every order with squashfs before ext4 and iso9660.
    `hbs`: the block size handed to Read (GetFilesystem passes the disk's logical block size) is 0 or passes
    validateBlocksize, a power of two from 4 KiB to 1 MiB; with 512 squashfs.Read refuses every volume -/
theorem probe_create_sqfs (P : Params) (order : List Kind) (hord : orderCore order = true)
    (hsi : before order .squashfs .iso9660 = true) (cfg : Ext4.Reader.Cfg)
    (stale : Dev) (pre : List Wr) (s : Sqfs.Superblock) (hwf : s.WF) (hblk : sqfsBlockOk s.blocksize = true)
    (hcomp : s.compression ≤ 6) (size avail bs0 : Nat) (csumOk : Bool) (hav : 96 ≤ avail)
    (hbs : (if bs0 == 0 then 131072 else bs0) ≥ 4096 ∧ (if bs0 == 0 then 131072 else bs0) ≤ 1048576 ∧
           isPow2 (if bs0 == 0 then 131072 else bs0) = true)
    (deep2 : Kind → Verdict) (hdeep : deep2 .squashfs = .accept) :
    probe (verdict P (applyWrs stale (pre ++ [⟨0, Sqfs.encodeSB s⟩]))
      (midCtx cfg (applyWrs stale (pre ++ [⟨0, Sqfs.encodeSB s⟩])) size avail bs0 csumOk deep2)) order = .found .squashfs := by
  obtain ⟨h12, hv⟩ := sqfs_image_facts stale pre s hwf (sqfsBlockOk_mod _ hblk) hcomp avail bs0 hav hbs (deep2 .squashfs)
  apply probe_create_sqfs_hdr P order hord hsi _ _ h12
  simp only [verdict, midCtx]
  rw [hv]
  exact hdeep

/-- … in /repo's current probe order (squashfs before ext4 and iso9660 since fix d5f1fcf) -/
theorem probe_create_sqfs_repo (cfg : Ext4.Reader.Cfg)
    (stale : Dev) (pre : List Wr) (s : Sqfs.Superblock) (hwf : s.WF) (hblk : sqfsBlockOk s.blocksize = true)
    (hcomp : s.compression ≤ 6) (size avail bs0 : Nat) (csumOk : Bool) (hav : 96 ≤ avail)
    (hbs : (if bs0 == 0 then 131072 else bs0) ≥ 4096 ∧ (if bs0 == 0 then 131072 else bs0) ≤ 1048576 ∧
           isPow2 (if bs0 == 0 then 131072 else bs0) = true)
    (deep2 : Kind → Verdict) (hdeep : deep2 .squashfs = .accept) :
    probe (verdict genParams (applyWrs stale (pre ++ [⟨0, Sqfs.encodeSB s⟩]))
      (midCtx cfg (applyWrs stale (pre ++ [⟨0, Sqfs.encodeSB s⟩])) size avail bs0 csumOk deep2)) genOrder = .found .squashfs :=
  probe_create_sqfs genParams genOrder facts_agree_order_core (by decide) cfg stale pre s hwf hblk hcomp size avail bs0 csumOk hav hbs deep2 hdeep

example : sqfsBlockOk 4096 = true ∧ sqfsBlockOk 131072 = true ∧ sqfsBlockOk 1048576 = true ∧ sqfsBlockOk 6000 = false := by decide
example : (⟨3, 0, 131072, 1, 1, 0xC0, 1, 0, 4096, 4000, 2 ^ 64 - 1, 200, 300, 400, 500⟩ : Sqfs.Superblock).WF := by
  simp [Sqfs.Superblock.WF]

/-- ext4.Read's validity checks on the decoded superblock (fix 1d32ac0; Model/Ext4/SpecGeom.lean `readAccepts`,
    tied to the source by the regenerated `readChecks`) accept the geometry ext4.Create computes for EVERY
    parameter set its own checks let through (Model/Ext4/Mkfs.lean `mkLayout`) with at least one inode per
    group and three blocks, and the group descriptor table ext4.Read then reads lies inside the volume -/
theorem ext4_read_accepts_mkfs (p : Ext4.Mkfs.Params) (l : Ext4.Mkfs.Layout) (h : Ext4.Mkfs.mkLayout p = .ok l)
    (hipg : 0 < l.ipg) (hnb : 3 ≤ l.numBlocks) (compat inc ro : Nat)
    (hinc : ext4MkIncompatOk inc (l.descSize == 64) = true) :
    Ext4.Spec.readAccepts (ext4MkGeo (mkOf l) compat inc ro) p.size = true ∧
    (ext4MkGeo (mkOf l) compat inc ro).gdtStartGo +
      (ext4MkGeo (mkOf l) compat inc ro).gdSize * (ext4MkGeo (mkOf l) compat inc ro).groupsGo ≤ p.size :=
  ext4_mk_read_accepts (mkOf l) p.size compat inc ro (mkLayout_mk_ok p l h hipg hnb) hinc

/-- probe_create_ext4: ext4.Create clears bytes 0..1023 and writes nothing below 1024 afterwards (`rest`); if
    the superblock it left at 1024 decodes to the geometry Create computed (`hgeo`, `hdec`: compared on every
    ext4 Create of the run) with extents on and inline_data off, then over ARBITRARY previous content the FAT
    readers and squashfs refuse, ext4.Read's header tests, superblock decoding, feature gate, validity checks
    and descriptor-table read all pass, and the probe chain answers ext4 provided the descriptor checksums
    (`deep2`) verify - in /repo's probe order -/
theorem probe_create_ext4 (stale : Dev) (rest : List Wr) (hrest : ∀ w ∈ rest, 1024 ≤ w.off)
    (cfg : Ext4.Reader.Cfg) (p : Ext4.Mkfs.Params) (l : Ext4.Mkfs.Layout) (h : Ext4.Mkfs.mkLayout p = .ok l)
    (hipg : 0 < l.ipg) (hnb : 3 ≤ l.numBlocks) (compat inc ro : Nat)
    (hinc : ext4MkIncompatOk inc (l.descSize == 64) = true)
    (info : Ext4.Reader.SbInfo) (avail bs : Nat) (csumOk : Bool) (deep2 : Kind → Verdict)
    (hgeo : Ext4.Spec.sbGeo (readAt (applyWrs stale (⟨0, zeros 1024⟩ :: rest)) 1024 1024) = some (ext4MkGeo (mkOf l) compat inc ro))
    (hdec : Ext4.Reader.sbDecode csumOk (readAt (applyWrs stale (⟨0, zeros 1024⟩ :: rest)) 1024 1024) = some info)
    (hii : info.incompat = inc)
    (hsz : 2560 ≤ p.size) (hav : p.size ≤ avail) (hbs : bs = 0 ∨ bs = 512) (hdeep : deep2 .ext4 = .accept) :
    probe (verdict genParams (applyWrs stale (⟨0, zeros 1024⟩ :: rest))
      (midCtx cfg (applyWrs stale (⟨0, zeros 1024⟩ :: rest)) p.size avail bs csumOk deep2)) genOrder = .found .ext4 := by
  obtain ⟨hacc, hfit⟩ := ext4_read_accepts_mkfs p l h hipg hnb compat inc ro hinc
  apply probe_create_ext4_clears_repo stale rest hrest
  generalize applyWrs stale (⟨0, zeros 1024⟩ :: rest) = img at hgeo hdec ⊢
  have hmid := ext4Mid_accepts cfg img p.size avail csumOk (deep2 .ext4) info _ hdec
    (hii ▸ gateAccepts_of_mkIncompatOk cfg hinc) hgeo hacc (by omega)
  simp only [verdict, midCtx]
  rw [ext4_hdr_of_magic img _ _ _ _ (ext4_magic_of_geo img _ hgeo) hsz hav hbs, hmid]
  exact hdeep

example : Ext4.Mkfs.mkLayout ⟨16777216, 0, 0, 0, 0, 0, true, true, true⟩ =
    .ok { bs := 1024, numBlocks := 16384, bpg := 8192, groups := 2, ipg := 1024, inodeCount := 2048, fdb := 1, rsvGdt := 256,
          descSize := 64, gdtBlocks := 1, itb := 256, flexSize := 8, resize := true } := rfl
example : ext4MkIncompatOk 0x2c2 true = true := by decide

/-- probe_create_iso: on the device iso9660 Finalize leaves behind (Model/Iso/Writes.lean `imageOn`: the WriteAt
    calls as the Go code issues them, locations as Finalize assigns them: `Placed`) over ARBITRARY prior content
    `d0`, at block size 2048, the 32 KiB system area reads zero, so the three FAT readers, squashfs and ext4
    refuse WHATEVER their deeper parts would say; iso9660.Read's size and identifier tests and its descriptor
    loop pass; the probe chain answers iso9660 in ANY probe order, provided the rest of iso9660.Read
    (descriptor contents, path table, SUSP: `deep2`) accepts.  38912 = 32768 + 4096 + 2048 is Read's minimum size,
    36864 the end of the set terminator -/
theorem probe_create_iso (P : Params) (order : List Kind) (hmem : Kind.iso9660 ∈ order) (cfg : Ext4.Reader.Cfg)
    (i : Iso.ImageIn) (d0 : Dev) (hbs : i.bs = 2048) (hp : i.pvd.WF) (hpl : i.Placed)
    (size avail bs : Nat) (csumOk : Bool) (hsz : size = 0 ∨ (38912 ≤ size ∧ size ≤ two32 * 2048)) (hav : 36864 ≤ avail)
    (deep2 : Kind → Verdict) (hdeep : deep2 .iso9660 = .accept) :
    probe (verdict P (i.imageOn d0) (midCtx cfg (i.imageOn d0) size avail bs csumOk deep2)) order = .found .iso9660 := by
  obtain ⟨hz, r2, r3⟩ := iso_image_regions i d0 hbs hp hpl
  apply probe_create_iso_hdr P order hmem _ _ hz
  simp only [verdict, midCtx]
  rw [iso_read_on_regions _ i.pvd size avail (deep2 .iso9660) r2 r3 hsz hav]
  exact hdeep

/-- non-vacuity: a (minimal) image description that is `Placed` with a well-formed descriptor -/
def isoWitness : Iso.ImageIn :=
  { t := ⟨0, fun _ => ⟨[], false, 0, 0, [], []⟩, fun _ => [], fun _ => 0⟩, bs := 2048, dirs := [], files := [],
    pvd := { sysId := zeros 32, volId := zeros 32, volSize := 19, setSize := 1, seqNo := 1, blocksize := 2048, ptSize := 0,
             ptL := 18, ptLopt := 0, ptM := 18, ptMopt := 0, root := ⟨18, 0, zeros 7, 2, [0]⟩, tail := zeros 1858 },
    ptLBytes := [], ptMBytes := [] }
example : isoWitness.Placed := by unfold Iso.ImageIn.Placed; decide
example : isoWitness.pvd.WF := by simp [isoWitness, Iso.PVD.WF]

/-! ### the stale-bytes clause, pair by pair

  Every theorem `probe_create_<new>` above quantifies over ARBITRARY previous content, so it covers every
  ordered pair (old type, new type) at once: no old signature can mislead an EARLIER probe, because the bytes
  the earlier probes test are rewritten by the new Create - sector 0 by the three FAT Creates (all earlier
  probes are FAT readers), bytes 0..95 by squashfs (byte 12 zero), bytes 0..1023 by ext4, bytes 0..32767 by
  iso9660.  What DOES survive lies at offsets only LATER probes test: a stale ext4 magic at 1080 under FAT16 and
  FAT32 (below), a stale iso9660 descriptor at 32768 under every other type whose image does not reach it
  (cex_sqfs_over_iso is that pair in the probe order as found).  For those pairs the probe order is what keeps
  the answer right, and the constraints of `orderCore` are necessary, not only sufficient: -/

/-- (old ext4, new FAT16): for every size fat16.Create accepts and every label, serial and payload, a stale
    ext4 magic number at byte 1080 is still there afterwards (reserved sectors 1-3 are never written) and
    ext4.Read's header tests pass on the new FAT16 volume -/
theorem ext4_signature_survives_fat16 (P : Params) (hP : P.wf = true) (stale : Dev) (hm : u16 stale 1080 = 0xEF53)
    (size avail serial : Nat) (label : List Nat) (fat rootDir : Bytes) (L : Layout) (h : layout16 P size = some L)
    (hsz : 2560 ≤ size) (hav : size ≤ avail) (deep : Verdict) :
    verdictExt4 (applyWrs stale (createWrs1x true L serial label fat rootDir)) size avail 512 deep = deep := by
  obtain ⟨-, -, -, -, -, hres⟩ := layout16_ok P hP size L h
  apply ext4_hdr_of_magic _ size avail 512 deep _ hsz hav (Or.inr rfl)
  rw [u16_congr _ stale 1080 (create16_frame stale L hres serial label fat rootDir 1080 (by omega) (by omega))
    (create16_frame stale L hres serial label fat rootDir 1081 (by omega) (by omega))]
  exact hm

/-- (old ext4, new FAT32 at 512-byte sectors) likewise: reserved sectors 2-5 are never written -/
theorem ext4_signature_survives_fat32 (stale : Dev) (hm : u16 stale 1080 = 0xEF53)
    (size avail serial : Nat) (label : List Nat) (fat rootDir : Bytes) (L : Layout32) (hb : L.bps = 512)
    (hsz : 2560 ≤ size) (hav : size ≤ avail) (deep : Verdict) :
    verdictExt4 (applyWrs stale (createWrs32 L serial label fat rootDir)) size avail 512 deep = deep := by
  apply ext4_hdr_of_magic _ size avail 512 deep _ hsz hav (Or.inr rfl)
  rw [u16_congr _ stale 1080 (create32_frame stale L hb serial label fat rootDir 1080 (by omega) (by omega))
    (create32_frame stale L hb serial label fat rootDir 1081 (by omega) (by omega))]
  exact hm

/-- so "FAT16 before ext4" is NECESSARY: in any probe order that tries ext4 first, a FAT16 volume made over a
    former ext4 volume whose remains ext4.Read still accepts is reported as ext4 - although in every order that
    satisfies `orderCore` the same volume is FAT16 (probe_create_fat16) -/
theorem cex_order_ext4_before_fat16 (P : Params) (hP : P.wf = true) (stale : Dev) (hm : u16 stale 1080 = 0xEF53)
    (size avail serial : Nat) (label : List Nat) (fat rootDir : Bytes) (L : Layout) (h : layout16 P size = some L)
    (hsz : 2560 ≤ size) (hav : size ≤ avail) (deep : Kind → Verdict) (hd : deep .ext4 = .accept) (rest : List Kind) :
    probe (verdict P (applyWrs stale (createWrs1x true L serial label fat rootDir)) ⟨size, avail, 512, deep⟩) (.ext4 :: rest)
      = .found .ext4 := by
  have := ext4_signature_survives_fat16 P hP stale hm size avail serial label fat rootDir L h hsz hav (deep .ext4)
  rw [hd] at this
  simp [probe, verdict, this, hd]

example : ∃ stale : Dev, u16 stale 1080 = 0xEF53 :=
  ⟨fun i => if i = 1080 then 0x53 else if i = 1081 then 0xEF else 0, by simp [u16, u8]⟩

/-! ### partition tables over the real acceptance conditions of gpt.Read and mbr.Read

  `tableRead checks` (Model/DetectTable.lean) is partition.Read with Model/Gpt.lean's `read` (primary header and
  array CRCs, backup fallback) and Model/Mbr.lean's `read`; `checks` is the regenerated switch
  `tableReadChecksLegacyMBR` (false on the tree as it is: finding mbr-over-stale-gpt-reported-as-gpt, whose
  proposed repair turns it on). -/

/-- the boolean statements above (gpt_is_gpt_l, mbr_over_stale_gpt_is_mbr, cex_mbr_over_stale_gpt) are about the
    real readers: the type partition.Read reports is `tableProbeL` of gpt.Read's and mbr.Read's verdicts and of
    the legacy-MBR predicate on the real sector 0 -/
theorem table_read_is_probe (checks : Bool) (c : Gpt.Cfg) (crc : Bytes → Nat) (d : Dev) (devSize lss : Nat)
    (hnp : (Gpt.read c crc d devSize lss).1.isPanic = false) :
    (tableRead checks c crc d devSize lss).kind =
      tableProbeL checks (Gpt.read c crc d devSize lss).1.isOk (Mbr.read d devSize).1.isSome (legacyMBR d) genTableOrder := by
  rw [facts_agree_table_order]
  unfold tableRead
  cases hg : (Gpt.read c crc d devSize lss).1 with
  | panic s => rw [hg] at hnp; simp [Gpt.Res.isPanic] at hnp
  | ok t =>
    cases hm : (Mbr.read d devSize).1 <;> cases checks <;> cases legacyMBR d <;>
      simp [Gpt.Res.isOk, tableProbeL, tableProbe, TableRes.kind]
  | err e =>
    cases hm : (Mbr.read d devSize).1 <;> cases checks <;> cases legacyMBR d <;>
      simp [Gpt.Res.isOk, tableProbeL, tableProbe, TableRes.kind]

set_option linter.unusedVariables false in
/-- AS THE TREE IS (no legacy check): a disk on which gpt.Table.Write completed - a fresh table of well-formed
    entries - reads as GPT through partition.Read, with the partitions Write was left with, WHATEVER the disk
    held before: any MBR in sector 0 (legacy or protective, Write asked to put a protective one or not), any
    stale table.  `crc` is any function below 2^32. -/
theorem gpt_written_is_gpt (c : Gpt.Cfg) (crc : Bytes → Nat) (hcrc : ∀ b, crc b < Gpt.two32) (d : Dev)
    (t0 : Gpt.Table) (size : Nat) (ws : List Wr) (t : Gpt.Table)
    (hf : Gpt.Fresh t0) (hlss : t0.lss = 512 ∨ t0.lss = 4096) (hg : t0.guid.length = 16)
    (hwf : ∀ p ∈ t0.parts, Gpt.allZero p.typ = true ∨ (Gpt.EntryWF p ∧ p.size < Gpt.two64))
    (hmin : 2 * t0.lss + 16384 ≤ size) (hsz : size < Gpt.two63)
    (hw : Gpt.write c crc t0 size = .ok (ws, t)) :
    ∃ t', tableRead false c crc (applyWrs d ws) size t0.lss = .gpt t' ∧ t'.parts = Gpt.normParts t.parts 128 := by
  obtain ⟨t', hr, hp, _⟩ := Gpt.read_write_fresh c crc hcrc d t0 size ws t hf hlss hg hwf hmin hw
  exact ⟨t', by simp [tableRead, hr], hp⟩

/-- WITH the legacy check (the proposed repair of mbr-over-stale-gpt-reported-as-gpt), the exact condition:
    the disk gpt.Table.Write completed on reads as GPT  ⇔  NOT (Write was told ProtectiveMBR:false AND sector 0
    already held a legacy MBR - signature, a used entry, none protective - that mbr.Read accepts).  With a
    protective MBR the type byte of slot 0 is 0xEE afterwards; without one Write leaves bytes 0..511 alone, so a
    legacy MBR that was there is still there and takes precedence: that is why the repair is not applied - a GPT
    written with ProtectiveMBR:false over a former MBR disk would come back as MBR. -/
theorem gpt_written_reads_gpt_iff (c : Gpt.Cfg) (crc : Bytes → Nat) (hcrc : ∀ b, crc b < Gpt.two32) (d : Dev)
    (t0 : Gpt.Table) (size : Nat) (ws : List Wr) (t : Gpt.Table)
    (hf : Gpt.Fresh t0) (hlss : t0.lss = 512 ∨ t0.lss = 4096) (hg : t0.guid.length = 16)
    (hwf : ∀ p ∈ t0.parts, Gpt.allZero p.typ = true ∨ (Gpt.EntryWF p ∧ p.size < Gpt.two64))
    (hmin : (2 * (16384 / t0.lss) + 3) * t0.lss ≤ size) (hsz : size < Gpt.two63)
    (hw : Gpt.write c crc t0 size = .ok (ws, t)) :
    (tableRead true c crc (applyWrs d ws) size t0.lss).kind = some .gpt ↔
      ¬ (t0.pmbr = false ∧ legacyMBR d = true ∧ (Mbr.read d size).1.isSome = true) := by
  have hmin' : 2 * t0.lss + 16384 ≤ size := by rcases hlss with h | h <;> rw [h] at hmin ⊢ <;> omega
  obtain ⟨t', hr, _⟩ := Gpt.read_write_fresh c crc hcrc d t0 size ws t hf hlss hg hwf hmin' hw
  cases hpm : t0.pmbr with
  | true =>
    have hleg : legacyMBR (applyWrs d ws) = false :=
      legacyMBR_protective _ (gpt_write_pmbr_type c crc d t0 size ws t hf hlss hg hsz hmin hpm hw)
    simp [tableRead, hr, hleg, TableRes.kind]
  | false =>
    have hfr := gpt_write_nopmbr_frame c crc d t0 size ws t hf hlss hsz hmin hpm hw
    have hleg : legacyMBR (applyWrs d ws) = legacyMBR d := legacyMBR_congr _ _ hfr
    have hmbr : Mbr.read (applyWrs d ws) size = Mbr.read d size := mbrRead_congr _ _ size hfr
    simp only [tableRead, hr, hleg, hmbr, Bool.true_and]
    cases hl : legacyMBR d <;> cases hm : (Mbr.read d size).1 <;> simp [TableRes.kind]

set_option linter.unusedVariables false in
/-- the recorded finding mbr-over-stale-gpt-reported-as-gpt over the REAL readers, as the tree is: gpt.Table.Write
    (fresh, well-formed table), then mbr.Table.Write of ANY table `mps` - which rewrites bytes 446..511 and nothing
    else - over ANY prior content: partition.Read still answers GPT, with the partitions of the disk's previous
    life (the primary header at LBA 1 and the entry array at LBA 2 are untouched and gpt.Read asks nothing of
    sector 0) -/
theorem cex_mbr_over_written_gpt (c : Gpt.Cfg) (crc : Bytes → Nat) (hcrc : ∀ b, crc b < Gpt.two32) (d : Dev)
    (t0 : Gpt.Table) (size : Nat) (ws : List Wr) (t : Gpt.Table) (mps : List Mbr.Part)
    (hf : Gpt.Fresh t0) (hlss : t0.lss = 512 ∨ t0.lss = 4096) (hg : t0.guid.length = 16)
    (hwf : ∀ p ∈ t0.parts, Gpt.allZero p.typ = true ∨ (Gpt.EntryWF p ∧ p.size < Gpt.two64))
    (hmin : 2 * t0.lss + 16384 ≤ size) (hsz : size < Gpt.two63)
    (hw : Gpt.write c crc t0 size = .ok (ws, t)) :
    ∃ t', tableRead false c crc (applyWrs d (ws ++ Mbr.write mps)) size t0.lss = .gpt t' ∧
      t'.parts = Gpt.normParts t.parts 128 := by
  obtain ⟨t', hr, hp⟩ := gpt_read_after_mbr_write c crc hcrc d t0 size ws t mps hf hlss hg hwf hmin hw
  exact ⟨t', by simp [tableRead, hr], hp⟩

set_option linter.unusedVariables false in
/-- … and with the legacy check on (the proposed repair) the same disk is MBR whenever the table mbr.Write wrote
    makes sector 0 a legacy MBR (a used entry, none of type 0xEE) -/
theorem mbr_over_written_gpt_checked (c : Gpt.Cfg) (crc : Bytes → Nat) (hcrc : ∀ b, crc b < Gpt.two32) (d : Dev)
    (t0 : Gpt.Table) (size : Nat) (ws : List Wr) (t : Gpt.Table) (mps : List Mbr.Part)
    (hf : Gpt.Fresh t0) (hlss : t0.lss = 512 ∨ t0.lss = 4096) (hg : t0.guid.length = 16)
    (hwf : ∀ p ∈ t0.parts, Gpt.allZero p.typ = true ∨ (Gpt.EntryWF p ∧ p.size < Gpt.two64))
    (hmin : 2 * t0.lss + 16384 ≤ size) (hsz : size < Gpt.two63)
    (hw : Gpt.write c crc t0 size = .ok (ws, t)) (hmwf : ∀ p ∈ mps, Mbr.PartWF p)
    (hleg : legacyMBR (applyWrs d (ws ++ Mbr.write mps)) = true) :
    (tableRead true c crc (applyWrs d (ws ++ Mbr.write mps)) size t0.lss).kind = some .mbr := by
  obtain ⟨t', hr, _⟩ := gpt_read_after_mbr_write c crc hcrc d t0 size ws t mps hf hlss hg hwf hmin hw
  have hm := Mbr.read_write (applyWrs d ws) mps size (by rcases hlss with h | h <;> omega) hmwf
  rw [← applyWrs_append] at hm
  simp [tableRead, hr, hleg, hm, TableRes.kind]

/-- non-vacuity of the refused side: a legacy MBR (one Linux partition in slot 0) that mbr.Read accepts -/
def legacyWitness : Dev := fun i => if i = 510 then 0x55 else if i = 511 then 0xAA else if i = 450 then 0x83 else 0
example : legacyMBR legacyWitness = true := by decide
set_option maxRecDepth 8000 in
example : ((Mbr.read legacyWitness 1048576).1).isSome = true := by decide

end Diskfs.Detect.C12
