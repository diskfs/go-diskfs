/-
  C16 — CopyFileSystem copies faithfully and CompareFS tells the truth.
  The tree spec is Spec/SyncTree.lean, the mirror of sync/copy.go + sync/verify.go is Model/Sync.lean and —
  with a destination whose calls may fail or take only part of a slice — Model/SyncFault.lean.

  Quantifiers: every well-formed source tree (any depth, any contents, any names — distinct inside a
  directory), every parameter set satisfying `Cfg.wf` (discharged for the regenerated facts by
  `facts_agree_cfg_wf`), every source reader chunking (copy), every pair of reader behaviours that
  fill their buffers (compare).  Symbolic links and special files are outside the CompareFS
  theorems (`plain`): the real CompareFS resolves links through `fs.Stat`/`Open`, which the tree
  spec does not model; the model answers `unsupported` there and the theorems never rely on it.
-/
import DiskfsModel.Proofs.SyncFault
import DiskfsModel.Proofs.SyncVerdict
import DiskfsModel.Generated.SyncFs
namespace Diskfs.Sync.C16
open Diskfs.Sync Forest

/-- the parameters as regenerated from sync/copy.go and sync/verify.go -/
def cfgGen : Cfg :=
  { excluded := Generated.SyncFs.excludedPaths, maxAll := Generated.SyncFs.maxCopyAllSize,
    chunk := Generated.SyncFs.copyChunkSize, cmpBuf := Generated.SyncFs.compareBufSize }

/-- Copying any well-formed source tree into an empty destination that behaves like a tree of named
    items succeeds and leaves exactly the source minus excluded names (at every level) minus special
    files — provided the source can read its symlinks (or has none that would be copied).  Holds for
    every chunking of the source reader, i.e. for the whole-file and for the streaming path. -/
theorem copy_faithful (c : Cfg) (hc : c.wf = true) (src : ReaderBehaviour) (readlink : Bool) (t : Forest)
    (hwf : t.wf = true) (hl : readlink = true ∨ (copyImage c.excluded t).noLinks = true) :
    (copyOps c src readlink t).2 = true ∧
    applyOps (copyOps c src readlink t).1 [] = some ((copyImage c.excluded t).flatAt []) :=
  have hsucc := copyDir_ok c src readlink t [] hl
  ⟨hsucc, applyOps_copyDir c (Cfg.wf_iff.1 hc).1 src readlink t [] [] hwf ⟨rfl, fun _ he => nomatch he⟩ hsucc⟩

/-- the same, read through paths: afterwards every path denotes in the destination what it denotes in
    the source minus excluded names (same paths, kinds, sizes, contents, link targets) -/
theorem copy_faithful_lookup (c : Cfg) (hc : c.wf = true) (src : ReaderBehaviour) (readlink : Bool) (t : Forest)
    (hwf : t.wf = true) (hl : readlink = true ∨ (copyImage c.excluded t).noLinks = true) :
    ∃ dst, applyOps (copyOps c src readlink t).1 [] = some dst ∧
      ∀ p, dst.item p = (copyImage c.excluded t).lookup p := by
  refine ⟨_, (copy_faithful c hc src readlink t hwf hl).2, fun p => ?_⟩
  exact item_flatAt _ (wf_strip c.excluded false t hwf) p

/-- the writes of one file: a single write of everything up to the threshold, else one write per chunk
    the source delivers; their sizes are the sizes-only function the driver evaluates for the > 64 MiB file,
    they concatenate to the content, and above the threshold none exceeds the buffer -/
theorem copy_file_writes (c : Cfg) (hc : c.wf = true) (src : ReaderBehaviour) (d : Bytes) :
    (fileWrites c src d).flatten = d ∧
    (fileWrites c src d).map List.length = fileWriteLens c src d.length ∧
    (d.length ≤ c.maxAll → fileWrites c src d = [d]) ∧
    (c.maxAll < d.length → ∀ w ∈ fileWrites c src d, w.length ≤ c.chunk) := by
  unfold fileWrites fileWriteLens
  split
  · exact ⟨List.append_nil d, rfl, fun _ => rfl, fun h => by omega⟩
  · rename_i hle
    obtain ⟨h1, h2⟩ := readChunks_spec src c.chunk (Cfg.wf_iff.1 hc).1 _ d 0 (Nat.le_succ _)
    exact ⟨h1, readChunks_lengths src c.chunk _ d 0, fun h => absurd h hle, fun _ w hw => (h2 w hw).2⟩

/-! ## CopyFileSystem against a destination whose calls fail or take part of a slice

    `Plan` gives the outcome of the i-th destination call (nil / an error / a Write taking n bytes);
    `copyRunF` is CopyFileSystem under that plan: `log` the calls issued with their outcomes, `eff` their
    effect on the destination, `ok` whether nil was returned.  All theorems hold for every plan, every tree
    and every source reader chunking, on the whole-file path and on the > maxAll streaming path. -/

/-- Error propagation: a failing Mkdir / OpenFile / Write / Symlink, or a Write that takes nothing of a
    non-empty slice, makes CopyFileSystem return an error — it never returns nil after such an outcome. -/
theorem copy_reports_every_failure (c : Cfg) (src : ReaderBehaviour) (readlink : Bool) (plan : Plan) (t : Forest)
    (e : DstOp × Outcome) (he : e ∈ (copyRunF c src readlink plan t).log) (hf : fatal e = true) :
    (copyRunF c src readlink plan t).ok = false := by
  obtain ⟨_, _, h, _⟩ := copyDirF_runs c src readlink plan t [] 0
  cases hok : (copyRunF c src readlink plan t).ok with
  | false => rfl
  | true =>
    rw [h.fatalLast.noFatal hok e he] at hf
    cases hf

/-- … and stops: the failing call is the last call CopyFileSystem issues. -/
theorem copy_stops_at_failure (c : Cfg) (src : ReaderBehaviour) (readlink : Bool) (plan : Plan) (t : Forest)
    (before after : List (DstOp × Outcome)) (e : DstOp × Outcome)
    (hl : (copyRunF c src readlink plan t).log = before ++ e :: after) (hf : fatal e = true) :
    after = [] ∧ (copyRunF c src readlink plan t).ok = false := by
  obtain ⟨_, _, h, _⟩ := copyDirF_runs c src readlink plan t [] 0
  exact h.fatalLast before e after hl hf

/-- every logged outcome is one the plan prescribed (the log is not invented) -/
theorem copy_log_from_plan (c : Cfg) (src : ReaderBehaviour) (readlink : Bool) (plan : Plan) (t : Forest) :
    ∀ e ∈ (copyRunF c src readlink plan t).log, ∃ j, e.2 = plan j := by
  -- `Runs.outcomes` says which `j`: the `k`-th logged outcome is `plan k`
  obtain ⟨_, _, h, _⟩ := copyDirF_runs c src readlink plan t [] 0
  intro e he
  have := List.mem_map_of_mem (f := (·.2)) he
  rw [copyRunF, h.outcomes] at this
  obtain ⟨j, _, hj⟩ := List.mem_map.1 this
  exact ⟨j, hj.symm⟩

/-- Success under faults is still faithful: whenever CopyFileSystem returns nil — whatever Chtimes calls
    failed, however the destination split the Writes (short writes retried on the streaming path, the whole
    slice demanded on the whole-file path), however the source reader chunked — an empty tree-like destination
    holds exactly the source minus excluded names minus special files. -/
theorem copy_success_is_faithful (c : Cfg) (hc : c.wf = true) (src : ReaderBehaviour) (readlink : Bool) (plan : Plan)
    (t : Forest) (hwf : t.wf = true) (hok : (copyRunF c src readlink plan t).ok = true) :
    applyOps (copyRunF c src readlink plan t).eff [] = some ((copyImage c.excluded t).flatAt []) := by
  -- a run that reports success has done what the fault-free calls do, and those leave the copy image
  obtain ⟨ops, ok0, h, e⟩ := copyDirF_runs c src readlink plan t [] 0
  have := applyOps_copyDir c (Cfg.wf_iff.1 hc).1 src readlink t [] [] hwf ⟨rfl, fun _ he => nomatch he⟩
  rw [e (Cfg.wf_iff.1 hc).1] at this
  exact ((h.success hok).2 []).trans (this (h.success hok).1)

/-- the same, read through paths -/
theorem copy_success_lookup (c : Cfg) (hc : c.wf = true) (src : ReaderBehaviour) (readlink : Bool) (plan : Plan)
    (t : Forest) (hwf : t.wf = true) (hok : (copyRunF c src readlink plan t).ok = true) :
    ∃ dst, applyOps (copyRunF c src readlink plan t).eff [] = some dst ∧
      ∀ p, dst.item p = (copyImage c.excluded t).lookup p :=
  ⟨_, copy_success_is_faithful c hc src readlink plan t hwf hok,
    fun p => item_flatAt _ (wf_strip c.excluded false t hwf) p⟩

/-- Chtimes failures are benign: a run in which every call except possibly Chtimes calls returned nil and
    took everything it was given issues exactly the calls of the fault-free run, with the same effect and the
    same result. -/
theorem copy_chtimes_failures_benign (c : Cfg) (hc : c.wf = true) (src : ReaderBehaviour) (readlink : Bool)
    (plan : Plan) (t : Forest) (hb : Benign (copyRunF c src readlink plan t)) :
    (copyRunF c src readlink plan t).log.map (·.1) = (copyOps c src readlink t).1 ∧
    (copyRunF c src readlink plan t).eff = (copyOps c src readlink t).1 ∧
    (copyRunF c src readlink plan t).ok = (copyOps c src readlink t).2 := by
  obtain ⟨ops, ok0, h, e⟩ := copyDirF_runs c src readlink plan t [] 0
  rw [copyOps, e (Cfg.wf_iff.1 hc).1]
  exact h.agrees hb

/-- hence CopyFileSystem fails only with a cause: if it returns an error although the source can read its
    symlinks (or has none to copy), some call other than Chtimes returned an error or took less than it was given -/
theorem copy_fails_only_with_cause (c : Cfg) (hc : c.wf = true) (src : ReaderBehaviour) (readlink : Bool)
    (plan : Plan) (t : Forest) (hwf : t.wf = true) (hl : readlink = true ∨ (copyImage c.excluded t).noLinks = true)
    (hfail : (copyRunF c src readlink plan t).ok = false) :
    ∃ e ∈ (copyRunF c src readlink plan t).log, e.2 ≠ .ok ∧ isChtimes e.1 = false := by
  apply Classical.byContradiction
  intro hne
  have hb : Benign (copyRunF c src readlink plan t) := fun e he => by
    by_cases h1 : e.2 = .ok
    · exact Or.inl h1
    · exact Or.inr (Bool.of_not_eq_false fun h2 => hne ⟨e, he, h1, h2⟩)
  have h3 := (copy_chtimes_failures_benign c hc src readlink plan t hb).2.2
  rw [(copy_faithful c hc src readlink t hwf hl).1] at h3
  rw [h3] at hfail
  exact absurd hfail (by simp)

/-- CompareFS returns nil exactly when the two trees, minus excluded names, have the same paths,
    kinds, sizes and contents — for readers that fill their buffers. -/
theorem compare_sound_complete (c : Cfg) (hc : c.wf = true) (ra rb : ReaderBehaviour)
    (hfa : FullReads ra c.cmpBuf) (hfb : FullReads rb c.cmpBuf) (a b : Forest)
    (hwa : a.wf = true) (hwb : b.wf = true) (hpa : a.plain = true) (_hpb : b.plain = true) :
    compareFS c ra rb a b = .ok ↔ stripExcluded c.excluded a ≈ stripExcluded c.excluded b :=
  compareFS_ok_iff c hc ra rb hfa hfb a b hwa hwb hpa

/-- Verifying a faithful copy succeeds: CompareFS of a source against what CopyFileSystem leaves
    (`copy_faithful`) returns nil — the two halves of the property fit together. -/
theorem copy_then_compare_ok (c : Cfg) (hc : c.wf = true) (ra rb : ReaderBehaviour)
    (hfa : FullReads ra c.cmpBuf) (hfb : FullReads rb c.cmpBuf) (t : Forest)
    (hwf : t.wf = true) (hp : t.plain = true) :
    compareFS c ra rb t (copyImage c.excluded t) = .ok :=
  (compareFS_ok_iff c hc ra rb hfa hfb t _ hwf (wf_strip c.excluded false t hwf) hp).2
    (stripExcluded_copyImage c.excluded t hp)

/-- CompareFS is a total decision procedure whose every answer is true: `ok` means the trees are equal up
    to excluded names; `missing` / `extra` name a path one side has and the other lacks; `type mismatch` a
    path that is a directory on one side and a file on the other (at any depth, an empty directory included);
    `size mismatch` two files of different length; `content mismatch` two files of the same length that
    differ — and `unsupported` never comes out for trees of files and directories. -/
theorem compare_verdict_truthful (c : Cfg) (hc : c.wf = true) (ra rb : ReaderBehaviour)
    (hfa : FullReads ra c.cmpBuf) (hfb : FullReads rb c.cmpBuf) (a b : Forest)
    (hwa : a.wf = true) (hwb : b.wf = true) (hpa : a.plain = true) (hpb : b.plain = true) :
    VerdictTrue c.excluded a b (compareFS c ra rb a b) := by
  obtain ⟨_, hbuf, hdot⟩ := Cfg.wf_iff.1 hc
  by_cases hok : compareFS c ra rb a b = .ok
  · rw [hok]; exact (compareFS_ok_iff c hc ra rb hfa hfb a b hwa hwb hpa).1 hok
  rcases compareFS_err hok with ⟨⟨p, it⟩, he, hv⟩ | ⟨⟨p, it⟩, he, hseen, hv⟩
  · -- walk of the original: the answer for a walked entry
    rw [hv] at hok ⊢
    exact (checkEntry_verdict c ra rb hfa hfb hbuf hpa hpb ((mem_walkRoot hdot _ hwa _ _).1 he)).resolve_left hok
  · -- walk of the target: a path that the walk of the original has not seen
    rw [hv]
    have hA : (stripExcluded c.excluded a).lookup p = none := by
      cases hA : (stripExcluded c.excluded a).lookup p with
      | none => rfl
      | some it' =>
        have : p ∈ (walkRoot c.excluded a).map (·.1) := List.mem_map.2 ⟨(p, it'), (mem_walkRoot hdot _ hwa _ _).2 hA, rfl⟩
        rw [← List.contains_iff_mem, hseen] at this
        cases this
    exact ⟨ne_nil_of_lookup_none hA, ⟨it, (mem_walkRoot hdot _ hwb _ _).1 he⟩, hA⟩

/-- the `ok` answer does not depend on which side is called the original -/
theorem compare_ok_symmetric (c : Cfg) (hc : c.wf = true) (ra rb ra' rb' : ReaderBehaviour)
    (hfa : FullReads ra c.cmpBuf) (hfb : FullReads rb c.cmpBuf) (hfa' : FullReads ra' c.cmpBuf)
    (hfb' : FullReads rb' c.cmpBuf) (a b : Forest)
    (hwa : a.wf = true) (hwb : b.wf = true) (hpa : a.plain = true) (hpb : b.plain = true) :
    compareFS c ra rb a b = .ok ↔ compareFS c ra' rb' b a = .ok := by
  rw [compareFS_ok_iff c hc ra rb hfa hfb a b hwa hwb hpa, compareFS_ok_iff c hc ra' rb' hfa' hfb' b a hwb hwa hpb]
  exact ⟨treeEq_symm, treeEq_symm⟩

/-- Copy, then compare: for every tree of files and directories, every fault plan under which
    CopyFileSystem returns nil and every tree `b` that reads like the destination afterwards, CompareFS of the
    source against `b` returns nil. -/
theorem copy_then_compare_ok_under_faults (c : Cfg) (hc : c.wf = true) (ra rb src : ReaderBehaviour)
    (hfa : FullReads ra c.cmpBuf) (hfb : FullReads rb c.cmpBuf) (readlink : Bool) (plan : Plan) (t b : Forest)
    (hwf : t.wf = true) (hp : t.plain = true) (hwb : b.wf = true)
    (hok : (copyRunF c src readlink plan t).ok = true) (dst : Store)
    (hd : applyOps (copyRunF c src readlink plan t).eff [] = some dst) (hb : ∀ p, b.lookup p = dst.item p) :
    compareFS c ra rb t b = .ok := by
  rw [copy_success_is_faithful c hc src readlink plan t hwf hok] at hd
  cases hd
  -- `b` denotes what the copy image denotes, and for a plain source that compares equal to the source
  have hbi : b ≈ copyImage c.excluded t := fun p =>
    (hb p).trans (item_flatAt _ (wf_strip c.excluded false t hwf) p)
  exact (compareFS_ok_iff c hc ra rb hfa hfb t b hwf hwb hp).2
    (treeEq_trans (stripExcluded_copyImage c.excluded t hp) (treeEq_symm (stripExcluded_congr c.excluded _ _ hbi)))

/-- Every single-point mutation — a file's bytes changed (one byte, or the length), an entry missing,
    an extra entry, a file where a directory was or the reverse, anywhere in the tree outside excluded
    names — makes CompareFS return an error, whichever side is called the original. -/
theorem compare_detects_single (c : Cfg) (hc : c.wf = true) (ra rb : ReaderBehaviour)
    (hfa : FullReads ra c.cmpBuf) (hfb : FullReads rb c.cmpBuf) (a b : Forest) (hm : Mut1 c.excluded a b)
    (hwa : a.wf = true) (hwb : b.wf = true) (hpa : a.plain = true) (hpb : b.plain = true) :
    compareFS c ra rb a b ≠ .ok ∧ compareFS c ra rb b a ≠ .ok := by
  obtain ⟨p, hcl, hp⟩ := mut1_differs c.excluded a b hm hwa hwb
  replace hp : (stripExcluded c.excluded a).lookup p ≠ (stripExcluded c.excluded b).lookup p := by
    unfold stripExcluded
    rwa [lookup_strip, if_pos hcl, lookup_strip, if_pos hcl]
  constructor
  · intro h
    exact hp ((compareFS_ok_iff c hc ra rb hfa hfb a b hwa hwb hpa).1 h p)
  · intro h
    exact hp ((compareFS_ok_iff c hc ra rb hfa hfb b a hwb hwa hpb).1 h p).symm

/-- in particular: one changed byte, at any position of any file -/
theorem compare_detects_changed_byte (c : Cfg) (hc : c.wf = true) (ra rb : ReaderBehaviour)
    (hfa : FullReads ra c.cmpBuf) (hfb : FullReads rb c.cmpBuf) (n : String) (d : Bytes) (i : Nat) (v : UInt8)
    (r : Forest) (hi : i < d.length) (hv : d[i]? ≠ some v) (hn : c.excluded.contains n = false)
    (hw : (Forest.file n d r).wf = true) (hp : (Forest.file n d r).plain = true) :
    compareFS c ra rb (.file n d r) (.file n (d.set i v) r) ≠ .ok := by
  have hne : d ≠ d.set i v := by
    intro e
    have h1 : (d.set i v)[i]? = some v := by simp [hi]
    rw [← e] at h1
    exact hv h1
  exact (compare_detects_single c hc ra rb hfa hfb _ _ (Mut1.changeFile hn hne) hw
    (by simpa [wf] using hw) hp (by simpa [plain] using hp)).1

/-- `FullReads` is necessary: two EQUAL files read through handles that chunk differently (one fills the
    buffer, the other returns two bytes per call) are reported as a content mismatch.
    Small buffer so that the kernel evaluates it; `cex_compare_chunking_any_buf` is the general form. -/
theorem cex_compare_chunking :
    compareFS ⟨["lost+found"], 8, 4, 4⟩ (fullReader) (cycleReader [2] false)
      (.file "f" [1, 2, 3, 4] .nil) (.file "f" [1, 2, 3, 4] .nil) = .contentMismatch ["f"] := by decide

theorem cex_compare_chunking_any_buf (buf : Nat) (hbuf : 2 ≤ buf) (x y : UInt8) :
    cmpContents buf (fullReader) (cycleReader [1] false) [x, y] [x, y] = false := by
  have h1 : (fullReader).count buf 2 0 = 2 := by simp [ReaderBehaviour.count, fullReader]; omega
  have h2 : (cycleReader [1] false).count buf 2 0 = 1 := by
    simp [ReaderBehaviour.count, cycleReader]; omega
  simp [cmpContents, cmpLoop, readStep, h1, h2]

/-- the real handles' behaviour (buffers filled, EOF with the next call or with the data) satisfies the hypothesis -/
theorem fullReader_fullReads (e : Bool) (buf : Nat) : FullReads (fullReader e) buf := by
  intro rem call
  simp only [ReaderBehaviour.count, fullReader]
  omega

/-! ## facts regenerated from sync/copy.go and sync/verify.go -/

/-- parameter facts: buffers are non-empty and "." is not an excluded name (the root is walked) -/
theorem facts_agree_cfg_wf : cfgGen.wf = true := by decide

/-- what the mirror relies on in copyOneFile / copyDir -/
theorem facts_agree_copy_shape :
    Generated.SyncFs.openFlags = Sync.openFlags ∧
    Generated.SyncFs.copyAllCmpOp = "<=" ∧
    Generated.SyncFs.chtimesErrorIgnored = true ∧
    Generated.SyncFs.copyExcludesByEntryName = true ∧
    Generated.SyncFs.copyDirBranches = ["excluded", "symlink", "dir", "nonregular", "file"] :=
  ⟨rfl, rfl, rfl, rfl, rfl⟩

/-- what the mirror relies on in CompareFS / compareFileContents: original walked first, then the target;
    exclusion by basename in both walks; existence checked in the target; both buffers of bufSize; mismatch
    iff the counts differ or the bytes differ -/
theorem facts_agree_compare_shape :
    Generated.SyncFs.compareWalkOrder = [0, 1] ∧
    Generated.SyncFs.compareExcludeByBase = 2 ∧
    Generated.SyncFs.compareStatsTarget = true ∧
    Generated.SyncFs.compareBuffersOfBufSize = 2 ∧
    Generated.SyncFs.compareCondLenOrBytes = true :=
  ⟨rfl, rfl, rfl, rfl, rfl⟩

/-! ## non-vacuity (a fixed parameter set, so that editing a parameter in the Go code cannot break an example) -/

private def exCfg : Cfg := ⟨[".DS_Store", "System Volume Information", "lost+found"], 67108864, 32768, 32768⟩
example : exCfg.wf = true := by decide

private def exTree : Forest :=
  .dir "d" (.file "a" [1, 2] (.dir "lost+found" (.file "x" [9] .nil) .nil))
    (.file "f" [] (.link "l" "d/a" (.other "pipe" (.file ".DS_Store" [7] .nil))))

example : exTree.wf = true := by decide
example : (copyOps exCfg (fullReader) true exTree).2 = true := by decide
example : applyOps (copyOps exCfg (fullReader) true exTree).1 [] =
    some [(["d"], .dir), (["d", "a"], .file [1, 2]), (["f"], .file []), (["l"], .link "d/a")] := by decide
-- a source that cannot read symlinks: the copy stops with an error at the link
example : (copyOps exCfg (fullReader) false exTree).2 = false := by decide

private def exA : Forest := .dir "d" (.file "a" [1, 2] .nil) (.file "f" [5] (.dir "lost+found" .nil .nil))
private def exB : Forest := .dir "d" (.file "a" [1, 2] .nil) (.file "f" [5] .nil)
example : exA.wf = true ∧ exA.plain = true ∧ exB.wf = true ∧ exB.plain = true := by decide
example : compareFS exCfg (fullReader) (fullReader true) exA exB = .ok := by decide
example : Mut1 exCfg.excluded exB (.dir "d" (.file "a" [1, 3] .nil) (.file "f" [5] .nil)) :=
  .inDir (by decide) (.changeFile (by decide) (by decide))
example : compareFS exCfg (fullReader) (fullReader) exB (.dir "d" (.file "a" [1, 3] .nil) (.file "f" [5] .nil))
    = .contentMismatch ["d", "a"] := by decide
example : compareFS exCfg (fullReader) (fullReader) exB (.dir "d" .nil (.file "f" [5] .nil)) = .missing ["d", "a"] := by
  decide
example : compareFS exCfg (fullReader) (fullReader) exB (.file "d" [] (.file "f" [5] .nil)) = .typeMismatch ["d"] := by
  decide
example : compareFS exCfg (fullReader) (fullReader) exB (.dir "d" (.file "a" [1, 2] .nil) (.file "f" [5] (.file "g" [] .nil)))
    = .extra ["g"] := by decide

/-! non-vacuity of the fault theorems: one failing Mkdir stops the copy at once; a failing Chtimes changes
    nothing; a destination that takes one byte per Write still ends with the right content on the streaming path -/
private def exSmall : Cfg := ⟨["lost+found"], 4, 3, 4⟩
private def exT : Forest := .dir "d" (.file "a" [1, 2, 3, 4, 5, 6, 7] .nil) (.file "f" [9] .nil)
example : (copyRunF exSmall fullReader true (planAt 0 .fail) exT).ok = false ∧
    (copyRunF exSmall fullReader true (planAt 0 .fail) exT).log = [(.mkdir ["d"], .fail)] := by decide
example : fatal (DstOp.mkdir ["d"], Outcome.fail) = true := by decide
-- call 5 is the Chtimes of d/a (mkdir, open, three streamed writes 3+3+1, chtimes)
example : (copyRunF exSmall fullReader true (planAt 5 .fail) exT).log.map (·.1) = (copyOps exSmall fullReader true exT).1 ∧
    (copyRunF exSmall fullReader true (planAt 5 .fail) exT).ok = true := by decide
example : Benign (copyRunF exSmall fullReader true (planAt 5 .fail) exT) := by
  intro e he
  have : (e.2 = .ok ∨ isChtimes e.1 = true) = true := by
    revert e
    decide
  simpa using this
example : (copyRunF exSmall fullReader true (planCaps [1]) exT).ok = true ∧
    applyOps (copyRunF exSmall fullReader true (planCaps [1]) exT).eff [] =
      some [(["d"], .dir), (["d", "a"], .file [1, 2, 3, 4, 5, 6, 7]), (["f"], .file [9])] := by decide
-- whole-file path: a short write is an error (io.ErrShortWrite)
example : (copyRunF exSmall fullReader true (planAt 7 (.short 0)) exT).ok = false := by decide

/-! names that a case-folding or trimming normaliser would identify are different names: an extra
    README.TXT beside readme.txt, an extra Docs tree, a trailing dot, are reported -/
private def exDocs : Forest := .dir "docs" (.file "readme.txt" [1, 2] .nil) .nil
example : compareFS exCfg fullReader fullReader exDocs (.dir "docs" (.file "README.TXT" [1, 2] (.file "readme.txt" [1, 2] .nil)) .nil)
    = .extra ["docs", "README.TXT"] := by decide
example : compareFS exCfg fullReader fullReader exDocs (.dir "Docs" (.file "readme.txt" [1, 2] .nil) exDocs)
    = .extra ["Docs"] := by decide
example : compareFS exCfg fullReader fullReader (.dir "Docs" (.file "readme.txt" [1, 2] .nil) exDocs) exDocs
    = .missing ["Docs"] := by decide
example : compareFS exCfg fullReader fullReader exDocs (.dir "docs" (.file "readme.txt" [1, 2] (.file "readme.txt." [1, 2] .nil)) .nil)
    = .extra ["docs", "readme.txt."] := by decide
example : compareFS exCfg fullReader fullReader
    (.file "A" [1] (.file "a" [2] .nil)) (.file "A" [2] (.file "a" [1] .nil)) = .contentMismatch ["A"] := by decide
example : VerdictTrue exCfg.excluded exDocs (.dir "Docs" (.file "readme.txt" [1, 2] .nil) exDocs) (.extra ["Docs"]) := by
  refine ⟨by decide, ⟨.dir, by decide⟩, by decide⟩

end Diskfs.Sync.C16
