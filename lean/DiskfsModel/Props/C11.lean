/-
  C11 — Read-only access never modifies the image.
  Quantifiers: every configuration of the as-found switches and guard tables
  (`c : Cfg`) unless a theorem says otherwise, every storage, every filesystem
  kind, finalized or not, every sector size, every entry point, every payload the
  operation would write given a writer (`payload : List Wr`, arbitrary), every
  history (`List Call`, by induction), every prior image (`img : Dev`).

  The premise that the real code has no other path to the device than a Writer
  obtained from Writable() is a regenerated static fact (facts_agree_writeat,
  facts_agree_assertions, facts_agree_backend below).
-/
import DiskfsModel.Proofs.ReadOnly
import DiskfsModel.Generated.ReadOnly
namespace Diskfs.ReadOnly.C11
open Diskfs.ReadOnly

/-- the configuration regenerated from /repo -/
def genCfg : Cfg :=
  { fatOpenChecks := Generated.ReadOnly.fatOpenFileChecksWritable,
    ext4OpenChecks := Generated.ReadOnly.ext4OpenFileChecksWritable,
    isoCreateChecks := Generated.ReadOnly.isoCreateChecksWritable,
    sqfsCreateChecks := Generated.ReadOnly.sqfsCreateChecksWritable,
    isoGuards := Generated.ReadOnly.iso9660Guards,
    sqfsGuards := Generated.ReadOnly.squashfsGuards }

/-- read-only storage: no entry point emits a write, whatever it would have written -/
theorem ro_no_write (c : Cfg) (s : Storage) (hro : s.ro = true) (k : FsKind) (fin : Bool) (ss : Nat) (op : Op)
    (payload : List Wr) : (step c s k fin ss op payload).writes = [] := by
  -- every branch of `step` is a constant without writes, `needWriter`, or the as-found OpenFile that emits
  -- the empty list: with `needWriter` and `writable` rewritten no branch holds a write
  unfold step
  simp only [needWriter_ro s hro, writable_ro s hro]
  generalize op.cls = cl
  cases cl with
  | reader => rfl
  | diskMutator => dsimp only; split <;> simp only [apply_ite Res.writes, ite_self]
  | _ => simp only [apply_ite Res.writes, ite_self]

/-- readers never emit a write, in any mode (writable storage included) -/
theorem reads_no_write (c : Cfg) (s : Storage) (k : FsKind) (fin : Bool) (ss : Nat) (op : Op) (payload : List Wr)
    (hr : op.isMutator = false) : (step c s k fin ss op payload).writes = [] := by
  have : op.cls = .reader := by
    simp only [Op.isMutator] at hr
    simpa using hr
  unfold step
  simp [this]

set_option linter.unusedVariables false in
/-- read-only storage: every mutating call returns an error, except on the inputs where the tree as
    found hands out success without touching the device (`trigger`). `hfin`: a filesystem of a staged
    kind that lives on the image is finalized (an unfinalized one is a workspace directory, not part of
    the image). `hg` (the guard tables reject) stays in the statement and is not needed: without a writer the
    call fails behind the guard as well. -/
theorem ro_mutators_error (c : Cfg) (s : Storage) (hro : s.ro = true) (k : FsKind) (fin : Bool) (ss : Nat) (op : Op)
    (payload : List Wr) (hm : op.isMutator = true) (ht : trigger c k fin ss op = false)
    (hfin : k.staged = true → fin = true) (hg : ∀ m, guardClass (c.guards k) m ≠ 0 ∨ k.staged = false) :
    (step c s k fin ss op payload).out = .err :=
  step_ro_out c s hro k fin ss op payload hm ht hfin

/-- with the two repairs in place (OpenFile and the staged Create ask for a writer) no input triggers -/
theorem trigger_fixed (c : Cfg) (h1 : c.fatOpenChecks = true) (h2 : c.ext4OpenChecks = true)
    (h3 : c.isoCreateChecks = true) (h4 : c.sqfsCreateChecks = true) (k : FsKind) (fin : Bool) (ss : Nat) (op : Op) :
    trigger c k fin ss op = false := by
  -- every arm of `trigger` asks for one of the four checks to be off
  unfold trigger
  split <;> simp [h1, h2, h3, h4]

/-- hence, repaired: every mutating call on a read-only storage errors -/
theorem ro_mutators_error_fixed (c : Cfg) (h1 : c.fatOpenChecks = true) (h2 : c.ext4OpenChecks = true)
    (h3 : c.isoCreateChecks = true) (h4 : c.sqfsCreateChecks = true)
    (s : Storage) (hro : s.ro = true) (k : FsKind) (fin : Bool) (ss : Nat) (op : Op) (payload : List Wr)
    (hm : op.isMutator = true) (hfin : k.staged = true → fin = true)
    (hg : ∀ m, guardClass (c.guards k) m ≠ 0 ∨ k.staged = false) : (step c s k fin ss op payload).out = .err :=
  ro_mutators_error c s hro k fin ss op payload hm (trigger_fixed c h1 h2 h3 h4 k fin ss op) hfin hg

/-- the regenerated guard tables of iso9660 and squashfs have a guard for every mutating method. `decide`
    ranges over the whole finite table (kind x method), which is the quantifier. -/
theorem finalized_guards_total :
    ∀ k ∈ [FsKind.iso9660, FsKind.squashfs], ∀ m ∈ Method.all, guardClass (genCfg.guards k) m ≠ 0 := by decide

/-- finalized iso9660 / squashfs: every mutating filesystem-level call is refused and writes nothing —
    on ANY storage, also a writable one — by those guards -/
theorem finalized_rejects (s : Storage) (k : FsKind) (hk : k = .iso9660 ∨ k = .squashfs) (ss : Nat) (op : Op)
    (payload : List Wr) (hfs : op.fsLevel = true) (hm : op.isMutator = true) :
    (step genCfg s k true ss op payload).out = .err ∧ (step genCfg s k true ss op payload).writes = [] := by
  have hg : ∀ m : Method, guardClass (genCfg.guards k) m ≠ 0 := fun m =>
    finalized_guards_total k (by rcases hk with h | h <;> simp [h]) m (Method.mem_all m)
  have hst : k.staged = true := by rcases hk with h | h <;> rw [h] <;> rfl
  rw [step_guarded genCfg s k ss op payload hst hg hfs hm]
  exact ⟨rfl, rfl⟩

/-- a history on a read-only storage leaves every byte of the image as it was — for every
    interleaving of reads and rejected writes -/
theorem ro_history (c : Cfg) (s : Storage) (hro : s.ro = true) (img : Dev) (calls : List Call) :
    run c s img calls = img :=
  run_quiet c s img calls fun x _ => ro_no_write c s hro x.k x.fin x.ss x.op x.payload

/-- a history of readers and of calls on finalized iso9660 / squashfs filesystems leaves the image
    unchanged on any storage -/
theorem quiet_history (s : Storage) (img : Dev) (calls : List Call)
    (h : ∀ x ∈ calls, x.op.isMutator = false ∨
        ((x.k = .iso9660 ∨ x.k = .squashfs) ∧ x.fin = true ∧ x.op.fsLevel = true)) :
    run genCfg s img calls = img := by
  refine run_quiet genCfg s img calls fun x hx => ?_
  cases hmut : x.op.isMutator
  · exact reads_no_write genCfg s x.k x.fin x.ss x.op x.payload hmut
  · obtain ⟨hk, hf, hfs⟩ := (h x hx).resolve_left (by simp [hmut])
    rw [hf]
    exact (finalized_rejects s x.k hk x.ss x.op x.payload hfs hmut).2

/-- as found, FAT OpenFile(O_RDWR) on a read-only storage succeeds (no byte is written; the error
    only appears at Write) — unless the regenerated switch says it has been repaired -/
theorem cex_openfile_rw_on_readonly (c : Cfg) (h : c.fatOpenChecks = false) (payload : List Wr) :
    (step c ⟨true⟩ .fat16 false 512 .openRdwr payload).out = .ok ∧ Op.openRdwr.isMutator = true := by
  simp [step, Op.cls, Op.isMutator, FsKind.isFat, FsKind.staged, h, Storage.writable]

/-- as found, CreateFilesystem(squashfs) on a read-only disk succeeds: nothing is touched until Finalize -/
theorem cex_staged_create_on_readonly (c : Cfg) (h : c.sqfsCreateChecks = false) (payload : List Wr) :
    (step c ⟨true⟩ .fat12 false 4096 (.createFs .squashfs) payload).out = .ok := by
  simp [step, Op.cls, h, sqfsBlockOk]

/-- every WriteAt call site in non-test code of /repo has a receiver that is a backend.WritableFile:
    a local assigned from a Writable() call in the same function, a parameter or a struct field of
    that type (the sites are listed in the evidence under regenerated_facts.ReadOnly.writeAtSites) -/
theorem facts_agree_writeat :
    Generated.ReadOnly.writeAtUnknown = 0 ∧ Generated.ReadOnly.writeAtUnknownSites = [] ∧
    0 < Generated.ReadOnly.writeAtTotal := by decide

/-- no type assertion turns a storage into a writer outside backend/file/file.go's Writable -/
theorem facts_agree_assertions : Generated.ReadOnly.writerAssertionsOutsideBackend = 0 := by decide

/-- rawBackend.Writable hands the file out only under `!readOnly`; diskfs.Open(ReadOnly) builds a
    read-only backend -/
theorem facts_agree_backend :
    Generated.ReadOnly.fileWritableRefusesReadOnly = true ∧
    Generated.ReadOnly.openReadOnlyMapsToReadOnlyBackend = true := by decide

/-- both guard tables cover all twelve methods -/
theorem facts_agree_guard_tables :
    Generated.ReadOnly.iso9660Guards.length = 12 ∧ Generated.ReadOnly.squashfsGuards.length = 12 := by decide

/-! ### every way of obtaining read-only access (the constructor table) -/

/-- the constructor table regenerated from backend/file/file.go and diskfs.go -/
def genRows : List CtorRow := decodeRows Generated.ReadOnly.ctorTable
def roMode : Nat := Generated.ReadOnly.openModeReadOnly

/-- the regenerated table has exactly one row for every constructor x flag combination the library
    offers (diskfs.Open x the three OpenModeOption values and a value that is none of them,
    file.OpenFromPath x readOnly, file.OpenFromPathWithExclusive x readOnly x exclusive,
    file.New x readOnly, file.CreateFromPath), nothing was unevaluable, and no other exported
    function of backend/file or diskfs.go hands out a backend / a Disk -/
theorem facts_agree_ctor_table :
    genRows.map CtorRow.key =
      [(0, Generated.ReadOnly.openModeReadOnly, 0), (0, Generated.ReadOnly.openModeReadWriteExclusive, 0),
       (0, Generated.ReadOnly.openModeReadWrite, 0), (0, 7, 0),
       (1, 0, 0), (1, 1, 0), (2, 0, 0), (2, 0, 1), (2, 1, 0), (2, 1, 1), (3, 0, 0), (3, 1, 0), (4, 0, 0)] ∧
    Generated.ReadOnly.ctorTable.length = 6 * 13 ∧
    Generated.ReadOnly.fileCtorNames = ["CreateFromPath", "New", "OpenFromPath", "OpenFromPathWithExclusive"] ∧
    Generated.ReadOnly.diskCtorNames = ["Create", "Open", "OpenBackend"] ∧
    Generated.ReadOnly.subWritablePropagatesRefusal = true ∧
    Generated.ReadOnly.fileWritableReadsOnlyReadOnlyField = true :=
  ⟨rfl, rfl, rfl, rfl, rfl, rfl⟩

/-- every constructor asked for read-only access either refuses or yields a backend whose Writable()
    fails, and when it opens the file itself it opens it O_RDONLY (so the OS would refuse as well).
    `decide` ranges over the whole regenerated table, which is the quantifier. -/
theorem ctor_ro_refuses :
    ∀ r ∈ genRows, r.askedRO roMode = true →
      (∀ s, r.backend = some s → s.writable = none) ∧ (r.opened = 1 → accMode r.flags = 0) := by decide

/-- the converse (the table is not trivially all-refusing): a constructor asked for write access that
    yields a backend yields a writable one, opened O_RDWR when it opens the file itself -/
theorem ctor_rw_writable :
    ∀ r ∈ genRows, r.askedRO roMode = false → r.opened ≠ 2 →
      r.roField = false ∧ (r.opened = 1 → accMode r.flags = 2) := by decide

/-- an OpenModeOption value outside the table yields no disk at all -/
theorem ctor_unknown_mode_refused : (findRow genRows 0 7 0).map CtorRow.backend = some none := by decide

/-- backend.Sub, nested to any depth at any offsets, is writable exactly when the innermost storage is -/
theorem subs_writable (l : List (Nat × Nat)) (u : Stor) : (subs l u).writable = u.writable := by
  induction l generalizing u with
  | nil => rfl
  | cons x xs ih =>
    obtain ⟨o, n⟩ := x
    simp only [subs]
    rw [ih]
    simp only [Stor.writable]
    cases u.writable <;> rfl

/-- a storage whose Writable() fails is, under any nesting of backend.Sub, a read-only storage of the decision model -/
theorem subs_ro (l : List (Nat × Nat)) (u : Stor) (h : u.writable = none) : (subs l u).toStorage.ro = true := by
  simp [Stor.toStorage, subs_writable, h]

/-- hence: through whichever constructor read-only access was asked for, directly or under any nesting of
    backend.Sub, every history of calls — any entry points, any interleaving, any payloads — leaves
    every byte of the image as it was -/
theorem ctor_ro_history (r : CtorRow) (hr : r ∈ genRows) (hask : r.askedRO roMode = true) (s : Stor)
    (hs : r.backend = some s) (l : List (Nat × Nat)) (c : Cfg) (img : Dev) (calls : List Call) :
    run c (subs l s).toStorage img calls = img := by
  have hw : s.writable = none := (ctor_ro_refuses r hr hask).1 s hs
  exact ro_history c _ (subs_ro l s hw) img calls

/-- the same for any backend whose Writable() fails (not one of ours) and for a rawBackend over a handle
    that is no io.WriterAt (whatever its readOnly flag), under any nesting of backend.Sub -/
theorem refusing_history (l : List (Nat × Nat)) (c : Cfg) (img : Dev) (calls : List Call) :
    run c (subs l .refusing).toStorage img calls = img ∧
    ∀ ro, run c (subs l (.rawNoWriter ro)).toStorage img calls = img :=
  ⟨ro_history c _ (subs_ro l _ rfl) img calls,
   fun _ => ro_history c _ (subs_ro l _ rfl) img calls⟩

/-- and every mutating call errors there (repaired tree; the guard-table side condition as above) -/
theorem ctor_ro_mutators_error (r : CtorRow) (hr : r ∈ genRows) (hask : r.askedRO roMode = true) (s : Stor)
    (hs : r.backend = some s) (l : List (Nat × Nat)) (c : Cfg)
    (h1 : c.fatOpenChecks = true) (h2 : c.ext4OpenChecks = true)
    (h3 : c.isoCreateChecks = true) (h4 : c.sqfsCreateChecks = true)
    (k : FsKind) (fin : Bool) (ss : Nat) (op : Op) (payload : List Wr)
    (hm : op.isMutator = true) (hfin : k.staged = true → fin = true)
    (hg : ∀ m, guardClass (c.guards k) m ≠ 0 ∨ k.staged = false) :
    (step c (subs l s).toStorage k fin ss op payload).out = .err := by
  have hw : s.writable = none := (ctor_ro_refuses r hr hask).1 s hs
  exact ro_mutators_error_fixed c h1 h2 h3 h4 _ (subs_ro l s hw)
    k fin ss op payload hm hfin hg

/-- diskfs.OpenBackend with WithOpenMode(ReadOnly): once the function acts on the option, the disk's storage
    refuses whatever storage was handed in, under any nesting of backend.Sub, and every history leaves the
    image unchanged ... -/
theorem openbackend_ro (inner : Stor) (l : List (Nat × Nat)) (c : Cfg) (img : Dev) (calls : List Call) :
    (openBackend true true inner).writable = none ∧
    run c (subs l (openBackend true true inner)).toStorage img calls = img :=
  ⟨rfl, ro_history c _ (subs_ro l _ rfl) img calls⟩

/-- ... without a mode option (or with a writing one) the storage is the caller's, as it is -/
theorem openbackend_keeps (honours : Bool) (inner : Stor) : openBackend honours false inner = inner := by
  simp [openBackend]

/-- as found the option is parsed and ignored: a writable storage stays writable on a disk opened read-only -/
theorem cex_openbackend_ignores_mode : (openBackend false true (.raw false)).writable = some {} := by decide

/-- the table as it would be after a change that opens O_RDWR and derives the readOnly field from the
    open mode for (readOnly = true, exclusive = false): the theorem's statement is false for it -/
example : ¬ (∀ r ∈ decodeRows [2, 1, 0, 1, 2, 0], r.askedRO 0 = true →
    (∀ s, r.backend = some s → s.writable = none) ∧ (r.opened = 1 → accMode r.flags = 0)) := by decide

/-! non-vacuity -/
example : (step genCfg ⟨false⟩ .fat12 false 512 .mkdir [⟨7, [1, 2]⟩]).writes = [⟨7, [1, 2]⟩] := by decide
example : (step genCfg ⟨true⟩ .fat12 false 512 .mkdir [⟨7, [1, 2]⟩]).out = .err := by decide
example : (step genCfg ⟨false⟩ .squashfs true 4096 .remove [⟨7, [1, 2]⟩]).out = .err := by decide
example : trigger { genCfg with fatOpenChecks := false } .fat16 false 512 .openRdwr = true := by decide
example : ∃ r ∈ genRows, r.askedRO roMode = true ∧ r.backend = some (.raw true) := by decide
example : (subs [(0, 8), (512, 4)] (.raw false)).writable = some {} := by decide
example : (subs [(0, 8), (512, 4)] (.raw true)).writable = none := by decide

end Diskfs.ReadOnly.C11
