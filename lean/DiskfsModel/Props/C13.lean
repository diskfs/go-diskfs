/-
  C13 — Partition contents are streamed to and from exactly the partition.
  Quantifiers: every start/size (unbounded naturals, so also ≥ 2^32), every
  physical chunk size, every reader chunking (any list of chunks, incl. empty
  ones), every prior device content.
-/
import DiskfsModel.Proofs.PartIO
import DiskfsModel.Proofs.PartDisk
import DiskfsModel.Proofs.MbrRead
import DiskfsModel.Generated.PartIO
namespace Diskfs.PartIO.C13

/-- every WriteAt issued lies inside the partition — whatever the reader supplies -/
theorem write_in_partition (start size : Nat) (chunks : List Bytes) :
    ∀ w ∈ (writeContents start size chunks).ws,
      start ≤ w.off ∧ w.off + w.data.length ≤ start + size :=
  writeLoop_in_range start size chunks 0 [] nofun

/-- success ⇔ exactly the partition's size was supplied -/
theorem write_ok_iff (start size : Nat) (chunks : List Bytes) :
    (writeContents start size chunks).ok = true ↔ (chunks.map List.length).sum = size := by
  simpa [writeContents] using writeLoop_ok_iff start size chunks 0 []

/-- on success the partition holds exactly the supplied bytes (for every prior device content) -/
theorem write_effect (d : Dev) (start size : Nat) (chunks : List Bytes)
    (h : (writeContents start size chunks).ok = true) :
    readAt (applyWrs d (writeContents start size chunks).ws) start size = chunks.flatten := by
  have hs := (write_ok_iff start size chunks).1 h
  have := (writeContents_fits start size chunks (by omega)).2 d
  rwa [hs] at this

/-- whatever happens, no byte outside the partition changes -/
theorem write_frame (d : Dev) (start size : Nat) (chunks : List Bytes) (i : Nat)
    (hi : i < start ∨ start + size ≤ i) :
    applyWrs d (writeContents start size chunks).ws i = d i :=
  applyWrs_frame_range d _ start (start + size) (write_in_partition start size chunks) i hi

/-- the reported byte count on success is the partition size -/
theorem write_total (start size : Nat) (chunks : List Bytes)
    (h : (writeContents start size chunks).ok = true) :
    (writeContents start size chunks).total = size := by
  have hs := (write_ok_iff start size chunks).1 h
  exact (writeContents_fits start size chunks (by omega)).1.trans hs

/-- ReadContents returns exactly the partition's bytes, no more, no fewer, for every chunk size -/
theorem read_exact (d : Dev) (devSize start size pss : Nat)
    (hdev : start + size ≤ devSize) (hpss : 0 < pss) :
    readContents d devSize start size pss = (readAt d start size, size) :=
  readLoop_spec d devSize start size pss hdev hpss 0 [] (Nat.zero_le _)

/-- every ReadAt that ReadContents issues stays inside the partition, is at most one physical-sector
    chunk long, and the requests together ask for exactly the partition's size -/
theorem read_requests_inside (devSize start size pss : Nat)
    (hdev : start + size ≤ devSize) (hpss : 0 < pss) :
    (∀ r ∈ readReqs devSize start size pss 0 [], start ≤ r.1 ∧ r.1 + r.2 ≤ start + size ∧ r.2 ≤ pss) ∧
    ((readReqs devSize start size pss 0 []).map (·.2)).sum = size := by
  obtain ⟨ext, he, hin, hsum, _⟩ := readReqs_spec devSize start size pss hdev hpss 0 [] (Nat.zero_le _)
  rw [he]
  exact ⟨hin, hsum⟩

/-- CopyPartitionRaw (sequential composition): if the source fits into the target, the target's
    leading bytes equal the source partition, for every chunking the pipe produces. -/
theorem copy_prefix (d : Dev) (devSize sStart sSize tStart tSize pss : Nat) (chunks : List Bytes)
    (hdev : sStart + sSize ≤ devSize) (hpss : 0 < pss) (hfit : sSize ≤ tSize)
    (hchunks : chunks.flatten = (readContents d devSize sStart sSize pss).1) :
    readAt (applyWrs d (writeContents tStart tSize chunks).ws) tStart sSize = readAt d sStart sSize := by
  rw [read_exact d devSize sStart sSize pss hdev hpss] at hchunks
  have hsum : (chunks.map List.length).sum = sSize := by
    rw [← List.length_flatten, hchunks, readAt_length]
  have := (writeContents_fits tStart tSize chunks (by omega)).2 d
  rwa [hsum, hchunks] at this

/-- GPT start/end/size reconciliation never yields a size other than the entry's own -/
theorem gpt_reconcile_size (pStart pEnd pSize lss sz : Nat)
    (h : gptReconcile pStart pEnd pSize lss = some sz) :
    (pSize > 0 ∧ sz = pSize) ∨ (pSize = 0 ∧ pEnd ≥ pStart ∧ sz = (pEnd + 1 - pStart) * lss) := by
  unfold gptReconcile at h
  simp only at h
  split at h
  · rename_i h1; exact .inl ⟨h1.1, (Option.some.inj h).symm⟩
  · split at h
    · rename_i h2; exact .inr ⟨h2.1, h2.2, (Option.some.inj h).symm⟩
    · split at h
      · rename_i h3; exact .inl ⟨h3.1, (Option.some.inj h).symm⟩
      · cases h

/-! ### disk level: which partition Disk.WritePartitionContents / ReadPartitionContents / CopyPartitionRaw address

  Model/PartDisk.lean mirrors Disk.GetPartition (first entry of `Table.GetPartitions()` whose `GetIndex()` equals
  the argument), the start/end/size switch at the head of gpt WriteContents, `sectorSizes()` and the io.Pipe of
  CopyPartitionRaw in front of the streaming loops above.  Every theorem quantifies over EVERY table (any list of
  partitions: sparse GPT slots, duplicate, zero or negative indices, MBR slots, partitions never stamped with a
  sector size), every index, every reader chunking and every device content. -/

open Diskfs.PartDisk

/-- the lookup picks the FIRST partition that carries the index: it has that index and nothing in front of it does -/
theorem disk_lookup_first (ps : List P) (idx : Int) (p : P) (h : getPartition ps idx = some p) :
    p.index = idx ∧ ∃ pre post, ps = pre ++ p :: post ∧ ∀ q ∈ pre, q.index ≠ idx :=
  getPartition_some ps idx p h

/-- the lookup fails exactly when no partition of the table carries the index (index 0 of a table numbered from 1,
    an index past the last slot, an unused sparse GPT slot, a negative index) -/
theorem disk_lookup_none_iff (ps : List P) (idx : Int) : getPartition ps idx = none ↔ ∀ q ∈ ps, q.index ≠ idx :=
  getPartition_none ps idx

/-- with pairwise different indices (what gpt.Read / mbr.Read produce) the lookup returns THE partition with the index -/
theorem disk_lookup_unique (ps : List P) (idx : Int) (p : P) (hp : p ∈ ps) (hi : p.index = idx)
    (huniq : ∀ a ∈ ps, ∀ b ∈ ps, a.index = b.index → a = b) : getPartition ps idx = some p :=
  getPartition_unique ps idx p hp hi huniq

/-- the start/end/size switch of gpt WriteContents assigns nothing but Size or End, so the byte start is kept;
    the byte size is the entry's own Size when set, else the size computed from End -/
theorem reconcile_range (p p' : P) (h : reconcile p = some p') :
    p'.kind = p.kind ∧ p'.index = p.index ∧ p'.start = p.start ∧ p'.lss = p.lss ∧ p'.pss = p.pss ∧
    p'.byteStart = p.byteStart ∧ (p.kind = .mbr → p' = p) ∧
    (p.kind = .gpt → (0 < p.size ∧ p'.byteSize = p.size) ∨
                      (p.size = 0 ∧ p.start ≤ p.end_ ∧ p'.byteSize = calcSize p)) :=
  reconcile_spec p p' h

set_option linter.unusedVariables false in
/-- the uint64 expression `(End - Start + 1) * lss` is the plain product whenever that does not wrap -/
theorem calc_size_exact (p : P) (h1 : p.start ≤ p.end_) (h2 : p.end_ < two64)
    (h3 : (p.end_ - p.start + 1) * p.lssOf < two64) : calcSize p = (p.end_ - p.start + 1) * p.lssOf :=
  -- `h2` is not needed: `h3` bounds the sector count as well
  calcSize_exact p h1 h3

/-- a GPT partition as gpt.Read returns it (Size = (End-Start+1)*lss) passes the switch unchanged -/
theorem reconcile_read_back (p : P) (hk : p.kind = .gpt) (h1 : p.start ≤ p.end_) (h2 : p.end_ < two64)
    (h3 : (p.end_ - p.start + 1) * p.lssOf < two64) (hs : p.size = (p.end_ - p.start + 1) * p.lssOf) :
    reconcile p = some p :=
  reconcile_consistent p hk h1 h2 h3 hs

/-- WritePartitionContents, unconditionally: a WriteAt is issued only if the table exists, the index names a
    partition and its fields reconcile — and then it lies inside the byte range of the FIRST partition with that index -/
theorem disk_write_in_partition (tbl : Option (List P)) (idx : Int) (chunks : List Bytes) (w : Wr)
    (hw : w ∈ (diskWrite tbl idx chunks).ws) :
    ∃ ps p p', tbl = some ps ∧ getPartition ps idx = some p ∧ reconcile p = some p' ∧
      p.byteStart ≤ w.off ∧ w.off + w.data.length ≤ p.byteStart + p'.byteSize :=
  diskWrite_in_partition tbl idx chunks w hw

/-- a partition VALUE handed DIRECTLY to Partition.WriteContents (no Disk, no table lookup), in every spelling
    (Start+End, Start+Size with End = 0, all three fields, contradictory ones; stamped or not): fields that do not
    reconcile are refused before anything is written; otherwise every WriteAt lies inside the byte range of the
    partition as the switch leaves it — whatever the reader supplies, however much too long —, success iff exactly
    that many bytes were supplied, on success the range holds the supplied bytes, and no byte outside it changes -/
theorem part_write_direct (d : Dev) (p : P) (chunks : List Bytes) :
    (reconcile p = none → partWrite p chunks = none) ∧
    (∀ p', reconcile p = some p' → ∃ r, partWrite p chunks = some (r, p') ∧
        (∀ w ∈ r.ws, p.byteStart ≤ w.off ∧ w.off + w.data.length ≤ p.byteStart + p'.byteSize) ∧
        (r.ok = true ↔ (chunks.map List.length).sum = p'.byteSize) ∧
        (r.ok = true → readAt (applyWrs d r.ws) p.byteStart p'.byteSize = chunks.flatten) ∧
        (∀ i, i < p.byteStart ∨ p.byteStart + p'.byteSize ≤ i → applyWrs d r.ws i = d i)) := by
  refine ⟨fun h => by simp [partWrite, h], fun p' hr => ?_⟩
  have hb : p'.byteStart = p.byteStart := reconcile_byteStart hr
  refine ⟨writeContents p'.byteStart p'.byteSize chunks, by simp [partWrite, hr],
    writeContents_in_reconciled hr chunks, write_ok_iff _ _ _, ?_, ?_⟩
  · intro hok; rw [← hb]; exact write_effect d _ _ _ hok
  · intro i hi; rw [← hb] at hi; exact write_frame d _ _ _ i hi

/-- the Start+Size spelling (End = 0, Size a positive multiple of the sector size): accepted, and the bound of the
    write loop is the entry's own Size — not the size computed from End, which has wrapped in uint64 (End - Start + 1
    with End = 0); End is assigned Start + Size/lss - 1 -/
theorem start_size_spelling (p : P) (hk : p.kind = .gpt) (he : p.end_ = 0) (hs : 0 < p.size)
    (hm : p.size % p.lssOf = 0) :
    ∃ p', reconcile p = some p' ∧ p'.byteSize = p.size ∧ p'.byteStart = p.byteStart ∧
      (p.size ≠ calcSize p → p'.end_ = (p.start + p.size / p.lssOf + two64 - 1) % two64) := by
  by_cases hc : p.size = calcSize p
  · refine ⟨p, ?_, byteSize_gpt p hk, rfl, fun h => absurd hc h⟩
    simp only [reconcile, hk]
    rw [if_pos ⟨hs, hc⟩]
  · have h2 : ¬ (p.size = 0 ∧ p.end_ ≥ p.start) := by omega
    refine ⟨{ p with end_ := (p.start + p.size / p.lssOf + two64 - 1) % two64 }, ?_, ?_, ?_, fun _ => rfl⟩
    · simp only [reconcile, hk]
      rw [if_neg (by intro h; exact hc h.2), if_neg h2, if_pos ⟨hs, hm, he⟩]
    · simp [P.byteSize, hk]
    · simp [P.byteStart, P.lssOf]

/-- no table, no such index (index 0, out of range, unused slot) or irreconcilable fields: nothing is written -/
theorem disk_write_refused_writes_nothing (ps : List P) (idx : Int) (chunks : List Bytes) :
    (diskWrite none idx chunks).ws = [] ∧
    (getPartition ps idx = none → (diskWrite (some ps) idx chunks).ws = []) ∧
    (∀ p, getPartition ps idx = some p → reconcile p = none → (diskWrite (some ps) idx chunks).ws = []) :=
  ⟨rfl, diskWrite_badIndex ps idx chunks, fun p h hr => diskWrite_unreconciled ps idx chunks p h hr⟩

/-- WritePartitionContents on the partition the lookup picks: success iff exactly its size was supplied; on
    success the partition holds exactly the supplied bytes; in every case no byte outside it changes -/
theorem disk_write_effect (d : Dev) (ps : List P) (idx : Int) (chunks : List Bytes) (p p' : P)
    (hg : getPartition ps idx = some p) (hr : reconcile p = some p') :
    ∃ r, diskWrite (some ps) idx chunks = .done r ∧
      (r.ok = true ↔ (chunks.map List.length).sum = p'.byteSize) ∧
      (r.ok = true → readAt (applyWrs d r.ws) p.byteStart p'.byteSize = chunks.flatten) ∧
      (∀ i, i < p.byteStart ∨ p.byteStart + p'.byteSize ≤ i → applyWrs d r.ws i = d i) := by
  obtain ⟨r, hpw, _, hrest⟩ := (part_write_direct d p chunks).2 p' hr
  exact ⟨r, by simp [diskWrite, hg, hpw], hrest⟩

/-- hence any OTHER partition whose byte range does not overlap the addressed one keeps its contents, whatever
    the reader supplies -/
theorem disk_write_other_partition_untouched (d : Dev) (tbl : Option (List P)) (idx : Int) (chunks : List Bytes) (q : P)
    (hq : ∀ ps p p', tbl = some ps → getPartition ps idx = some p → reconcile p = some p' →
      q.byteStart + q.byteSize ≤ p.byteStart ∨ p.byteStart + p'.byteSize ≤ q.byteStart) :
    readAt (applyWrs d (diskWrite tbl idx chunks).ws) q.byteStart q.byteSize = readAt d q.byteStart q.byteSize := by
  apply readAt_congr
  intro i h1 h2
  apply applyWrs_frame
  intro w hw
  obtain ⟨ps, p, p', h0, hg, hr, hlo, hhi⟩ := disk_write_in_partition tbl idx chunks w hw
  have := hq ps p p' h0 hg hr
  omega

/-- ReadPartitionContents: for the partition the lookup picks (inside the device; not the GPT Size = 0 case) the
    writer receives exactly the partition's bytes, the count is its size, and every ReadAt stays inside it and is
    at most one physical-sector chunk long -/
theorem disk_read_exact (d : Dev) (devSize : Nat) (ps : List P) (idx : Int) (p : P)
    (hg : getPartition ps idx = some p) (hsz : p.kind = .gpt → 0 < p.size)
    (hdev : p.byteStart + p.byteSize ≤ devSize) :
    diskRead d devSize (some ps) idx = .done (readAt d p.byteStart p.byteSize) p.byteSize (partReadReqs devSize p) ∧
    (∀ r ∈ partReadReqs devSize p, p.byteStart ≤ r.1 ∧ r.1 + r.2 ≤ p.byteStart + p.byteSize ∧ r.2 ≤ p.pssOf) ∧
    ((partReadReqs devSize p).map (·.2)).sum = p.byteSize := by
  have h1 := oneChunk_false_of_size p hsz
  refine ⟨?_, partReadReqs_inside devSize p h1 hdev⟩
  simp only [diskRead, hg, partRead_exact d devSize p h1 hdev]

/-- ReadPartitionContents on a missing table / index reads nothing -/
theorem disk_read_refused (d : Dev) (devSize : Nat) (ps : List P) (idx : Int) (h : getPartition ps idx = none) :
    diskRead d devSize (some ps) idx = .badIndex ∧ diskRead d devSize none idx = .noTable := by
  simp [diskRead, h]

/-- CopyPartitionRaw, unconditionally: every WriteAt lies inside the target partition (source missing, larger
    than the target, overlapping, unreadable: all included) -/
theorem copy_in_target (d : Dev) (devSize : Nat) (ps : List P) (from_ to : Int) (w : Wr)
    (hw : w ∈ (copyRaw d devSize ps from_ to).ws) :
    ∃ tp tp', getPartition ps to = some tp ∧ reconcile tp = some tp' ∧
      tp.byteStart ≤ w.off ∧ w.off + w.data.length ≤ tp.byteStart + tp'.byteSize :=
  copyRaw_in_target d devSize ps from_ to w hw

/-- CopyPartitionRaw is correct whenever it can be: source and (reconciled) target inside the device, target at
    least as large, ranges disjoint.  Then the outcome is success (the verification pass included), the target's
    leading bytes are the source's bytes, the source still holds them and nothing outside the target changed — for
    every device content and every pair of physical sector sizes of the two partitions -/
theorem copy_correct (d : Dev) (devSize : Nat) (ps : List P) (from_ to : Int) (sp tp tp' : P)
    (hs : getPartition ps from_ = some sp) (ht : getPartition ps to = some tp) (hr : reconcile tp = some tp')
    (hne : from_ ≠ to) (hpos : 0 < sp.byteSize)
    (hsdev : sp.byteStart + sp.byteSize ≤ devSize) (htdev : tp.byteStart + tp'.byteSize ≤ devSize)
    (hfit : sp.byteSize ≤ tp'.byteSize)
    (hdisj : sp.byteStart + sp.byteSize ≤ tp.byteStart ∨ tp.byteStart + tp'.byteSize ≤ sp.byteStart) :
    (copyRaw d devSize ps from_ to).out = .ok ∧
    readAt (applyWrs d (copyRaw d devSize ps from_ to).ws) tp.byteStart sp.byteSize = readAt d sp.byteStart sp.byteSize ∧
    readAt (applyWrs d (copyRaw d devSize ps from_ to).ws) sp.byteStart sp.byteSize = readAt d sp.byteStart sp.byteSize ∧
    (∀ i, i < tp.byteStart ∨ tp.byteStart + tp'.byteSize ≤ i → applyWrs d (copyRaw d devSize ps from_ to).ws i = d i) :=
  copyRaw_correct d devSize ps from_ to sp tp tp' hs ht hr hne hpos hsdev htdev hfit hdisj

/-! ### from the bytes of an MBR to the bytes of a partition: mbr.Read, then Disk.GetPartition, then the stream -/

/-- after mbr.Read with sector sizes (lbs, pbs) — any Ints; 512 stands in when not positive — Disk.GetPartition(k)
    for k = 1..4 finds slot k, whose byte range is [Start*L, (Start+Size)*L) with L the stamped LOGICAL sector size
    (so also on 4096-byte sectors) and whose chunk size is the stamped physical sector size -/
theorem mbr_read_then_lookup (d : Dev) (devSize : Nat) (lbs pbs : Int) (t : Mbr.Table)
    (h : (Mbr.readT d devSize lbs pbs).1 = .ok t) (k : Nat) (hk : k < 4) :
    ∃ p, t.parts[k]? = some p ∧ p.index = k + 1 ∧
      getPartition t.diskParts ((k + 1 : Nat) : Int) = some (Mbr.toP t p) ∧
      (Mbr.toP t p).byteStart = p.start * Mbr.stamp lbs ∧ (Mbr.toP t p).byteSize = p.size * Mbr.stamp lbs ∧
      (Mbr.toP t p).pssOf = Mbr.stamp pbs ∧ reconcile (Mbr.toP t p) = some (Mbr.toP t p) :=
  Mbr.readT_lookup d devSize lbs pbs t h k hk

/-- end to end for MBR: whatever the first sector holds, if mbr.Read accepts it then WritePartitionContents(k), k = 1..4,
    writes only inside [Start_k * L, (Start_k + Size_k) * L) of slot k as decoded from the device bytes -/
theorem mbr_read_then_write_in_slot (d : Dev) (devSize : Nat) (lbs pbs : Int) (t : Mbr.Table)
    (h : (Mbr.readT d devSize lbs pbs).1 = .ok t) (k : Nat) (hk : k < 4) (chunks : List Bytes) (w : Wr)
    (hw : w ∈ (diskWrite (some t.diskParts) ((k + 1 : Nat) : Int) chunks).ws) :
    ∃ p, t.parts[k]? = some p ∧ p.start * Mbr.stamp lbs ≤ w.off ∧
      w.off + w.data.length ≤ p.start * Mbr.stamp lbs + p.size * Mbr.stamp lbs := by
  obtain ⟨p, hp, _, hg, hs, hz, _, hr⟩ := mbr_read_then_lookup d devSize lbs pbs t h k hk
  obtain ⟨ps, q, q', h0, hg', hr', hlo, hhi⟩ := disk_write_in_partition _ _ chunks w hw
  cases h0
  rw [hg] at hg'
  cases hg'
  rw [hr] at hr'
  cases hr'
  exact ⟨p, hp, by rw [← hs]; exact hlo, by rw [← hs, ← hz]; exact hhi⟩

/-! non-vacuity of the disk-level theorems: a sparse GPT table (slots 3 and 7 used, 4096-byte logical sectors on
    the second, different physical sector sizes) and an MBR slot -/
def exA : P := { kind := .gpt, index := 3, start := 2048, end_ := 4095, size := 1048576, lss := 512, pss := 512 }
def exB : P := { kind := .gpt, index := 7, start := 1024, end_ := 2047, size := 0, lss := 4096, pss := 4096 }
def exM : P := { kind := .mbr, index := 1, start := 63, end_ := 0, size := 100, lss := 0, pss := 0 }
example : getPartition [exA, exB] 7 = some exB ∧ getPartition [exA, exB] 0 = none ∧ getPartition [exA, exB] 4 = none ∧
    getPartition [exA, exB, exA] 3 = some exA ∧ getPartition [exA, exB] (-1) = none := by decide
example : reconcile exA = some exA ∧ reconcile exB = some { exB with size := 4194304 } ∧ reconcile exM = some exM ∧
    reconcile { exA with size := 5 } = none := by decide
example : exA.byteStart = 1048576 ∧ exB.byteStart = 4194304 ∧ exM.byteStart = 32256 ∧ exM.byteSize = 51200 := by decide
-- the hypotheses of copy_correct hold for 3 → 7 (1 MiB source, 4 MiB target behind it, device of 16 MiB)
example : getPartition [exA, exB] 3 = some exA ∧ getPartition [exA, exB] 7 = some exB ∧
    reconcile exB = some { exB with size := 4194304 } ∧ 0 < exA.byteSize ∧ exA.byteStart + exA.byteSize ≤ 16777216 ∧
    exB.byteStart + ({ exB with size := 4194304 } : P).byteSize ≤ 16777216 ∧
    exA.byteSize ≤ ({ exB with size := 4194304 } : P).byteSize ∧ exA.byteStart + exA.byteSize ≤ exB.byteStart := by decide

/-- facts regenerated from partition/mbr/partition.go: the four byte offset / size
    products are computed in 64-bit arithmetic, which is what lets the model use unbounded naturals
    (sector counts are < 2^32 and sector sizes ≤ 4096, so no 64-bit product wraps). -/
theorem facts_agree_mbr_widths :
    64 ≤ Generated.PartIO.mbrWriteContents_start_width ∧ 64 ≤ Generated.PartIO.mbrWriteContents_size_width ∧
    64 ≤ Generated.PartIO.mbrReadContents_start_width ∧ 64 ≤ Generated.PartIO.mbrReadContents_size_width := by
  decide

/-- facts regenerated from disk/disk.go and partition/mbr/table.go, the shapes the dispatch models rely on:
    Disk.GetPartition breaks out of its loop on the first partition whose GetIndex() equals the argument
    (`getPartition` = `find?`); mbr.Read allocates 512 bytes and stamps the logical / physical sector size on the
    table and on every partition exactly when the value handed in is > 0 (`Mbr.stamp`); mbr.Table.Write begins by
    refusing more than four partitions (`Mbr.writeT`) -/
theorem facts_agree_dispatch :
    Generated.PartIO.getPartitionFirstMatch = true ∧
    Generated.PartIO.mbrReadStamps =
      ["logicalBlockSize>0:LogicalSectorSize:logicalSectorSize", "physicalBlockSize>0:PhysicalSectorSize:physicalSectorSize"] ∧
    Generated.PartIO.mbrReadBufLen = 512 ∧
    Generated.PartIO.mbrWriteMaxParts = 4 ∧ Generated.PartIO.mbrWriteRefusesFirst = true :=
  ⟨rfl, rfl, rfl, rfl, rfl⟩

/-! non-vacuity: concrete instances meeting the hypotheses -/
-- Start+Size spelling handed directly to WriteContents, reader oversupplying by several chunks: refused at the
-- first chunk that would cross the partition's end (2 sectors at LBA 2048; 4-byte sectors keep `decide` small),
-- nothing written beyond it, End assigned
example : (partWrite ⟨.gpt, 1, 2048, 0, 8, 4, 4⟩ [[1,2,3,4], [5,6,7,8], [9,9,9,9], [9,9,9,9]]).map
    (fun x => (x.1.ws.map (fun w => (w.off, w.data.length)), x.1.total, x.1.ok, x.2.end_)) =
    some ([(8192, 4), (8196, 4)], 8, false, 2049) := by decide
example : (8 : Nat) ≠ calcSize ⟨.gpt, 1, 2048, 0, 8, 4, 4⟩ := by decide
example : (writeContents 5368709120 6 [[1,2,3], [], [4,5,6]]).ok = true := by decide
example : (writeContents 10 4 [[1,2,3]]).ok = false := by decide
example : (writeContents 10 4 [[1,2,3],[4,5]]).ok = false := by decide
example : (readContents (fun i => UInt8.ofNat i) 100 3 5 4).1 = [3,4,5,6,7] := by
  simp [readContents, readLoop, readAt]; decide

end Diskfs.PartIO.C13
