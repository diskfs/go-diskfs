/-
  The group descriptor checksum of the Go reader (Model/Ext4/CsumMirror.lean) against the SPEC reader's
  (ImageSpec.gdRead): the crc over the descriptor's range of the image with the checksum field skipped is crc32c of
  the descriptor with that field cleared; the group number as 16 bits in a 4-byte buffer.
-/
import DiskfsModel.Model.Ext4.CsumMirror
import DiskfsModel.Proofs.Ext4InodeDecode
namespace Diskfs.Ext4.InodeDec
open Diskfs Diskfs.Ext4.Reader Diskfs.Ext4.Spec

theorem crcRange_clearGd (i : Img) (o n : Nat) (c : UInt32) :
    i.crcRange (fun p => p == o + 0x1e || p == o + 0x1f) o n c = crc32c c (clearGd (i.bytes o n)) := by
  rw [crcRange_mapIdx]
  unfold clearGd
  congr 2
  funext k x
  simp

theorem leEnc4_small (n : Nat) (h : n < 65536) : leEnc 4 n = leEnc 2 (n % 65536) ++ [0, 0] := by
  have h1 : n % 65536 = n := Nat.mod_eq_of_lt h
  have h2 : n / 256 / 256 = 0 := by omega
  simp [leEnc, h1, h2]

end Diskfs.Ext4.InodeDec
