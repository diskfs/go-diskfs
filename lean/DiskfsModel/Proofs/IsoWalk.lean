/-
  What the depth-first listing contains: every entry reached from a directory by a chain of children.
-/
import DiskfsModel.Model.Iso.Compose
namespace Diskfs.Iso

/-- `c₁, c₂, …`: each a child of the one before (the first a child of `d`), all but the last directories -/
def PTree.Chain (t : PTree) : Nat → List Nat → Prop
  | _, [] => True
  | d, c :: r => c ∈ t.kids d ∧ (r ≠ [] → (t.ent c).isDir = true) ∧ t.Chain c r

/-- the identifiers along a chain -/
def PTree.names (t : PTree) (l : List Nat) : List Bytes := l.map fun c => (t.ent c).name

theorem walk_contains (t : PTree) : ∀ (chain : List Nat) (fuel : Nat) (pre : List Bytes) (d : Nat) (hne : chain ≠ []),
    t.Chain d chain → chain.length ≤ fuel →
    t.reOf (pre ++ t.names chain.dropLast) (chain.getLast hne) ∈ t.walk fuel pre d := by
  intro chain
  induction chain with
  | nil => intro _ _ _ h; exact absurd rfl h
  | cons c r ih =>
    intro fuel pre d hne hch hlen
    cases fuel with
    | zero => simp at hlen
    | succ f =>
      obtain ⟨hc, hdir, hrest⟩ := hch
      simp only [PTree.walk, List.mem_flatMap]
      refine ⟨c, hc, ?_⟩
      cases r with
      | nil =>
        simp only [List.dropLast_singleton, PTree.names, List.map_nil, List.append_nil, List.getLast_singleton]
        exact List.mem_cons_self ..
      | cons c2 r2 =>
        have hd := hdir (by simp)
        have := ih f (pre ++ [(t.ent c).name]) c (by simp) hrest (by simp at hlen ⊢; omega)
        rw [if_pos hd]
        apply List.mem_cons_of_mem
        simp only [List.dropLast_cons_cons, PTree.names, List.map_cons, List.getLast_cons_cons] at this ⊢
        rw [List.append_assoc] at this
        exact this

/-- a chain in the workspace: each entry a child of the one before, all but the last directories -/
def WTree.Chain (w : WTree) : Nat → List Nat → Prop
  | _, [] => True
  | d, c :: r => c ∈ w.kids d ∧ (r ≠ [] → w.isDir c = true) ∧ w.Chain c r

theorem chain_ptree (w : WTree) (fin : Nat → Nat → Nm) (loc size : Nat → Nat) :
    ∀ (l : List Nat) (d : Nat), w.Chain d l → (w.ptree fin loc size).Chain d l := by
  intro l
  induction l with
  | nil => intro _ _; trivial
  | cons c r ih => intro d h; exact ⟨h.1, h.2.1, ih c h.2.2⟩

end Diskfs.Iso
