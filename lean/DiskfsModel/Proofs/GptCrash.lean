/-
  C09, record level.  The disk is a record of the five regions `Table.Write` touches
  (sector 0, primary header, primary array, backup array, backup header) over an abstract
  sector type `S`; an array is `n` sectors.  A write in flight persists ANY subset of its
  sectors (`mix keep new old`); a single-sector write (protective MBR entries, a header) is
  atomic: old or new.  The reader is gpt.Read's decision structure: primary header, primary
  array CRC, and on a content error the backup header and the backup array CRC.
  Stated hypotheses (not hidden): sector atomicity is built into `Crash`; the collision premise is
  explicit (`NoCrcCollision`, taken by Props/C09; `crash_atomic_parts` needs it only up to the decoded list).
-/
namespace Diskfs.GptCrash

structure Disk (S : Type) (n : Nat) where
  mbr : S
  ph : S
  pa : Fin n → S
  ba : Fin n → S
  bh : S

/-- a torn multi-sector write: sector `i` is new iff `keep i` -/
def mix {S : Type} {n : Nat} (keep : Fin n → Bool) (new old : Fin n → S) : Fin n → S :=
  fun i => if keep i then new i else old i

/-- the reader's view of sectors: `hdrP` / `hdrB` decode-and-validate a header sector (signature,
    revision, size, header CRC; `hdrB` also checks that the header says it lives at the last LBA)
    and yield the array CRC it records; `crc` and `parts` act on an `n`-sector array. -/
structure Reader (S P : Type) (n : Nat) where
  hdrP : S → Option Nat
  hdrB : S → Option Nat
  crc : (Fin n → S) → Nat
  parts : (Fin n → S) → P

inductive Out (P : Type) where
  | ok (p : P) (fromBackup : Bool)
  | err

def Out.parts? {P : Type} : Out P → Option P
  | .ok p _ => some p
  | .err => none

def readBackup {S P : Type} {n : Nat} (R : Reader S P n) (d : Disk S n) : Out P :=
  match R.hdrB d.bh with
  | some c => if R.crc d.ba = c then .ok (R.parts d.ba) true else .err
  | none => .err

/-- gpt.Read: the primary if its header validates and its array has the recorded CRC,
    otherwise (content error) the backup -/
def read {S P : Type} {n : Nat} (R : Reader S P n) (d : Disk S n) : Out P :=
  match R.hdrP d.ph with
  | some c => if R.crc d.pa = c then .ok (R.parts d.pa) false else readBackup R d
  | none => readBackup R d

/-- every state the disk can be in if `Write new` over `old` is cut off: the synced writes in
    program order — backup array, backup header, primary array, primary header, with the
    protective-MBR entries of sector 0 either first (`pmFirst = true`, the order found in the code)
    or last (`pmFirst = false`, the repaired order) — the one in flight with any subset of its
    sectors persisted -/
inductive Crash {S : Type} {n : Nat} (pmFirst : Bool) (old new : Disk S n) : Disk S n → Prop
  | pmbrFirst (m : S) (hm : m = old.mbr ∨ m = new.mbr) (hf : pmFirst = true) : Crash pmFirst old new { old with mbr := m }
  | backupArray (keep : Fin n → Bool) :
      Crash pmFirst old new { old with mbr := if pmFirst then new.mbr else old.mbr, ba := mix keep new.ba old.ba }
  | backupHeader (h : S) (hh : h = old.bh ∨ h = new.bh) :
      Crash pmFirst old new { old with mbr := if pmFirst then new.mbr else old.mbr, ba := new.ba, bh := h }
  | primaryArray (keep : Fin n → Bool) :
      Crash pmFirst old new { mbr := if pmFirst then new.mbr else old.mbr, ba := new.ba, bh := new.bh, ph := old.ph,
                              pa := mix keep new.pa old.pa }
  | primaryHeader (h : S) (hh : h = old.ph ∨ h = new.ph) :
      Crash pmFirst old new { new with mbr := if pmFirst then new.mbr else old.mbr, ph := h }
  | pmbrLast (m : S) (hm : m = old.mbr ∨ m = new.mbr) (hf : pmFirst = false) : Crash pmFirst old new { new with mbr := m }

/-- the old table is valid on disk (only its primary copy is needed) -/
structure OldOk {S P : Type} {n : Nat} (R : Reader S P n) (old : Disk S n) : Prop where
  hdr : R.hdrP old.ph = some (R.crc old.pa)

/-- what `Write` produces: both headers validate and carry the CRC of the (same) array -/
structure NewOk {S P : Type} {n : Nat} (R : Reader S P n) (new : Disk S n) : Prop where
  hdrP : R.hdrP new.ph = some (R.crc new.pa)
  hdrB : R.hdrB new.bh = some (R.crc new.ba)
  same : new.ba = new.pa

/-- CRC32 is not collision free: the theorem assumes that no sector-wise mixture of the old and the
    new array, other than the old or the new array itself, has the old array's CRC.  The correspondence
    run evaluates this premise with the real CRC on every generated pair. -/
def NoCrcCollision {S P : Type} {n : Nat} (R : Reader S P n) (old new : Disk S n) : Prop :=
  ∀ keep : Fin n → Bool, R.crc (mix keep new.pa old.pa) = R.crc old.pa →
    mix keep new.pa old.pa = old.pa ∨ mix keep new.pa old.pa = new.pa

theorem mix_all {S : Type} {n : Nat} (new old : Fin n → S) : mix (fun _ => true) new old = new := by
  funext i; simp [mix]

theorem mix_none {S : Type} {n : Nat} (new old : Fin n → S) : mix (fun _ => false) new old = old := by
  funext i; simp [mix]

theorem mix_same {S : Type} {n : Nat} (keep : Fin n → Bool) (a : Fin n → S) : mix keep a a = a := by
  funext i; simp [mix]

theorem disk_ext {S : Type} {n : Nat} (a b : Disk S n) (h1 : a.mbr = b.mbr) (h2 : a.ph = b.ph) (h3 : a.pa = b.pa)
    (h4 : a.ba = b.ba) (h5 : a.bh = b.bh) : a = b := by
  cases a; cases b; simp_all

/-- what `read` decides: the primary copy when its header validates and records its array's CRC, in every other
    case whatever the backup copy gives -/
theorem read_cases {S P : Type} {n : Nat} (R : Reader S P n) (d : Disk S n) :
    (∃ c, R.hdrP d.ph = some c ∧ R.crc d.pa = c ∧ read R d = .ok (R.parts d.pa) false) ∨ read R d = readBackup R d := by
  unfold read
  cases hp : R.hdrP d.ph with
  | none => exact .inr rfl
  | some c =>
    by_cases hc : R.crc d.pa = c
    · exact .inl ⟨c, rfl, hc, if_pos hc⟩
    · exact .inr (if_neg hc)

/-- crash atomicity, GPT over GPT, with the collision premise only up to the decoded partition list: the flat
    model states it on bytes and need not show that putting the sectors together is injective -/
theorem crash_atomic_parts {S P : Type} {n : Nat} (R : Reader S P n) (pmFirst : Bool) (old new : Disk S n)
    (hOld : OldOk R old) (hNew : NewOk R new)
    (hColl : ∀ keep : Fin n → Bool, R.crc (mix keep new.pa old.pa) = R.crc old.pa →
      R.parts (mix keep new.pa old.pa) = R.parts old.pa ∨ R.parts (mix keep new.pa old.pa) = R.parts new.pa)
    (d : Disk S n) (hd : Crash pmFirst old new d) :
    (read R d).parts? = some (R.parts old.pa) ∨ (read R d).parts? = some (R.parts new.pa) := by
  cases hd with
  | pmbrFirst m hm hf => left; simp [read, hOld.hdr, Out.parts?]
  | pmbrLast m hm hf => right; simp [read, hNew.hdrP, Out.parts?]
  | backupArray keep => left; simp [read, hOld.hdr, Out.parts?]
  | backupHeader h hh => left; simp [read, hOld.hdr, Out.parts?]
  | primaryArray keep =>
    rcases read_cases R _ with ⟨c, hp, hm, hr⟩ | hr <;> rw [hr]
    · exact (hColl keep (hm.trans (Option.some.inj (hp.symm.trans hOld.hdr)))).imp (congrArg some) (congrArg some)
    · right; simp [readBackup, hNew.hdrB, hNew.same, Out.parts?]
  | primaryHeader h hh =>
    right
    rcases read_cases R _ with ⟨c, hp, hm, hr⟩ | hr <;> rw [hr]
    · rfl
    · simp [readBackup, hNew.hdrB, hNew.same, Out.parts?]

theorem crash_headers {S : Type} {n : Nat} (pmFirst : Bool) (old new d : Disk S n) (hd : Crash pmFirst old new d) :
    (d.ph = old.ph ∨ d.ph = new.ph) ∧ (d.bh = old.bh ∨ d.bh = new.bh) := by
  cases hd with
  | pmbrFirst m hm hf => exact ⟨Or.inl rfl, Or.inl rfl⟩
  | pmbrLast m hm hf => exact ⟨Or.inr rfl, Or.inr rfl⟩
  | backupArray keep => exact ⟨Or.inl rfl, Or.inl rfl⟩
  | backupHeader h hh => exact ⟨Or.inl rfl, hh⟩
  | primaryArray keep => exact ⟨Or.inl rfl, Or.inr rfl⟩
  | primaryHeader h hh => exact ⟨hh, Or.inr rfl⟩

theorem old_reads_primary {S P : Type} {n : Nat} (R : Reader S P n) (old : Disk S n) (hOld : OldOk R old) :
    read R old = .ok (R.parts old.pa) false := by
  simp [read, hOld.hdr]

/-- a completed write reads back as the new table, from the primary copy -/
theorem complete_reads_primary {S P : Type} {n : Nat} (R : Reader S P n) (new : Disk S n) (hNew : NewOk R new) :
    read R new = .ok (R.parts new.pa) false :=
  old_reads_primary R new ⟨hNew.hdrP⟩

theorem complete_is_crash_state {S : Type} {n : Nat} (pmFirst : Bool) (old new : Disk S n) :
    Crash pmFirst old new new := by
  cases pmFirst with
  | true => exact Crash.primaryHeader new.ph (Or.inr rfl)
  | false => exact Crash.pmbrLast new.mbr (Or.inr rfl) rfl

theorem blank_reads_err {S P : Type} {n : Nat} (R : Reader S P n) (old : Disk S n)
    (hP : R.hdrP old.ph = none) (hB : R.hdrB old.bh = none) : read R old = .err := by
  simp [read, readBackup, hP, hB]

/-- first-ever write (neither header of the old disk validates): every crash state reads as an error or as the new
    table; and what partition.Read needs besides: as long as it reads as an error, sector 0 is still the old one
    when the protective MBR goes last -/
theorem blank_crash {S P : Type} {n : Nat} (R : Reader S P n) (pmFirst : Bool) (old new : Disk S n)
    (hP : R.hdrP old.ph = none) (hB : R.hdrB old.bh = none) (hNew : NewOk R new)
    (d : Disk S n) (hd : Crash pmFirst old new d) :
    (read R d = .err ∧ (pmFirst = false → d.mbr = old.mbr)) ∨ ∃ b, read R d = .ok (R.parts new.pa) b := by
  cases hd with
  | pmbrFirst m hm hf => left; exact ⟨blank_reads_err R _ hP hB, fun h => by simp [hf] at h⟩
  | pmbrLast m hm hf => right; simp [read, hNew.hdrP]
  | backupArray keep => left; exact ⟨blank_reads_err R _ hP hB, fun h => by simp [h]⟩
  | backupHeader h hh =>
    rcases hh with hh | hh
    · subst hh; left; exact ⟨blank_reads_err R _ hP hB, fun h => by simp [h]⟩
    · subst hh; right; simp [read, readBackup, hP, hNew.hdrB, hNew.same]
  | primaryArray keep => right; simp [read, readBackup, hP, hNew.hdrB, hNew.same]
  | primaryHeader h hh =>
    right
    rcases read_cases R _ with ⟨c, hp, hm, hr⟩ | hr <;> rw [hr]
    · exact ⟨_, rfl⟩
    · simp [readBackup, hNew.hdrB, hNew.same]

/-- first-ever write (no valid GPT before: neither header validates): every crash state reads as an
    error (as before the write) or as exactly the new table -/
theorem blank_old {S P : Type} {n : Nat} (R : Reader S P n) (pmFirst : Bool) (old new : Disk S n)
    (hP : R.hdrP old.ph = none) (hB : R.hdrB old.bh = none) (hNew : NewOk R new)
    (d : Disk S n) (hd : Crash pmFirst old new d) :
    read R d = .err ∨ (read R d).parts? = some (R.parts new.pa) := by
  rcases blank_crash R pmFirst old new hP hB hNew d hd with ⟨h, _⟩ | ⟨b, h⟩
  · exact Or.inl h
  · right; rw [h]; rfl

inductive POut (P M : Type) where
  | gpt (p : P)
  | mbr (m : M)
  | err

/-- partition/partition.go Read: gpt.Read, and if that fails whatever mbr.Read makes of sector 0 -/
def partRead {S P M : Type} {n : Nat} (R : Reader S P n) (mbrView : S → Option M) (d : Disk S n) : POut P M :=
  match read R d with
  | .ok p _ => .gpt p
  | .err =>
    match mbrView d.mbr with
    | some m => .mbr m
    | none => .err

/-- repaired order (protective MBR last): on a disk without a valid GPT — blank, or carrying an MBR
    table — every crash state reads through partition.Read exactly as the old disk did (no table, or
    the old MBR table) or as exactly the new GPT -/
theorem first_write_atomic {S P M : Type} {n : Nat} (R : Reader S P n) (mbrView : S → Option M) (old new : Disk S n)
    (hP : R.hdrP old.ph = none) (hB : R.hdrB old.bh = none) (hNew : NewOk R new)
    (d : Disk S n) (hd : Crash false old new d) :
    partRead R mbrView d = partRead R mbrView old ∨ partRead R mbrView d = .gpt (R.parts new.pa) := by
  have hold := blank_reads_err R old hP hB
  rcases blank_crash R false old new hP hB hNew d hd with ⟨h, hm⟩ | ⟨b, h⟩
  · left; simp only [partRead, h, hold, hm rfl]
  · right; simp only [partRead, h]

/-- a different order — both arrays before either header — has a crash point (arrays new, headers
    old) that reads as an error although old and new are both fine: `crash_atomic_parts` really uses
    the order array → header on the backup side BEFORE anything on the primary side. -/
theorem order_matters :
    ∃ (R : Reader Nat Nat 1) (old new : Disk Nat 1),
      OldOk R old ∧ NewOk R new ∧ NoCrcCollision R old new ∧
      read R { old with pa := new.pa, ba := new.ba } = .err := by
  refine ⟨⟨fun s => some s, fun s => some s, fun a => a 0, fun a => a 0⟩,
          ⟨0, 1, fun _ => 1, fun _ => 1, 1⟩, ⟨0, 2, fun _ => 2, fun _ => 2, 2⟩, ⟨rfl⟩, ⟨rfl, rfl, rfl⟩, ?_, ?_⟩
  · intro keep _
    cases hk : keep 0
    · left; funext i; have : i = 0 := Fin.ext (by omega); subst this; simp [mix, hk]
    · right; funext i; have : i = 0 := Fin.ext (by omega); subst this; simp [mix, hk]
  · simp [read, readBackup]

end Diskfs.GptCrash
