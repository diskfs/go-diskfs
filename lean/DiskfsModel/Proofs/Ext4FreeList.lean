/-
  The loop of `FreeList` (Model/Ext4/Bitmap.lean: `flStep`, `flFlush`) run over an abstract "is clear" predicate on
  bit positions: its invariant (`Inv`), what the flushed result promises (`RunsSpec`: the maximal runs of clear
  bits, in order) and the sum of the run lengths (`total`).  No byte appears here: Proofs/Ext4Bitmap.lean shows that
  the byte-level `freeList` is this loop over the predicate `!bit bm ·`.
-/
import DiskfsModel.Model.Ext4.Bitmap
namespace Diskfs.Ext4.Bitmap

/-- the `FreeList` loop body iterated over positions `a .. a+n-1` of an abstract
    "is clear" predicate -/
def scanFrom (clr : Nat → Bool) (a n : Nat) (s : FLState) : FLState :=
  (List.range' a n).foldl (fun s p => flStep s p (clr p)) s

theorem scanFrom_add (clr : Nat → Bool) (a m n : Nat) (s : FLState) :
    scanFrom clr a (m + n) s = scanFrom clr (a + m) n (scanFrom clr a m s) := by
  unfold scanFrom
  rw [← List.range'_append_1, List.foldl_append]

theorem scanFrom_succ (clr : Nat → Bool) (a n : Nat) (s : FLState) :
    scanFrom clr a (n + 1) s = flStep (scanFrom clr a n s) (a + n) (clr (a + n)) := by
  unfold scanFrom
  rw [List.range'_1_concat, List.foldl_append]
  rfl

/-- invariant of the `FreeList` loop after positions `0 .. N-1` have been consumed
    (`out` is in reverse order) -/
structure Inv (clr : Nat → Bool) (N : Nat) (s : FLState) : Prop where
  runs : ∀ r ∈ s.out, 0 < r.2 ∧ r.1 + r.2 < N ∧ (∀ i, r.1 ≤ i → i < r.1 + r.2 → clr i = true) ∧
    clr (r.1 + r.2) = false ∧ (0 < r.1 → clr (r.1 - 1) = false)
  sorted : s.out.Pairwise (fun a b => b.1 + b.2 < a.1)
  cur_none : s.loc = none → s.count = 0 ∧ (0 < N → clr (N - 1) = false)
  cur_some : ∀ l, s.loc = some l → l + s.count = N ∧ 0 < s.count ∧
    (∀ i, l ≤ i → i < N → clr i = true) ∧ (0 < l → clr (l - 1) = false) ∧
    ∀ r ∈ s.out, r.1 + r.2 < l
  cover : ∀ i, i < N → clr i = true →
    (∃ r ∈ s.out, r.1 ≤ i ∧ i < r.1 + r.2) ∨ (∃ l, s.loc = some l ∧ l ≤ i)

theorem inv_init (clr : Nat → Bool) : Inv clr 0 ⟨[], none, 0⟩ where
  runs := by simp
  sorted := by simp
  cur_none := by simp
  cur_some := by simp
  cover := by intro i hi; omega

theorem inv_step (clr : Nat → Bool) (N : Nat) (s : FLState) (h : Inv clr N s) :
    Inv clr (N + 1) (flStep s N (clr N)) := by
  obtain ⟨out, loc, count⟩ := s
  obtain ⟨hruns, hsorted, hnone, hsome, hcover⟩ := h
  simp only at hruns hsorted hnone hsome hcover
  have hruns' : ∀ r ∈ out, 0 < r.2 ∧ r.1 + r.2 < N + 1 ∧ (∀ i, r.1 ≤ i → i < r.1 + r.2 → clr i = true) ∧
      clr (r.1 + r.2) = false ∧ (0 < r.1 → clr (r.1 - 1) = false) := fun r hr =>
    let ⟨a, b, c, d, e⟩ := hruns r hr
    ⟨a, by omega, c, d, e⟩
  cases hc : clr N with
  | true =>
    -- the open run `l' … N`: it starts here, or it is the one that was open
    obtain ⟨l', hl', h1, h3, h4, h5, h6⟩ : ∃ l', flStep ⟨out, loc, count⟩ N true = ⟨out, some l', count + 1⟩ ∧
        l' + count = N ∧ (∀ i, l' ≤ i → i < N → clr i = true) ∧ (0 < l' → clr (l' - 1) = false) ∧
        (∀ r ∈ out, r.1 + r.2 < l') ∧ ∀ l, loc = some l → l = l' := by
      cases loc with
      | none =>
        obtain ⟨rfl, hprev⟩ := hnone rfl
        exact ⟨N, rfl, rfl, fun i a b => by omega, hprev, fun r hr => (hruns r hr).2.1, fun l hl => by cases hl⟩
      | some l =>
        obtain ⟨h1, _, h3, h4, h5⟩ := hsome l rfl
        exact ⟨l, rfl, h1, h3, h4, h5, fun l hl => (Option.some.inj hl).symm⟩
    rw [hl']
    refine ⟨hruns', hsorted, by simp, ?_, ?_⟩
    · intro l hl
      cases hl
      exact ⟨by simp only; omega, by simp only; omega,
        fun i hi1 hi2 => if hiN : i = N then hiN ▸ hc else h3 i hi1 (by omega), h4, h5⟩
    · intro i hi hci
      by_cases hiN : i = N
      · exact .inr ⟨l', rfl, by omega⟩
      · rcases hcover i (by omega) hci with hl | ⟨l, hl, hl2⟩
        · exact .inl hl
        · exact .inr ⟨l', rfl, h6 l hl ▸ hl2⟩
  | false =>
    have hcover' : ∀ i, i < N + 1 → clr i = true →
        (∃ r ∈ out, r.1 ≤ i ∧ i < r.1 + r.2) ∨ (∃ l, loc = some l ∧ l ≤ i) := fun i hi hci =>
      hcover i (by have : i ≠ N := fun e => by rw [e, hc] at hci; cases hci
                   omega) hci
    have hlast : 0 < N + 1 → clr (N + 1 - 1) = false := fun _ => hc
    cases loc with
    | none =>
      simp only [flStep, Bool.false_eq_true, if_false]
      exact ⟨hruns', hsorted, fun _ => ⟨(hnone rfl).1, hlast⟩, by simp, hcover'⟩
    | some l =>
      obtain ⟨h1, h2, h3, h4, h5⟩ := hsome l rfl
      simp only [flStep, Bool.false_eq_true, if_false]
      refine ⟨?_, List.pairwise_cons.mpr ⟨h5, hsorted⟩, fun _ => ⟨rfl, hlast⟩, by simp, ?_⟩
      · intro r hr
        rcases List.mem_cons.mp hr with rfl | hr
        · exact ⟨h2, by simp only; omega, fun i hi1 hi2 => h3 i hi1 (by simp only at hi2; omega),
            by simp only; rw [h1]; exact hc, h4⟩
        · exact hruns' r hr
      · intro i hi hci
        left
        rcases hcover' i hi hci with ⟨r, hr, hr2⟩ | ⟨l', hl', hl2⟩
        · exact ⟨r, List.mem_cons_of_mem _ hr, hr2⟩
        · cases hl'
          have : i ≠ N := fun e => by rw [e, hc] at hci; cases hci
          exact ⟨(l, count), List.mem_cons_self .., hl2, by simp only; omega⟩

theorem inv_scan (clr : Nat → Bool) (N : Nat) : Inv clr N (scanFrom clr 0 N ⟨[], none, 0⟩) := by
  induction N with
  | zero => simpa [scanFrom] using inv_init clr
  | succ N ih =>
    rw [scanFrom_succ]
    simpa using inv_step clr N _ ih

/-- what `FreeList` promises, over an abstract "is clear" predicate on `0 .. N-1` -/
structure RunsSpec (clr : Nat → Bool) (N : Nat) (fl : List (Nat × Nat)) : Prop where
  /-- (a) runs are non-empty, inside the bitmap, and consist of clear bits -/
  sound : ∀ r ∈ fl, 0 < r.2 ∧ r.1 + r.2 ≤ N ∧ ∀ i, r.1 ≤ i → i < r.1 + r.2 → clr i = true
  /-- (b) every clear bit lies in a run -/
  cover : ∀ i, i < N → clr i = true → ∃ r ∈ fl, r.1 ≤ i ∧ i < r.1 + r.2
  /-- (c), order: increasing positions with at least one (set) bit between any two runs -/
  sorted : fl.Pairwise (fun a b => a.1 + a.2 < b.1)
  /-- (c), maximality: the neighbours of a run, when inside the bitmap, are not clear -/
  maximal : ∀ r ∈ fl, (0 < r.1 → clr (r.1 - 1) = false) ∧ (r.1 + r.2 < N → clr (r.1 + r.2) = false)

theorem flFlush_spec (clr : Nat → Bool) (N : Nat) (s : FLState) (h : Inv clr N s) :
    RunsSpec clr N (flFlush s) := by
  obtain ⟨out, loc, count⟩ := s
  obtain ⟨hruns, hsorted, hnone, hsome, hcover⟩ := h
  simp only at hruns hsorted hnone hsome hcover
  cases loc with
  | none =>
    simp only [flFlush]
    refine ⟨?_, ?_, ?_, ?_⟩
    · intro r hr
      obtain ⟨a, b, c, d, e⟩ := hruns r (List.mem_reverse.mp hr)
      exact ⟨a, by omega, c⟩
    · intro i hi hci
      rcases hcover i hi hci with ⟨r, hr, hr2⟩ | ⟨l, hl, _⟩
      · exact ⟨r, List.mem_reverse.mpr hr, hr2⟩
      · simp at hl
    · exact List.pairwise_reverse.mpr hsorted
    · intro r hr
      obtain ⟨a, b, c, d, e⟩ := hruns r (List.mem_reverse.mp hr)
      exact ⟨e, fun _ => d⟩
  | some l =>
    obtain ⟨h1, h2, h3, h4, h5⟩ := hsome l rfl
    simp only [flFlush]
    refine ⟨?_, ?_, ?_, ?_⟩
    · intro r hr
      rw [List.mem_reverse, List.mem_cons] at hr
      rcases hr with hr | hr
      · subst hr
        exact ⟨h2, by simp only; omega, fun i hi1 hi2 => h3 i hi1 (by simp only at hi2; omega)⟩
      · obtain ⟨a, b, c, d, e⟩ := hruns r hr
        exact ⟨a, by omega, c⟩
    · intro i hi hci
      rcases hcover i hi hci with ⟨r, hr, hr2⟩ | ⟨l', hl', hl2⟩
      · exact ⟨r, List.mem_reverse.mpr (List.mem_cons_of_mem _ hr), hr2⟩
      · simp only [Option.some.injEq] at hl'
        subst hl'
        exact ⟨(l, count), List.mem_reverse.mpr (List.mem_cons_self ..), by simpa using hl2,
          by simp only; omega⟩
    · exact List.pairwise_reverse.mpr (List.pairwise_cons.mpr ⟨fun r hr => h5 r hr, hsorted⟩)
    · intro r hr
      rw [List.mem_reverse, List.mem_cons] at hr
      rcases hr with hr | hr
      · subst hr
        exact ⟨h4, fun hlt => by simp only at hlt; omega⟩
      · obtain ⟨a, b, c, d, e⟩ := hruns r hr
        exact ⟨e, fun _ => d⟩

theorem runs_unique (fl : List (Nat × Nat)) (hs : fl.Pairwise (fun a b => a.1 + a.2 < b.1))
    (i : Nat) (r1 r2 : Nat × Nat) (h1 : r1 ∈ fl) (h2 : r2 ∈ fl)
    (a1 : r1.1 ≤ i) (b1 : i < r1.1 + r1.2) (a2 : r2.1 ≤ i) (b2 : i < r2.1 + r2.2) : r1 = r2 := by
  induction fl with
  | nil => simp at h1
  | cons x xs ih =>
    obtain ⟨hx, hxs⟩ := List.pairwise_cons.mp hs
    rw [List.mem_cons] at h1 h2
    rcases h1 with h1 | h1 <;> rcases h2 with h2 | h2
    · rw [h1, h2]
    · subst h1; have := hx r2 h2; omega
    · subst h2; have := hx r1 h1; omega
    · exact ih hxs h1 h2

/-- runs recorded so far plus the open run -/
def total (s : FLState) : Nat := (s.out.map (·.2)).sum + s.count

theorem total_step (s : FLState) (p : Nat) (c : Bool) :
    total (flStep s p c) = total s + (if c then 1 else 0) := by
  obtain ⟨out, loc, count⟩ := s
  cases c with
  | true => simp [flStep, total]; omega
  | false =>
    cases loc with
    | none => simp [flStep, total]
    | some l => simp [flStep, total]; omega

theorem flFlush_sum (s : FLState) (h : s.loc = none → s.count = 0) :
    ((flFlush s).map (·.2)).sum = total s := by
  obtain ⟨out, loc, count⟩ := s
  cases loc with
  | none =>
    have := h rfl
    simp only at this
    subst this
    simp only [flFlush, total, List.map_reverse, List.sum_reverse_nat, Nat.add_zero]
  | some l =>
    simp only [flFlush, total, List.map_reverse, List.sum_reverse_nat, List.map_cons, List.sum_cons]
    omega

end Diskfs.Ext4.Bitmap
