/-
  Read ∘ write.  The reading half is a statement about a DEVICE (`read_of_primary`): a device whose sector 1 holds
  the primary header `Table.Write` encodes for `t` and whose LBA 2.. holds the entry array reads back through gpt.Read,
  from the primary copy, as `t` — whatever else the device holds.  `Write` puts the primary array and header last but
  for the protective MBR (`writeUp_shape`), so what it leaves on ANY prior device reads back for any initialised table
  whose PRIMARY copy fits the device (`read_writeUp`): a table of well-formed geometry, a fresh table on any sector
  size, a fresh table on a disk too small for the backup copy.
-/
import DiskfsModel.Proofs.GptGeomRegions
namespace Diskfs.Gpt
open Diskfs.GptCrash (readPrimary_fst)

/-- what gpt.Read needs of an initialised table to find it again in its PRIMARY copy: 128-byte entries, the header
    at LBA 1 and the array behind it inside the device, header fields in range; nothing about where the backup
    copy lies -/
structure PrimaryWF (t : Table) (size : Nat) : Prop where
  lss : 512 ≤ t.lss
  lss63 : t.lss * 2 < two63
  es : t.entSize = 128
  cnt : 1 ≤ t.arrCount
  cntMax : t.arrCount * 128 ≤ 67108864
  ph : t.primaryHeader = 1
  fits : 2 * t.lss + t.arrCount * 128 ≤ size
  sh : t.secondaryHeader < two64
  fd : t.firstData < two64
  ld : t.lastData < two64
  guid : t.guid.length = 16

theorem GeomWF.primary {t : Table} {size : Nat} (hg : GeomWF t size) : PrimaryWF t size := by
  obtain ⟨g1, g2, g3, g4, g5, g6, g7, g8, g9⟩ := geom_layout t size hg
  have := hg.hsz; have := hg.lss
  simp only [offBA, offBH, arrBytes] at *
  exact ⟨hg.lss, by omega, hg.es, hg.cnt, hg.cntMax, hg.ph, by omega, by simp only [two63, two64] at *; omega,
    hg.fd, hg.ld, hg.guid⟩

/-- the table gpt.Read returns for a device `Write` produced from `t`: the partitions `ps` Write was left with in
    slot order, the geometry `t` carried, the array at LBA 2 with CRC `acrc`; `pm` is what readProtectiveMBR
    makes of LBA 0 -/
def reread (t : Table) (ps : List Part) (pm : Bool) (acrc : Nat) : Table :=
  { parts := normParts ps t.arrCount, lss := t.lss, guid := t.guid, pmbr := pm, initialized := true,
    arrCount := t.arrCount, entSize := 128, firstLBA := 2, arrCrc := acrc, primaryHeader := 1,
    secondaryHeader := t.secondaryHeader, firstData := t.firstData, lastData := t.lastData }

/-- the reading half of every read-after-write theorem, about a device and not about a write list -/
theorem read_of_primary (c : Cfg) (crc : Bytes → Nat) (hcrc : ∀ b, crc b < two32) (dev : Dev)
    (t : Table) (size : Nat) (arr : Bytes) (ps : List Part) (hp : PrimaryWF t size)
    (hwf : ∀ p ∈ t.parts, allZero p.typ = true ∨ (EntryWF p ∧ p.size < two64))
    (harr : arrEnc c t = .ok (arr, ps))
    (r1 : readAt dev t.lss t.lss = hdrEncUp crc t true arr)
    (r2 : readAt dev (2 * t.lss) (t.arrCount * 128) = arr) :
    ∃ pm, (read c crc dev size t.lss).1 = .ok (reread t ps pm (crc arr)) := by
  have h512 := hp.lss; have hfit := hp.fits; have h63 := hp.lss63; have hmax := hp.cntMax
  have a1 := arraySectorUp_primary t hp.ph
  have hP := readHeader_hdrEncUp crc hcrc t true arr hp.guid (hp.ph ▸ by decide) hp.sh hp.fd hp.ld (a1 ▸ by decide)
    (by simp only [two32]; omega)
  simp only [if_true, a1, hp.ph] at hP
  have hdec := (arrEnc_decode c t arr ps hp.es (by omega) hwf harr).2
  have hp1 := readPrimary_fst c crc dev size t.lss (by omega)
  rw [r1, hP] at hp1
  simp only at hp1
  have hle := loadEntries_arr c crc dev size t.lss 2 t.arrCount
    (tableOfHdr { myLBA := 1, altLBA := t.secondaryHeader, firstData := t.firstData, lastData := t.lastData,
                  guid := t.guid, arrLBA := 2, count := t.arrCount, entSize := 128, arrCrc := crc arr } t.lss
      (readPMBR ((readAt dev 0 (t.lss * 2)).take t.lss) (pmbrSectors c t.secondaryHeader)))
    (by omega) rfl rfl rfl hp.cnt hp.cntMax (by omega) (by omega)
  rw [r2] at hle
  simp only [tableOfHdr] at hle hp1
  rw [hle] at hp1
  simp only [↓reduceIte] at hp1
  refine ⟨readPMBR ((readAt dev 0 (t.lss * 2)).take t.lss) (pmbrSectors c t.secondaryHeader), ?_⟩
  unfold read
  generalize readPrimary c crc dev size t.lss = rp at hp1
  obtain ⟨r, al⟩ := rp
  simp only at hp1
  subst hp1
  simp only [hdec, reread]

/-- gpt.Read after the primary array and header have been written, whatever was written before them (`pre`) and
    whatever is written afterwards into bytes 446..511 only (`post`: the protective MBR, or an MBR table written later
    by mbr.Table.Write) -/
theorem read_after_primary (c : Cfg) (crc : Bytes → Nat) (hcrc : ∀ b, crc b < two32) (d : Dev)
    (t : Table) (size : Nat) (pre post : List Wr) (arr : Bytes) (ps : List Part) (hp : PrimaryWF t size)
    (hwf : ∀ p ∈ t.parts, allZero p.typ = true ∨ (EntryWF p ∧ p.size < two64))
    (hpost : ∀ w ∈ post, w.off = 446 ∧ w.data.length = 66) (harr : arrEnc c t = .ok (arr, ps)) :
    ∃ pm, (read c crc (applyWrs d (pre ++ [⟨2 * t.lss, arr⟩, ⟨t.lss, hdrEncUp crc t true arr⟩] ++ post)) size t.lss).1 =
      .ok (reread t ps pm (crc arr)) := by
  have hlen : arr.length = t.arrCount * 128 := by rw [arrEnc_length c t arr ps harr, hp.es, Nat.mul_comm]
  obtain ⟨r1, r2⟩ := primary_last d t.lss pre post arr _ hp.lss
    (hdrEncUp_length crc t true arr hp.guid (by have := hp.lss; omega)) hpost
  exact read_of_primary c crc hcrc _ t size arr ps hp hwf harr r1 (hlen ▸ r2)

/-- READ ∘ WRITE for any initialised table whose primary copy fits the device, on any prior device content, for
    either position of the protective-MBR write; the table read back is `reread ..`, field by field -/
theorem read_writeUp (c : Cfg) (crc : Bytes → Nat) (hcrc : ∀ b, crc b < two32) (d : Dev)
    (t : Table) (size : Nat) (ws : List Wr) (t' : Table) (hi : t.initialized = true) (hp : PrimaryWF t size)
    (hwf : ∀ p ∈ t.parts, allZero p.typ = true ∨ (EntryWF p ∧ p.size < two64))
    (hw : writeUp c crc t size = .ok (ws, t')) :
    ∃ pm arr, arrEnc c t = .ok (arr, t'.parts) ∧ (∀ p ∈ t'.parts, EntryExact t.lss p) ∧
      (read c crc (applyWrs d ws) size t.lss).1 = .ok (reread t t'.parts pm (crc arr)) := by
  obtain ⟨pre, post, arr, ps, hws, hpost, harr, ht⟩ := writeUp_shape c crc t size ws t' hi hp.ph hp.lss63 hw
  obtain ⟨pm, hr⟩ := read_after_primary c crc hcrc d t size pre post arr ps hp hwf hpost harr
  have hex := (arrEnc_decode c t arr ps hp.es (by have := hp.lss; omega) hwf harr).1
  subst ht hws
  exact ⟨pm, arr, harr, hex, hr⟩

end Diskfs.Gpt
