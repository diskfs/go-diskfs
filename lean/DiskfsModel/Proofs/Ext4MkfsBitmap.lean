/-
  The group block bitmaps ext4.Create builds (Model/Ext4/MkfsBitmap.lean): under `Fits` the marked bits among a
  group's real blocks are exactly the prefix of length `overhead` (`markedBit_noflex`, `markedBit_flex`); and how
  often a predicate that is a prefix holds on [0, n), which is what makes the descriptor's free count the number of
  unmarked bits.
-/
import DiskfsModel.Proofs.Ext4Mkfs
import DiskfsModel.Model.Ext4.MkfsBitmap
namespace Diskfs.Ext4.Mkfs

theorem sameFlex_iff (l : Layout) (hf : 0 < l.flexSize) (h g : Nat) :
    (h / l.flexSize == g / l.flexSize) = true ↔ flexOwner l h = flexOwner l g := by
  unfold flexOwner
  simp only [beq_iff_eq]
  constructor
  · intro e; rw [e]
  · intro e; exact Nat.eq_of_mul_eq_mul_right hf e

/-- without flex_bg: superblock / GDT copy, then the group's own bitmaps and inode table -/
theorem markedBit_noflex (l : Layout) (hfit : Fits l false) (g : Nat) (hg : g < l.groups) (j : Nat)
    (hj : j < blocksInGroup l g) : markedBit l false g j = true ↔ j < overhead l false g := by
  have hb := blocksInGroup_le l g
  have hfo := hfit g hg
  simp only [Bool.false_eq_true, if_false] at hfo
  unfold markedBit overhead inSlot metaBase
  simp only [Bool.false_eq_true, if_false, Bool.or_eq_true, Bool.and_eq_true, decide_eq_true_eq]
  omega

/-- with flex_bg: superblock / GDT copy, then (in the first group of a flex group only) the slots of all its groups -/
theorem markedBit_flex (l : Layout) (hf : 0 < l.flexSize) (hfit : Fits l true) (g : Nat) (hg : g < l.groups) (j : Nat)
    (hj : j < blocksInGroup l g) : markedBit l true g j = true ↔ j < overhead l true g := by
  have hb := blocksInGroup_le l g
  have hp := perGroupMeta_pos l
  have hog := flexOwner_le l g
  unfold markedBit overhead
  simp only [if_true, Bool.or_eq_true, Bool.and_eq_true, decide_eq_true_eq, List.any_eq_true, List.mem_range]
  constructor
  · rintro ((⟨h1, _⟩ | h2) | ⟨_, h, hh, hdiv, hslot⟩)
    · omega
    · omega
    · have hown := (sameFlex_iff l hf h g).1 hdiv
      have hin := flex_slot_inside l hf hfit h hh
      rw [hown] at hin
      unfold inSlot at hslot
      simp only [Bool.and_eq_true, decide_eq_true_eq] at hslot
      have hgo : g = flexOwner l g := by
        apply Classical.byContradiction
        intro hne
        have h1 := groupStart_mono l (flexOwner l g) g (by omega)
        have h2 := blocksInGroup_le l (flexOwner l g)
        omega
      rw [if_pos hgo]
      have hend := flex_slot_end_le l hf h hh
      rw [hown, ← hgo] at hend
      omega
  · intro hlt
    by_cases hmeta : j < metaBlocks l g
    · left; right; exact hmeta
    · right
      by_cases hgo : g = flexOwner l g
      · rw [if_pos hgo] at hlt
        -- the slot `j` falls into is the one of group `g + k`
        have hk : (j - metaBlocks l g) / perGroupMeta l < groupsInFlex l g :=
          Nat.div_lt_of_lt_mul (by rw [Nat.mul_comm]; omega)
        have hkf : (j - metaBlocks l g) / perGroupMeta l < l.flexSize := by unfold groupsInFlex at hk; omega
        have ho := flexOwner_add l hf g _ hgo hkf
        refine ⟨by omega, g + (j - metaBlocks l g) / perGroupMeta l, by unfold groupsInFlex at hk; omega, ?_, ?_⟩
        · rw [sameFlex_iff l hf, ho]
          exact hgo
        · have h1 := Nat.div_add_mod (j - metaBlocks l g) (perGroupMeta l)
          have h2 := Nat.mod_lt (j - metaBlocks l g) hp
          rw [Nat.mul_comm] at h1
          unfold inSlot metaBase
          simp only [if_true, Bool.and_eq_true, decide_eq_true_eq, ho]
          rw [Nat.add_sub_cancel_left]
          omega
      · rw [if_neg hgo] at hlt
        omega

theorem filter_prefix_length (p : Nat → Bool) (k : Nat) : ∀ n : Nat, (∀ j, j < n → (p j = true ↔ j < k)) →
    ((List.range n).filter p).length = min k n
  | 0, _ => by simp
  | n + 1, h => by
    have ih := filter_prefix_length p k n (fun j hj => h j (by omega))
    rw [List.range_succ, List.filter_append, List.length_append, ih]
    have hn := h n (by omega)
    by_cases hk : n < k
    · have : p n = true := hn.2 hk
      simp [List.filter, this]; omega
    · have : p n = false := by
        cases hp : p n
        · rfl
        · exact absurd (hn.1 hp) hk
      simp [List.filter, this]; omega

end Diskfs.Ext4.Mkfs
