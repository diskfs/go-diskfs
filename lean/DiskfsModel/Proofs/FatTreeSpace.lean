/-
  ENOSPC in the tree model, characterised: creating a file or a directory in ANY directory of
  the volume is refused for lack of space exactly when the free clusters are fewer than the call
  needs — one for the new entry's chain plus the clusters its parent directory must grow by to
  hold the entry (`growFor`; none in the fixed root of FAT12/16).  Core Lean only.
-/
import DiskfsModel.Proofs.FatTreeFit
import DiskfsModel.Model.Fat.TreeImg
namespace Diskfs.Fat

theorem dirSlots_append (g : TGeom) (base : Nat) (ks : List TNode) (t : TNode) :
    dirSlots g base (ks ++ [t]) = dirSlots g base ks + g.slots t.name := by
  unfold dirSlots
  simp only [List.map_append, List.sum_append, List.map_cons, List.map_nil, List.sum_cons, List.sum_nil]
  omega

theorem dirNeed_append (g : TGeom) (base : Nat) (ks : List TNode) (t : TNode) :
    dirNeed g base (ks ++ [t]) = clusterCount g.f.io.bpc (32 * (dirSlots g base ks + g.slots t.name)) := by
  unfold dirNeed; rw [dirSlots_append]

theorem writeDir_nospace_iff {g : TGeom} {fuel : Nat} {m : CMap} {d : Dev} {chain : List Nat} {base : Nat}
    {ks : List TNode} {img : Bytes} {R : List (List Nat)}
    (hg : TGeomOk g) (hfuel : g.f.lim - 2 ≤ fuel)
    (h : Inv g.f.kind g.f.lim m (chainOwner chain ++ R)) (hne : chain ≠ [])
    (hle : chain.length ≤ dirNeed g base ks) :
    writeDir g fuel m d chain base ks img = .error .nospace ↔
      freeCount g.f.lim m < dirNeed g base ks - chain.length := by
  cases chain with
  | nil => exact absurd rfl hne
  | cons c cs =>
    rw [chainOwner_cons] at h
    have h' : Inv g.f.kind g.f.lim m ((c :: cs) :: R) := h
    have hfl : (c :: cs).length ≤ fuel := Nat.le_trans (chain_length_le h') hfuel
    have hpos : dirNeed g base ks ≠ 0 := by
      intro e; rw [e] at hle; simp at hle
    simp only [writeDir]
    rw [if_neg hpos]
    by_cases heq : dirNeed g base ks = (c :: cs).length
    · rw [if_pos heq]
      exact ⟨fun hh => (by cases hh), fun hh => (by omega)⟩
    · rw [if_neg heq]
      have hcm := clusterCount_mul (dirNeed g base ks) hg.bpc
      have key := alloc_grow_fails_iff (fuel := fuel) (size := dirNeed g base ks * g.f.io.bpc) (bpc := g.f.io.bpc)
        h' (firstFit_spec g.f.lim) hg.lim hg.max hfl (by rw [hcm]; omega)
      rw [hcm] at key
      unfold falloc
      simp only [List.headD_cons] at key ⊢
      cases hres : (allocateSpace g.f.kind g.f.max g.f.io.bpc (firstFit g.f.lim) fuel m
          (dirNeed g base ks * g.f.io.bpc) c).res with
      | none => exact ⟨fun _ => key.1 hres, fun _ => rfl⟩
      | some l' =>
        refine ⟨fun hh => (by cases hh), fun hh => ?_⟩
        have := key.2 hh
        rw [hres] at this
        cases this

section space
variable {eqn : Spec.Name → Spec.Name → Bool} {g : TGeom} {fuel : Nat}

theorem falloc_one_none {m : CMap} {O : List (List Nat)} (hg : TGeomOk g) (h : Inv g.f.kind g.f.lim m O)
    (hres : (falloc g.f fuel m 1 0).res = none) : freeCount g.f.lim m = 0 := by
  unfold falloc at hres
  have := (alloc_fails_iff (fuel := fuel) h (firstFit_spec g.f.lim) hg.lim hg.max hg.bpc (by decide : 0 < 1)).1 hres
  rw [clusterCount_one hg.bpc] at this
  exact Nat.lt_one_iff.1 this

/-- the common part of create and mkdir: a fresh one-cluster chain `l` has been taken, then the
    parent directory is rewritten with one more entry -/
theorem new_entry_nospace {s : DirSt} {rest : List (List Nat)} {base : Nat} {x : TNode} {img : Bytes} {d1 : Dev}
    {l : List Nat} {n : Spec.Name} (hg : TGeomOk g) (hfuel : g.f.lim - 2 ≤ fuel)
    (h : Inv g.f.kind g.f.lim s.m (chainOwner s.chain ++ kidsOwners s.kids ++ rest))
    (hfit : LevelFit g base s.chain s.kids) (hx : x.name = n)
    (hres : (falloc g.f fuel s.m 1 0).res = some l) :
    writeDir g fuel (falloc g.f fuel s.m 1 0).m d1 s.chain base (s.kids ++ [x]) img = .error .nospace ↔
      freeCount g.f.lim s.m < 1 + growFor g base s.chain s.kids n := by
  subst hx
  unfold falloc at hres ⊢
  obtain ⟨hnew, hlen, hfree⟩ := alloc_new_core h (firstFit_spec _) hg.bpc (by decide) hres
  have hl1 : l.length = 1 := hlen.trans (clusterCount_one hg.bpc)
  rw [hl1] at hfree
  by_cases hc : s.chain = []
  · -- the fixed root never asks for a cluster
    unfold growFor
    rw [if_pos hc, hc]
    simp only [writeDir]
    constructor
    · intro hh; split at hh <;> cases hh
    · intro hh; omega
  · rw [List.append_assoc] at hnew
    have hperm := inv_perm List.perm_middle.symm hnew
    have hmono : s.chain.length ≤ dirNeed g base (s.kids ++ [x]) := by
      rw [hfit.2 hc]
      unfold dirNeed
      apply clusterCount_mono hg.bpc
      rw [dirSlots_append]; omega
    have key := writeDir_nospace_iff (d := d1) (img := img) hg hfuel hperm hc hmono
    rw [key, dirNeed_append]
    unfold growFor
    rw [if_neg hc]
    omega

/-- the name a call adds to the directory it addresses (create and mkdir) -/
def TOp.adds : TOp → Option Spec.Name
  | .create _ n _ | .mkdir _ n _ _ => some n
  | _ => none

/-- create and mkdir of a name that is not there take one cluster for the new entry's chain, then
    rewrite the directory with one more child -/
theorem dstep_new_nospace_iff (hg : TGeomOk g) (hfuel : g.f.lim - 2 ≤ fuel) {s : DirSt} {rest : List (List Nat)}
    {base : Nat} {op : TOp} {n : Spec.Name} (hop : op.adds = some n)
    (h : Inv g.f.kind g.f.lim s.m (chainOwner s.chain ++ kidsOwners s.kids ++ rest))
    (hfit : LevelFit g base s.chain s.kids) (hn : kfind eqn s.kids n = none) :
    (dstep eqn g fuel op base s).2 = .nospace ↔
      freeCount g.f.lim s.m < 1 + growFor g base s.chain s.kids n := by
  have key := fun x d1 img l => new_entry_nospace (x := x) (d1 := d1) (img := img) (l := l) (n := n) hg hfuel h hfit
  cases op <;> cases hop <;> simp only [dstep, dMkdir, dCreate, hn] <;>
    cases hres : (falloc g.f fuel s.m 1 0).res <;> simp only
  case mkdir.refl.some img img2 l =>
    rw [← key (.dir n l []) (applyWrs s.d (dirWrs g.f.io l img2)) img l rfl hres]
    split <;> simp [*]
  case create.refl.some img l =>
    rw [← key (.file n l 0) s.d img l rfl hres]
    split <;> simp [*]
  all_goals exact iff_of_true trivial (by have := falloc_one_none hg h hres; omega)

theorem atDirT_res (f : Nat → DirSt → DirSt × TRes) : ∀ (path : List Spec.Name) (base : Nat) (s : DirSt)
    {b' : Nat} {s' : DirSt}, dirAtT eqn path base s = some (b', s') →
    (atDirT eqn f path base s).2 = (f b' s').2
  | [], base, s, b', s', h => by
    simp only [dirAtT, Option.some.injEq, Prod.mk.injEq] at h
    obtain ⟨rfl, rfl⟩ := h
    rfl
  | n :: rest, base, s, b', s', h => by
    simp only [dirAtT] at h
    simp only [atDirT]
    split at h
    · rename_i nm c ks hfd
      simp only [hfd]
      exact atDirT_res f rest 2 _ h
    · cases h

theorem tstep_res {s : DirSt} {op : TOp} {b' : Nat} {s' : DirSt} (hd : dirAtT eqn op.dir g.rootBase s = some (b', s')) :
    (tstep eqn g fuel s op).2 = (dstep eqn g fuel op b' s').2 :=
  atDirT_res _ _ _ _ hd

theorem dirAtT_facts (he : EqnOk eqn) : ∀ (path : List Spec.Name) (base : Nat) (s : DirSt) (rest : List (List Nat))
    {b' : Nat} {s' : DirSt},
    Inv g.f.kind g.f.lim s.m (chainOwner s.chain ++ kidsOwners s.kids ++ rest) → kidsWF eqn g s.kids →
    LevelFit g base s.chain s.kids → kidsFit g s.kids → dirAtT eqn path base s = some (b', s') →
    ∃ rest', Inv g.f.kind g.f.lim s'.m (chainOwner s'.chain ++ kidsOwners s'.kids ++ rest') ∧
      LevelFit g b' s'.chain s'.kids ∧ s'.m = s.m
  | [], base, s, rest, b', s', h, _, hfit, _, hd => by
    simp only [dirAtT, Option.some.injEq, Prod.mk.injEq] at hd
    obtain ⟨rfl, rfl⟩ := hd
    exact ⟨rest, h, hfit, rfl⟩
  | n :: path, base, s, rest, b', s', h, hwf, hfit, hkids, hd => by
    simp only [dirAtT] at hd
    split at hd
    · rename_i nm c ks hfd
      obtain ⟨_, hsub⟩ := inv_subdir he hwf hfd h
      have hchild := (fit_dir ..).1 ((kidsFit_iff g s.kids).1 hkids _ (kfind_mem hfd))
      exact dirAtT_facts he path 2 ⟨s.m, s.d, c, ks⟩ _ hsub ((wf_dir ..).1 (wf_child hwf hfd)) hchild.2.1 hchild.2.2 hd
    · cases hd

/-- **ENOSPC of create and mkdir, on the volume**: a call that adds a name that does not exist in
    the directory its path leads to is refused for lack of space IFF the volume has fewer free
    clusters than one plus the growth of that directory -/
theorem tstep_new_nospace_iff (he : EqnOk eqn) (hg : TGeomOk g) (hfuel : g.f.lim - 2 ≤ fuel) {s : DirSt}
    (h : TInv eqn g s) (hfit : TFit g s) {op : TOp} {n : Spec.Name} (hop : op.adds = some n) {b' : Nat} {s' : DirSt}
    (hd : dirAtT eqn op.dir g.rootBase s = some (b', s')) (hn : kfind eqn s'.kids n = none) :
    (tstep eqn g fuel s op).2 = .nospace ↔
      freeCount g.f.lim s.m < 1 + growFor g b' s'.chain s'.kids n := by
  obtain ⟨rest', hinv', hfit', hm⟩ := dirAtT_facts he op.dir g.rootBase s [] (by rw [List.append_nil]; exact h.table) h.wf hfit.root hfit.kids hd
  rw [tstep_res hd, ← hm]
  exact dstep_new_nospace_iff hg hfuel hop hinv' hfit' hn

end space

end Diskfs.Fat
