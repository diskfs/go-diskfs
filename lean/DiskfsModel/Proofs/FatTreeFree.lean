/-
  Layer E for a tree of directories, fourth part: free-space accounting.  Under the cluster-map
  invariant the free clusters are exactly the data area minus the clusters the owners hold
  (`inv_freeCount`, Proofs/FatChain.lean); for the tree model this holds after every history, so no
  cluster is ever leaked: space given back by Remove / truncation / directory shrinking is there to
  be used again, without limit.
  Core Lean only.
-/
import DiskfsModel.Proofs.FatTreeStep
namespace Diskfs.Fat

/-- the clusters the tree owns: the root directory's chain and every file's and directory's -/
def ownedClusters (s : DirSt) : List Nat := (chainOwner s.chain ++ kidsOwners s.kids).flatten

/-- after every history the free clusters are exactly those the tree does not own -/
theorem trun_free_count {eqn : Spec.Name → Spec.Name → Bool} {g : TGeom} {fuel : Nat} (he : EqnOk eqn)
    (hg : TGeomOk g) (hfuel : g.f.lim - 2 ≤ fuel) (ops : List TOp) (s : DirSt) (h : TInv eqn g s) :
    freeCount g.f.lim (trun eqn g fuel s ops).m + (ownedClusters (trun eqn g fuel s ops)).length
      = g.f.lim - 2 :=
  inv_freeCount (trun_inv he hg hfuel ops s h).table

/-- on the example volume: 8 data clusters, 3 owned, 5 free -/
example : freeCount exTGeom.f.lim exTree.m = 5 ∧ (ownedClusters exTree).length = 3 := by decide

end Diskfs.Fat
