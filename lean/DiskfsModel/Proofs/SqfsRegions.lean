/-
  The region model of Finalize (Model/Sqfs/Regions.lean): the mirror `finalize` against the spec
  `regions`.  Writes laid end to end (`seqWrites`) and regions laid end to end (`layFrom`, `Tiles`)
  are treated once for any lengths; `finalize`'s table starts are then stated each in terms of the
  one before it, which is all that the comparison with `regions` (and with the byte-level writer,
  Proofs/SqfsImageRegions.lean) needs.  Last, the two chunking rules of the metadata writers.
-/
import DiskfsModel.Model.Sqfs.Regions
import DiskfsModel.Proofs.SqfsLists
namespace Diskfs.Sqfs

theorem seqWrites_append (pos : Nat) (a b : List Nat) :
    seqWrites pos (a ++ b) = seqWrites pos a ++ seqWrites (pos + a.sum) b := by
  induction a generalizing pos with
  | nil => simp [seqWrites]
  | cons x r ih => simp [seqWrites, ih, Nat.add_assoc]

theorem seqWrites_bounds (pos : Nat) (l : List Nat) : ∀ w ∈ seqWrites pos l, pos ≤ w.1 ∧ w.1 + w.2 ≤ pos + l.sum := by
  induction l generalizing pos with
  | nil => simp [seqWrites]
  | cons x r ih =>
    intro w hw
    simp only [seqWrites, List.mem_cons] at hw
    rcases hw with rfl | hw
    · simp
    · have := ih (pos + x) w hw
      simp only [List.sum_cons]; omega

theorem seqWrites_pairwise (pos : Nat) (l : List Nat) :
    (seqWrites pos l).Pairwise (fun a b => a.1 + a.2 ≤ b.1) := by
  induction l generalizing pos with
  | nil => simp [seqWrites]
  | cons x r ih =>
    simp only [seqWrites, List.pairwise_cons]
    refine ⟨?_, ih _⟩
    intro w hw
    exact (seqWrites_bounds (pos + x) r w hw).1

theorem seqWrites_cover (pos : Nat) (l : List Nat) (x : Nat) :
    (pos ≤ x ∧ x < pos + l.sum) ↔ ∃ w ∈ seqWrites pos l, w.1 ≤ x ∧ x < w.1 + w.2 := by
  induction l generalizing pos with
  | nil => simp [seqWrites]
  | cons n r ih =>
    simp only [seqWrites, List.sum_cons, List.mem_cons, exists_eq_or_imp]
    rw [← ih (pos + n)]
    omega

/-- the writes that fill the regions, region after region -/
def flatWrites (rs : List Region) : List W := rs.flatMap (fun r => seqWrites r.lo r.lens)

theorem layFrom_tiles (pos : Nat) (g : List (RK × List Nat)) : Tiles pos (layFrom pos g) := by
  induction g generalizing pos with
  | nil => trivial
  | cons a r ih =>
    obtain ⟨k, l⟩ := a
    exact ⟨rfl, ih _⟩

theorem endOf_layFrom (pos : Nat) (g : List (RK × List Nat)) :
    endOf pos (layFrom pos g) = pos + (g.map (fun a => a.2.sum)).sum := by
  induction g generalizing pos with
  | nil => simp [layFrom, endOf]
  | cons a r ih =>
    obtain ⟨k, l⟩ := a
    simp only [layFrom, endOf, Region.hi, Region.len, List.map_cons, List.sum_cons]
    rw [ih]; omega

theorem flatWrites_layFrom (pos : Nat) (g : List (RK × List Nat)) :
    flatWrites (layFrom pos g) = seqWrites pos (g.map (fun a => a.2)).flatten := by
  induction g generalizing pos with
  | nil => simp [layFrom, flatWrites, seqWrites]
  | cons a r ih =>
    obtain ⟨k, l⟩ := a
    have := ih (pos + l.sum)
    simp only [flatWrites] at this
    simp only [layFrom, flatWrites, List.flatMap_cons, List.map_cons, List.flatten_cons, seqWrites_append, this]

theorem endOf_mono (pos : Nat) (rs : List Region) (h : Tiles pos rs) : pos ≤ endOf pos rs := by
  induction rs generalizing pos with
  | nil => simp [endOf]
  | cons r rs ih =>
    obtain ⟨h1, h2⟩ := h
    have := ih _ h2
    simp only [endOf]
    simp only [Region.hi] at this ⊢
    omega

theorem tiles_inside (pos : Nat) (rs : List Region) (h : Tiles pos rs) :
    ∀ r ∈ rs, pos ≤ r.lo ∧ r.hi ≤ endOf pos rs := by
  induction rs generalizing pos with
  | nil => simp
  | cons r rs ih =>
    obtain ⟨h1, h2⟩ := h
    intro q hq
    simp only [List.mem_cons] at hq
    simp only [endOf]
    rcases hq with rfl | hq
    · exact ⟨by omega, endOf_mono _ _ h2⟩
    · have := ih _ h2 q hq
      simp only [Region.hi] at this ⊢
      omega

theorem tiles_pairwise (pos : Nat) (rs : List Region) (h : Tiles pos rs) :
    rs.Pairwise (fun a b => a.hi ≤ b.lo) := by
  induction rs generalizing pos with
  | nil => simp
  | cons r rs ih =>
    obtain ⟨h1, h2⟩ := h
    simp only [List.pairwise_cons]
    exact ⟨fun q hq => (tiles_inside _ _ h2 q hq).1, ih _ h2⟩

/-! `finalize`'s table starts, each in terms of the one before it: what `location` is when the
    writer of that table is called -/

theorem finalize_inodeStart (p : Pieces) : (finalize p).inodeStart = sbSize + p.opt + p.data.sum + p.frags.sum := rfl

theorem finalize_dirStart (p : Pieces) : (finalize p).dirStart = (finalize p).inodeStart + (metaLens p.inodes).sum := rfl

theorem finalize_fragStart (p : Pieces) :
    (finalize p).fragStart = (finalize p).dirStart + (metaLens p.dirs).sum + (metaLens p.fragTbl).sum := rfl

theorem finalize_exportStart (p : Pieces) :
    (finalize p).exportStart =
      p.exportTbl.elim absent64 fun e => (finalize p).fragStart + 8 * p.fragTbl.length + (metaLens e).sum := by
  obtain ⟨opt, data, frags, inodes, dirs, fragTbl, exportTbl, idTbl⟩ := p
  cases exportTbl
  · rfl
  · exact congrArg (· + _) (Nat.add_assoc _ _ _).symm

theorem finalize_idStart (p : Pieces) :
    (finalize p).idStart = (finalize p).fragStart + 8 * p.fragTbl.length +
      (p.exportTbl.elim 0 fun e => (metaLens e).sum + 8 * e.length) + (metaLens p.idTbl).sum := by
  obtain ⟨opt, data, frags, inodes, dirs, fragTbl, exportTbl, idTbl⟩ := p
  cases exportTbl <;> simp only [finalize, lookupTable, Option.elim] <;> omega

theorem finalize_bytesUsed_eq (p : Pieces) : (finalize p).bytesUsed = (finalize p).idStart + 8 * p.idTbl.length :=
  (Nat.add_assoc _ _ _).symm

theorem optLens_sum (n : Nat) : (if n > 0 then [n] else []).sum = n := by
  split <;> simp <;> omega

theorem regions_tile (p : Pieces) : Tiles sbSize (regions p) := layFrom_tiles _ _

theorem finalize_bytesUsed (p : Pieces) : (finalize p).bytesUsed = endOf sbSize (regions p) := by
  rw [regions, endOf_layFrom, finalize_bytesUsed_eq, finalize_idStart, finalize_fragStart, finalize_dirStart, finalize_inodeStart]
  cases h : p.exportTbl <;>
    simp only [regionLens, h, Option.elim, idxLens, optLens_sum, List.map_cons, List.map_nil, List.sum_cons, List.sum_nil] <;> omega

theorem finalize_starts (p : Pieces) :
    (finalize p).inodeStart = startOf .inodeTbl (regions p) ∧
    (finalize p).dirStart = startOf .dirTbl (regions p) ∧
    (finalize p).fragStart = startOf .fragIdx (regions p) ∧
    (finalize p).idStart = startOf .idIdx (regions p) ∧
    (finalize p).exportStart = (if p.exportTbl.isSome then startOf .exportIdx (regions p) else absent64) := by
  rw [finalize_exportStart, finalize_idStart, finalize_fragStart, finalize_dirStart, finalize_inodeStart]
  cases h : p.exportTbl <;>
    simp [regions, regionLens, layFrom, startOf, idxLens, h, optLens_sum, List.find?] <;> omega

theorem finalize_writes (p : Pieces) : (finalize p).writes = flatWrites (regions p) ++ [(0, sbSize)] := by
  unfold regions
  rw [flatWrites_layFrom]
  cases h : p.exportTbl <;>
    simp [finalize, regionLens, lookupTable, idxLens, h, seqWrites_append, seqWrites, Nat.add_assoc, optLens_sum,
      apply_ite (seqWrites sbSize)]

/-- the lengths of all writes after the superblock, in order -/
def allLens (p : Pieces) : List Nat := ((regionLens p).map (fun a => a.2)).flatten

theorem finalize_writes_seq (p : Pieces) :
    (finalize p).writes = seqWrites sbSize (allLens p) ++ [(0, sbSize)] ∧
    (finalize p).bytesUsed = sbSize + (allLens p).sum := by
  refine ⟨?_, ?_⟩
  · rw [finalize_writes]; unfold regions; rw [flatWrites_layFrom]; rfl
  · rw [finalize_bytesUsed]; unfold regions; rw [endOf_layFrom, allLens, sum_flatten_nat, List.map_map]; rfl

theorem mem_finalize_writes (p : Pieces) (w : W) :
    w ∈ (finalize p).writes ↔ w ∈ seqWrites sbSize (allLens p) ∨ w = (0, sbSize) := by
  rw [(finalize_writes_seq p).1, List.mem_append, List.mem_singleton]

theorem finalize_cover (p : Pieces) (x : Nat) :
    x < (finalize p).bytesUsed ↔ ∃ w ∈ (finalize p).writes, w.1 ≤ x ∧ x < w.1 + w.2 := by
  simp only [mem_finalize_writes, or_and_right, exists_or, exists_eq_left, ← seqWrites_cover, (finalize_writes_seq p).2]
  omega

/-- what `writeInodes` / `writeDirectories` cut, from any fill `buf` of the buffer: the blocks hold
    everything, all but the last are full, and with a buffer and items of at most 8 KiB none is
    empty or longer than 8 KiB -/
theorem chunkGT_spec (l : List Nat) (buf : Nat) :
    (chunkGT l buf).sum = buf + l.sum ∧ (∀ c ∈ (chunkGT l buf).dropLast, c = metaMax) ∧
    (buf ≤ metaMax → (∀ s ∈ l, s ≤ metaMax) → ∀ c ∈ chunkGT l buf, 0 < c ∧ c ≤ metaMax) := by
  induction l generalizing buf with
  | nil => by_cases h : buf > 0 <;> simp [chunkGT, h] <;> omega
  | cons s r ih =>
    rw [chunkGT]
    split
    · obtain ⟨h1, h2, h3⟩ := ih (buf + s - metaMax)
      refine ⟨by rw [List.sum_cons, h1, List.sum_cons]; omega, fun c hc => ?_, fun hb hl c hc => ?_⟩
      · cases hr : chunkGT r (buf + s - metaMax) with
        | nil => simp [hr] at hc
        | cons y ys =>
          rw [hr, List.dropLast_cons_cons, List.mem_cons] at hc
          exact hc.elim id fun hc => h2 c (hr ▸ hc)
      · have := hl s (List.mem_cons_self ..)
        rcases List.mem_cons.1 hc with rfl | hc
        · simp [metaMax]
        · exact h3 (by omega) (fun x hx => hl x (List.mem_cons_of_mem _ hx)) c hc
    · obtain ⟨h1, h2, h3⟩ := ih (buf + s)
      exact ⟨by rw [h1, List.sum_cons]; omega, h2, fun _ hl => h3 (by omega) fun x hx => hl x (List.mem_cons_of_mem _ hx)⟩

theorem chunkGE_sum (e n buf : Nat) : (chunkGE e n buf).sum = buf + n * e := by
  induction n generalizing buf with
  | zero => by_cases h : buf > 0 <;> simp [chunkGE, h]; omega
  | succ n ih =>
    by_cases h : buf + e ≥ metaMax <;> simp [chunkGE, h, ih, Nat.succ_mul] <;> omega

theorem chunkGE_bound (e n buf : Nat) (hb : buf < metaMax) (he : e ≤ metaMax) :
    ∀ c ∈ chunkGE e n buf, 0 < c ∧ c ≤ metaMax := by
  induction n generalizing buf with
  | zero =>
    by_cases h : buf > 0 <;> simp [chunkGE, h]
    omega
  | succ n ih =>
    by_cases h : buf + e ≥ metaMax
    · simp only [chunkGE, h, if_true, List.mem_cons]
      rintro c (rfl | hc)
      · simp [metaMax]
      · exact ih _ (by omega) c hc
    · simp only [chunkGE, h, if_false]
      exact ih _ (by omega)

/-- entries whose size divides 8 KiB never straddle a block: `k` whole blocks, then the rest -/
theorem chunkGE_exact (e : Nat) (hd : e ∣ metaMax) (n buf : Nat) (hb : buf < metaMax) (hbe : e ∣ buf) :
    chunkGE e n buf = List.replicate ((buf + n * e) / metaMax) metaMax ++
      (if (buf + n * e) % metaMax > 0 then [(buf + n * e) % metaMax] else []) := by
  induction n generalizing buf with
  | zero =>
    have h0 : buf / metaMax = 0 := Nat.div_eq_of_lt hb
    have h1 : buf % metaMax = buf := Nat.mod_eq_of_lt hb
    simp [chunkGE, h0, h1]
  | succ n ih =>
    have hbe' : e ∣ buf + e := Nat.dvd_add hbe (Nat.dvd_refl e)
    by_cases h : buf + e ≥ metaMax
    · -- both multiples of `e`, so buf + e = metaMax exactly
      have hle : buf + e ≤ metaMax := Nat.le_of_lt_add_of_dvd (by omega) hbe' hd
      have hz : buf + e - metaMax = 0 := by omega
      simp only [chunkGE, h, if_true, hz]
      rw [ih 0 (by simp [metaMax]) (Nat.dvd_zero e), show buf + (n + 1) * e = 0 + n * e + metaMax by rw [Nat.succ_mul]; omega,
        Nat.add_div_right _ (by simp [metaMax]), Nat.add_mod_right, List.replicate_succ, List.cons_append]
    · simp only [chunkGE, h, if_false]
      rw [ih (buf + e) (by omega) hbe', show buf + e + n * e = buf + (n + 1) * e by rw [Nat.succ_mul]; omega]

end Diskfs.Sqfs
