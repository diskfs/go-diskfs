/-
  For C12 (Props/C12.lean): the reader parts of Model/DetectMid.lean on what squashfs.Finalize and ext4.Create leave:
    * squashfs: an image whose LAST write is the 96-byte superblock `Sqfs.encodeSB s` at offset 0 (what
      Finalize does) - over arbitrary earlier content: byte 12 is zero (so the FAT readers refuse), the
      header test and the modelled part of squashfs.Read go through to `deep`;
    * ext4: the validity checks of ext4.Read accept the geometry ext4.Create computes
      (Model/Ext4/Mkfs.lean) and the group descriptor table it then reads lies inside the volume.
-/
import DiskfsModel.Model.DetectMid
import DiskfsModel.Proofs.Detect
import DiskfsModel.Proofs.SqfsCodec
import DiskfsModel.Proofs.Ext4Mkfs
namespace Diskfs.Detect

/-- the bytes of the superblock the probes look at: magic, low byte of the block size, version 4.0 -/
theorem encodeSB_bytes (s : Sqfs.Superblock) :
    (Sqfs.encodeSB s).take 4 = [0x68, 0x73, 0x71, 0x73] ∧
    ((Sqfs.encodeSB s).drop 12).take 1 = [UInt8.ofNat (s.blocksize % 256)] ∧
    ((Sqfs.encodeSB s).drop 28).take 4 = [4, 0, 0, 0] := by
  simp [Sqfs.encodeSB, leEnc, Sqfs.sbMagic]

/-- a block size squashfs.Create accepts (validateBlocksize: a power of two between 4 KiB and 1 MiB) -/
def sqfsBlockOk (n : Nat) : Bool := (List.range 9).any fun j => n == 4096 * 2 ^ j

theorem sqfsBlockOk_mod (n : Nat) (h : sqfsBlockOk n = true) : n % 256 = 0 := by
  simp only [sqfsBlockOk, List.any_eq_true, List.mem_range, beq_iff_eq] at h
  obtain ⟨j, -, rfl⟩ := h
  rw [show 4096 * 2 ^ j = 256 * (16 * 2 ^ j) by rw [← Nat.mul_assoc]]
  exact Nat.mul_mod_right ..

/-- on a device whose last write put `encodeSB s` at offset 0, whatever was written before: byte 12 is zero (the low
    byte of a block size that is a multiple of 256) and squashfs.Read's header tests, block-log test and compressor
    test pass through to `deep`; `hbs`: the block size handed to Read passes `validateBlocksize` -/
theorem sqfs_image_facts (stale : Dev) (pre : List Wr) (s : Sqfs.Superblock) (hwf : s.WF)
    (hblk : s.blocksize % 256 = 0) (hcomp : s.compression ≤ 6)
    (avail bs0 : Nat) (hav : 96 ≤ avail)
    (hbs : (if bs0 == 0 then 131072 else bs0) ≥ 4096 ∧ (if bs0 == 0 then 131072 else bs0) ≤ 1048576 ∧
           isPow2 (if bs0 == 0 then 131072 else bs0) = true)
    (deep : Verdict) :
    applyWrs stale (pre ++ [⟨0, Sqfs.encodeSB s⟩]) 12 = 0 ∧
    verdictSqfs (applyWrs stale (pre ++ [⟨0, Sqfs.encodeSB s⟩])) avail bs0
      (sqfsMid (applyWrs stale (pre ++ [⟨0, Sqfs.encodeSB s⟩])) deep) = deep := by
  rw [applyWrs_snoc]
  have hrd := readAt_applyWr_same (applyWrs stale pre) ⟨0, Sqfs.encodeSB s⟩
  simp only [Sqfs.encodeSB_length] at hrd
  generalize applyWr (applyWrs stale pre) ⟨0, Sqfs.encodeSB s⟩ = img at hrd ⊢
  obtain ⟨e4, e12, e28⟩ := encodeSB_bytes s
  have h4 := (readAt_take_of_le img 0 96 4 (by omega)).symm
  have h12 := (readAt_drop_take img 0 96 12 1 (by omega)).symm
  have h28 := (readAt_drop_take img 0 96 28 4 (by omega)).symm
  rw [hrd, e4] at h4
  rw [hrd, e12, hblk] at h12
  rw [hrd, e28] at h28
  simp [readAt, List.range_succ] at h4 h12 h28
  refine ⟨h12, ?_⟩
  have hmid : sqfsMid img deep = deep := by
    simp [sqfsMid, hrd, Sqfs.decode_encodeSB s hwf, sqfsCompKnown, hcomp]
  have hro : readOk avail 0 96 = true := by simp [readOk]; omega
  obtain ⟨h1, h2, h3⟩ := hbs
  rw [hmid]
  unfold verdictSqfs
  simp only []
  generalize (if bs0 == 0 then 131072 else bs0) = B at h1 h2 h3 ⊢
  have c1 : ¬ (B < 4096) := by omega
  have c2 : ¬ (B > 1048576) := by omega
  simp [hro, u32, u16, u8, h4, h28, h3, c1, c2]

/-- what the theorems need of the geometry ext4.Create decided on (all of it follows from
    Model/Ext4/Mkfs.lean `mkLayout p = .ok l`, see `mkLayout_mk_ok`, except the two lower bounds) -/
structure Ext4MkOK (m : Ext4Mk) (size : Nat) : Prop where
  bs_ge : 1024 ≤ m.bs
  bpg_ge : 256 ≤ m.bpg
  ipg_pos : 0 < m.ipg
  nb_eq : m.numBlocks = size / m.bs
  nb_ge : 3 ≤ m.numBlocks

/-- the group count `superblock.blockGroupCount` computes, for groups of at least 256 blocks: there is a group, and
    256 blocks for each but the last are below the block count - so the 32- or 64-byte descriptors of all groups take
    less room than the blocks themselves -/
theorem groupsGo_bounds (nb bpg : Nat) (hb : 256 ≤ bpg) (hn : 1 ≤ nb) :
    1 ≤ (nb + bpg - 1) / bpg ∧ 256 * ((nb + bpg - 1) / bpg) ≤ nb + 255 := by
  have hb0 : 0 < bpg := by omega
  have hpos : 0 < (nb + bpg - 1) / bpg := Nat.div_pos (by omega) hb0
  have hc := (ceil_bounds nb bpg hb0).2
  generalize (nb + bpg - 1) / bpg = g at *
  obtain ⟨k, rfl⟩ : ∃ k, g = k + 1 := ⟨g - 1, by omega⟩
  have h1 : 256 * k ≤ k * bpg := by rw [Nat.mul_comm 256 k]; exact Nat.mul_le_mul_left k hb
  rw [Nat.add_mul, Nat.one_mul] at hc
  refine ⟨Nat.succ_le_succ (Nat.zero_le k), ?_⟩
  rw [Nat.mul_add, Nat.mul_one]
  generalize k * bpg = y at *
  omega

/-- ext4.Read's validity checks (fix 1d32ac0) accept the geometry ext4.Create wrote, and the group
    descriptor table it reads next lies inside the volume -/
theorem ext4_mk_read_accepts (m : Ext4Mk) (size compat inc ro : Nat) (ok : Ext4MkOK m size)
    (hinc : ext4MkIncompatOk inc m.bit64 = true) :
    Ext4.Spec.readAccepts (ext4MkGeo m compat inc ro) size = true ∧
    (ext4MkGeo m compat inc ro).gdtStartGo +
      (ext4MkGeo m compat inc ro).gdSize * (ext4MkGeo m compat inc ro).groupsGo ≤ size := by
  obtain ⟨hbs, hbpg, hipg, hnbe, hnb⟩ := ok
  have hg := groupsGo_bounds m.numBlocks m.bpg hbpg (by omega)
  have hnbs : m.numBlocks * m.bs ≤ size := by rw [hnbe]; exact Nat.div_mul_le_self size m.bs
  have hdiv : size / m.bs = m.numBlocks := hnbe.symm
  obtain ⟨k, hk⟩ : ∃ k, m.numBlocks = k + 1 := ⟨m.numBlocks - 1, by omega⟩
  have hlow : m.bs + 1024 * k ≤ size := by
    have h1 : 1024 * k ≤ k * m.bs := by rw [Nat.mul_comm 1024 k]; exact Nat.mul_le_mul_left k hbs
    rw [hk, Nat.add_mul, Nat.one_mul] at hnbs
    generalize k * m.bs = y at *
    omega
  have h64 : Ext4.Reader.hasBit inc 0x80 = m.bit64 := by
    simp only [ext4MkIncompatOk, Bool.and_eq_true, beq_iff_eq] at hinc
    exact hinc.2
  generalize hG : (m.numBlocks + m.bpg - 1) / m.bpg = G at hg
  have hgo : (ext4MkGeo m compat inc ro).groupsGo = G := by
    simp only [Ext4.Spec.Geo.groupsGo, ext4MkGeo, hG]
  have hgd : (ext4MkGeo m compat inc ro).gdSize = (if m.bit64 then 64 else 32) := rfl
  have hstart : (ext4MkGeo m compat inc ro).gdtStartGo = (if m.bs = 1024 then 2 else 1) * m.bs := rfl
  rw [hgo, hgd, hstart]
  have hfit : (if m.bs = 1024 then 2 else 1) * m.bs + (if m.bit64 = true then 64 else 32) * G ≤ size := by
    cases m.bit64 <;> by_cases h1k : m.bs = 1024 <;> simp only [h1k, if_true, if_false, Bool.false_eq_true] <;> omega
  refine ⟨?_, hfit⟩
  unfold Ext4.Spec.readAccepts
  rw [hgo, hgd]
  simp only [Ext4.Spec.Geo.is64, ext4MkGeo, h64, hdiv]
  cases hb : m.bit64 <;> simp <;> omega

/-- the layout of Model/Ext4/Mkfs.lean as the superblock fields see it -/
def mkOf (l : Ext4.Mkfs.Layout) : Ext4Mk := ⟨l.bs, l.numBlocks, l.bpg, l.ipg, l.groups, l.fdb, l.descSize == 64⟩

theorem mkLayout_mk_ok (p : Ext4.Mkfs.Params) (l : Ext4.Mkfs.Layout) (h : Ext4.Mkfs.mkLayout p = .ok l)
    (hipg : 0 < l.ipg) (hnb : 3 ≤ l.numBlocks) : Ext4MkOK (mkOf l) p.size := by
  obtain ⟨rfl, h1, h2, -⟩ := Ext4.Mkfs.mkLayout_guards p l h
  have hbs := Ext4.Mkfs.chooseBs_ge p h1
  refine ⟨hbs, ?_, hipg, rfl, hnb⟩
  show 256 ≤ Ext4.Mkfs.chooseBpg p
  unfold Ext4.Mkfs.chooseBpg Ext4.Mkfs.maxBPG
  split <;> omega

theorem ext4Mid_accepts (cfg : Ext4.Reader.Cfg) (rd : Dev) (size avail : Nat) (csumOk : Bool) (deep : Verdict)
    (info : Ext4.Reader.SbInfo) (g : Ext4.Spec.Geo)
    (hdec : Ext4.Reader.sbDecode csumOk (readAt rd 1024 1024) = some info)
    (hgate : Ext4.Reader.gateAccepts cfg info.incompat = true)
    (hgeo : Ext4.Spec.sbGeo (readAt rd 1024 1024) = some g)
    (hacc : Ext4.Spec.readAccepts g size = true)
    (hfit : g.gdtStartGo + g.gdSize * g.groupsGo ≤ avail) :
    ext4Mid cfg rd size avail csumOk deep = deep := by
  have hpos : g.gdSize * g.groupsGo ≠ 0 := by
    unfold Ext4.Spec.readAccepts at hacc
    simp only [Bool.and_eq_true, Bool.not_eq_true', beq_eq_false_iff_ne, ne_eq] at hacc
    exact hacc.2
  have hro : readOk avail g.gdtStartGo (g.gdSize * g.groupsGo) = true := by
    simp only [readOk, Bool.and_eq_true, decide_eq_true_eq]
    omega
  unfold ext4Mid
  simp only []
  generalize readAt rd 1024 1024 = b at hdec hgeo ⊢
  rw [hdec]
  simp only [hgate, hgeo, hacc, hro, Bool.not_true, Bool.false_eq_true, if_false]

theorem gateAccepts_of_mkIncompatOk (cfg : Ext4.Reader.Cfg) {inc : Nat} {bit64 : Bool}
    (h : ext4MkIncompatOk inc bit64 = true) : Ext4.Reader.gateAccepts cfg inc = true := by
  simp only [ext4MkIncompatOk, Bool.and_eq_true, Bool.not_eq_true', beq_iff_eq] at h
  simp [Ext4.Reader.gateAccepts, Ext4.Reader.incompatExtents, Ext4.Reader.incompatInlineData, h.1.1, h.1.2]

/-- the magic number the header model tests is the one the superblock decoder tests -/
theorem ext4_magic_of_geo (rd : Dev) (g : Ext4.Spec.Geo) (h : Ext4.Spec.sbGeo (readAt rd 1024 1024) = some g) :
    u16 rd 1080 = 0xEF53 := by
  unfold Ext4.Spec.sbGeo at h
  split at h
  · cases h
  · rename_i hm
    simp only [ne_eq, Decidable.not_not] at hm
    unfold Ext4.Reader.le16 at hm
    rw [slice_readAt rd 1024 1024 0x38 (0x38 + 2) (by omega) (by omega)] at hm
    have : readAt rd (1024 + 0x38) (0x38 + 2 - 0x38) = [rd 1080, rd 1081] := by
      simp [readAt, List.range_succ]
    rw [this] at hm
    simpa [leDec, u16, u8] using hm

end Diskfs.Detect
