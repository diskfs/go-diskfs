/-
  The bytes `Table.Write` (`writeUp`) leaves on ANY prior device for an initialised table of ANY well-formed
  geometry satisfy the independent validity predicate `GptSpec.GptValid` / `GptSpec.PmbrValid`
  (Spec/GptValid.lean), provided the usable range the table carries is itself sane (`UsableWF`: Write copies
  FirstUsableLBA / LastUsableLBA without checking them).
  The header rules come through the library's own reader: the emitted sectors are accepted by readGPTHeader,
  and whatever readGPTHeader accepts meets them (`readHeader_ok_spec`).  The CRC function is a parameter
  throughout; it is never evaluated.
-/
import DiskfsModel.Proofs.GptGeomRegions
import DiskfsModel.Spec.GptValid
namespace Diskfs.Gpt
open Diskfs.GptSpec

theorem efiSig_eq_signature : efiSig = signature := rfl

theorem crcInput_eq_put (s : Bytes) (h : 92 ≤ s.length) :
    slice (put s 16 (zeros 4)) 0 92 = crcInput s 92 := by
  simp only [slice, put, crcInput, List.drop_zero, Nat.sub_zero, zeros_length]
  have hz : (zeros 4).take (s.length - 16) = zeros 4 := List.take_of_length_le (by simp; omega)
  rw [hz]
  have l1 : (s.take 16).length = 16 := by simp; omega
  rw [List.append_assoc, List.take_append, l1, List.take_append]
  simp only [zeros_length]
  have a1 : (s.take 16).take 92 = s.take 16 := List.take_of_length_le (by omega)
  have a2 : (zeros 4).take (92 - 16) = zeros 4 := List.take_of_length_le (by simp)
  rw [a1, a2, List.append_assoc]

/-- soundness of the library's header check against the specification -/
theorem readHeader_ok_spec (crc : Bytes → Nat) (s : Bytes) (h : Hdr) (hlen : 92 ≤ s.length)
    (hr : readHeader crc s = .ok h) :
    slice s 0 8 = signature ∧ (rawHdr s).revision = 0x00010000 ∧ (rawHdr s).headerSize = 92 ∧
    (rawHdr s).headerCrc = crc (crcInput s 92) ∧ (rawHdr s).reserved = 0 ∧
    (rawHdr s).myLBA = h.myLBA ∧ (rawHdr s).alternateLBA = h.altLBA ∧ (rawHdr s).firstUsable = h.firstData ∧
    (rawHdr s).lastUsable = h.lastData ∧ (rawHdr s).diskGuid = guidSwap h.guid ∧ (rawHdr s).entryLBA = h.arrLBA ∧
    (rawHdr s).numEntries = h.count ∧ (rawHdr s).entrySize = h.entSize ∧ (rawHdr s).arrayCrc = h.arrCrc := by
  obtain ⟨hsig, hrev, hhs, hz, hcrc, rfl⟩ := readHeader_ok_inv crc s h hlen hr
  simp only [rawHdr, fld, Nat.reduceAdd]
  refine ⟨hsig, by rw [hrev]; rfl, by rw [hhs]; rfl, by rw [hcrc, crcInput_eq_put s hlen], by rw [hz]; rfl,
    trivial, trivial, trivial, trivial, ?_, trivial, trivial, trivial, trivial⟩
  rw [guidSwap_invol _ (slice_length s 56 72 (by omega) (by omega))]

theorem allZeroB_zeros (n : Nat) : allZeroB (zeros n) = true := by
  simp [allZeroB, zeros]

theorem hdrEncUp_valid (crc : Bytes → Nat) (hcrc : ∀ b, crc b < two32) (t : Table) (primary : Bool) (arr : Bytes)
    (hg : t.guid.length = 16) (hl : 92 ≤ t.lss) (hph : t.primaryHeader < two64) (hsh : t.secondaryHeader < two64)
    (hfd : t.firstData < two64) (hld : t.lastData < two64) (has : arraySectorUp t primary < two64)
    (hac : t.arrCount < two32) :
    HdrValid crc (hdrEncUp crc t primary arr) t.lss (if primary then t.primaryHeader else t.secondaryHeader)
      (if primary then t.secondaryHeader else t.primaryHeader) ∧
    rawHdr (hdrEncUp crc t primary arr) =
      { revision := 0x00010000, headerSize := 92,
        headerCrc := (rawHdr (hdrEncUp crc t primary arr)).headerCrc, reserved := 0,
        myLBA := if primary then t.primaryHeader else t.secondaryHeader,
        alternateLBA := if primary then t.secondaryHeader else t.primaryHeader,
        firstUsable := t.firstData, lastUsable := t.lastData, diskGuid := guidSwap t.guid,
        entryLBA := arraySectorUp t primary, numEntries := t.arrCount, entrySize := 128, arrayCrc := crc arr } := by
  have hlen : (hdrEncUp crc t primary arr).length = t.lss := hdrEncUp_length crc t primary arr hg hl
  have hrd := readHeader_hdrEncUp crc hcrc t primary arr hg hph hsh hfd hld has hac
  obtain ⟨s1, s2, s3, s4, s5, s6, s7, s8, s9, s10, s11, s12, s13, s14⟩ :=
    readHeader_ok_spec crc _ _ (by rw [hlen]; exact hl) hrd
  simp only at s6 s7 s8 s9 s10 s11 s12 s13 s14
  have hz : allZeroB (slice (hdrEncUp crc t primary arr) 92 t.lss) = true := by
    rw [hdrEncUp_shape]
    rw [slice_append_right _ _ _ _ (by rw [hdrBody_length _ (by simp) _ _ _ _ _ hg]; exact Nat.le_refl _)]
    rw [hdrBody_length _ (by simp) _ _ _ _ _ hg]
    simp only [Nat.sub_self]
    rw [slice_all _ _ (by simp)]
    exact allZeroB_zeros _
  refine ⟨⟨s1, s2, by rw [s3]; exact Nat.le_refl _, by rw [s3]; exact hl, by rw [s3]; exact s4, s5, s6, s7, by rw [s3]; exact hz⟩, ?_⟩
  cases hraw : rawHdr (hdrEncUp crc t primary arr)
  rw [hraw] at s2 s3 s5 s6 s7 s8 s9 s10 s11 s12 s13 s14
  simp only at s2 s3 s5 s6 s7 s8 s9 s10 s11 s12 s13 s14
  simp only [RawHdr.mk.injEq]
  exact ⟨s2, s3, trivial, s5, s6, s7, s8, s9, s10, s11, s12, s13, s14⟩

/-- The header sectors and both arrays on the device are the ones `Write` encoded (`write_regionsG`); an encoded header
    is valid and its raw fields are known in closed form (`hdrEncUp_valid`); what is left of `GptValid` is arithmetic
    on those fields, from `geom_layout` and `UsableWF`. -/
theorem written_gpt_valid_geom (c : Cfg) (crc : Bytes → Nat) (hcrc : ∀ b, crc b < two32) (d : Dev)
    (t : Table) (size : Nat) (ws : List Wr) (t' : Table) (hg : GeomWF t size) (hu : UsableWF t)
    (hw : writeUp c crc t size = .ok (ws, t')) :
    GptValid crc (applyWrs d ws) size t.lss := by
  obtain ⟨arr, ps, harr, hlen, ht, hws, r1, r2, r3, r4, _⟩ := write_regionsG c crc d t size ws t' hg hw
  obtain ⟨g1, g2, g3, g4, g5, g6, g7, g8, g9⟩ := geom_layout t size hg
  obtain ⟨k1, k2, k3, k4, k5, k6, k7, k8⟩ := geom_bounds t size hg
  have hps := partSectorsUp_eq t size hg
  obtain ⟨vP, hP⟩ := hdrEncUp_valid crc hcrc t true arr hg.guid k1 k2 k3 hg.fd hg.ld k6 k8
  obtain ⟨vB, hB⟩ := hdrEncUp_valid crc hcrc t false arr hg.guid k1 k2 k3 hg.fd hg.ld k7 k8
  simp only [if_true, Bool.false_eq_true, if_false, k4, k5, hg.ph] at vP vB hP hB
  have hsh := hg.sh; have hfits := hg.fits
  have u1 := hu.u1; have u2 := hu.u2; have u3 := hu.u3; have u4 := hu.u4
  have r3' : readAt (applyWrs d ws) ((size / t.lss - 1) * t.lss) t.lss = hdrEncUp crc t false arr := by
    rw [← hsh]; exact r3
  unfold GptValid
  simp only [priSector, bakSector, lastLBA]
  rw [r1, r3', hP, hB]
  simp only
  have e1 : readAt (applyWrs d ws) (2 * t.lss) (t.arrCount * 128) = arr := r2
  have e2 : readAt (applyWrs d ws) ((t.secondaryHeader - partSectorsUp t) * t.lss) (t.arrCount * 128) = arr := r4
  rw [e1, e2]
  have hab : ∀ h : RawHdr, h.numEntries = t.arrCount → h.entrySize = 128 → arrayBlocks h t.lss = partSectorsUp t := by
    intro h h1 h2; unfold arrayBlocks; rw [h1, h2, hps]; rfl
  rw [hab _ rfl rfl]
  rw [← hsh]
  refine ⟨by omega, vP, vB, ⟨rfl, rfl, rfl, rfl, rfl, rfl, rfl, rfl⟩, by decide, by omega, u1, u2, u3, u4, by omega, rfl, rfl⟩

theorem pmbrEnc_shape (c : Cfg) (t : Table) :
    (pmbrEnc c t).getD 0 0 = 0x00 ∧ (pmbrEnc c t).getD 4 0 = 0xee ∧ (pmbrEnc c t).getD 64 0 = 0x55 ∧
    (pmbrEnc c t).getD 65 0 = 0xaa ∧ slice (pmbrEnc c t) 8 12 = leEnc 4 1 ∧
    slice (pmbrEnc c t) 12 16 = leEnc 4 (pmbrSectors c t.secondaryHeader) ∧ slice (pmbrEnc c t) 16 64 = zeros 48 := by
  have e : pmbrEnc c t = [[0x00, 0, 0, 0, 0xee, 0, 0, 0], leEnc 4 1, leEnc 4 (pmbrSectors c t.secondaryHeader),
      zeros 48, [0x55, 0xaa]].flatten := by simp [pmbrEnc]
  have H := SlicesAt.of_flatten e
  simp only [SlicesAt, List.length_cons, List.length_nil, leEnc_length, zeros_length, Nat.reduceAdd] at H
  exact ⟨rfl, rfl, rfl, rfl, H.2.1, H.2.2.1, H.2.2.2.1⟩

/-- `hclamp`: the size clamp of the repaired code -/
theorem written_pmbr_valid_geom (c : Cfg) (crc : Bytes → Nat) (d : Dev)
    (t : Table) (size : Nat) (ws : List Wr) (t' : Table) (hg : GeomWF t size)
    (hpm : t.pmbr = true) (hclamp : c.pmbrClamp = true)
    (hw : writeUp c crc t size = .ok (ws, t')) :
    PmbrValid (applyWrs d ws) size t.lss := by
  obtain ⟨arr, ps, harr, hlen, ht, hws, r1, r2, r3, r4, r5⟩ := write_regionsG c crc d t size ws t' hg hw
  have r := r5 hpm
  obtain ⟨g0, g4, g64, g65, s8, s12, s16⟩ := pmbrEnc_shape c t
  generalize applyWrs d ws = dev at r
  have k0 := dev_of_readAt dev 446 66 _ r 0 (by omega)
  have k4 := dev_of_readAt dev 446 66 _ r 4 (by omega)
  have k64 := dev_of_readAt dev 446 66 _ r 64 (by omega)
  have k65 := dev_of_readAt dev 446 66 _ r 65 (by omega)
  rw [g0] at k0; rw [g4] at k4; rw [g64] at k64; rw [g65] at k65
  have f1 : slice (readAt dev 0 512) 454 458 = leEnc 4 1 := by
    rw [slice_readAt dev 0 512 454 458 (by omega) (by omega), ← s8, ← r,
      slice_readAt dev 446 66 8 12 (by omega) (by omega)]
  have f2 : slice (readAt dev 0 512) 458 462 = leEnc 4 (pmbrSectors c t.secondaryHeader) := by
    rw [slice_readAt dev 0 512 458 462 (by omega) (by omega), ← s12, ← r,
      slice_readAt dev 446 66 12 16 (by omega) (by omega)]
  have f3 : slice (readAt dev 0 512) 462 510 = zeros 48 := by
    rw [slice_readAt dev 0 512 462 510 (by omega) (by omega), ← s16, ← r,
      slice_readAt dev 446 66 16 64 (by omega) (by omega)]
  refine ⟨k64, k65, k0, k4, ?_, ?_, ?_⟩
  · simp only [fld, Nat.reduceAdd]; rw [f1]; rfl
  · simp only [fld, Nat.reduceAdd]
    rw [f2, leDec_leEnc, hg.sh]
    simp only [pmbrSectors, hclamp, Bool.true_and, two32, decide_eq_true_eq]
    split <;> omega
  · rw [f3]; exact allZeroB_zeros _

end Diskfs.Gpt
