/-
  One Rock Ridge record end to end: the name through NM entries and the link target through whatever
  follows them, continuation areas included.
-/
import DiskfsModel.Proofs.IsoSuspCE
import DiskfsModel.Proofs.IsoSL
namespace Diskfs.Iso

-- an entry the reader keeps by its signature only (PX, TF, ...)
def IsOther : SEnt → Prop
  | .other _ => True
  | _ => False

theorem IsOther.notCE {p : SEnt} (h : IsOther p) : isCE p = false := by
  cases p <;> first | rfl | exact h.elim

theorem IsNM.notCE {p : SEnt} (h : IsNM p) : isCE p = false := by
  cases p <;> first | rfl | exact h.elim

theorem slEntries_each (uni : Bool) (t : Bytes) (hlen : ∀ c ∈ slComps uni t, c.length ≤ 248) :
    ∀ e ∈ slEntries uni t, EntOK e ∧ ∃ p, parseEnt e = some p ∧ isCE p = false := by
  intro e he
  obtain ⟨cont, g, hg, hl, rfl⟩ := slEntries_mem uni t hlen e he
  exact ⟨slEntry_ok cont g hl, _, parseEnt_slEntry cont g hg hl, rfl⟩

theorem getFilename_skip (pre : List SEnt) (hp : ∀ p ∈ pre, IsOther p) (rest : List SEnt) :
    getFilename (pre ++ rest) = getFilename rest := by
  induction pre with
  | nil => rfl
  | cons p r ih =>
    rw [List.forall_mem_cons] at hp
    cases p <;> first | exact hp.1.elim | exact ih hp.2

theorem readLinkGo_skip (pre : List SEnt) (hp : ∀ p ∈ pre, IsOther p ∨ IsNM p) (rest : List SEnt) (t : Bytes) (s : Bool) :
    readLinkGo (pre ++ rest) t s = readLinkGo rest t s := by
  induction pre with
  | nil => rfl
  | cons p r ih =>
    rw [List.forall_mem_cons] at hp
    cases p <;> first | exact (hp.1.elim id id).elim | exact ih hp.2

/-- The extensions stand in the order `GetFileExtensions` makes them: entries the reader keeps by
    signature (`pre`: PX, TF, ...), the NM entries of the name, then any further extensions `post`;
    `ReadLink` is decided by the entries of `post` alone. -/
theorem rr_parts (res : Bool) (bs : Nat) (rd : Nat → Nat → Nat → Bytes) (fuel : Nat) (pre post : List (List Bytes))
    (name : Bytes) (maxSize : Nat) (ce : List Nat) (a : Bytes) (more : List Bytes)
    (hpre : ∀ r ∈ pre, ∀ e ∈ r, EntOK e ∧ ∃ p, parseEnt e = some p ∧ IsOther p) (hpost : RawOK post)
    (hn : name ≠ []) (hce : ∀ c ∈ ce, c < 2 ^ 32)
    (h : assemble res bs fuel ((pre ++ nmEntries name.length name :: post).map List.flatten) maxSize ce = some (a :: more))
    (hl : ∀ x ∈ more, x.length < 2 ^ 32) (hrd : RdOK rd ce more) (hm : more.length ≤ maxAreas) :
    ∃ ps qs, readSusp rd a = some ps ∧ parseAll post.flatten = some qs ∧ getFilename ps = some name ∧
      readLink ps = readLink qs := by
  have hnmE := nmEntries_each name.length name
  have hraw : RawOK (pre ++ nmEntries name.length name :: post) := by
    intro r hr e he
    rcases List.mem_append.1 hr with hr | hr
    · obtain ⟨hok, p, hp, ho⟩ := hpre r hr e he
      exact ⟨hok, p, hp, ho.notCE⟩
    · rcases List.mem_cons.1 hr with rfl | hr
      · obtain ⟨hok, p, hp, ho⟩ := hnmE e he
        exact ⟨hok, p, hp, ho.notCE⟩
      · exact hpost r hr e he
  obtain ⟨ps, hps, hread⟩ := readSusp_assemble res bs rd fuel _ maxSize ce a more hraw hce h hl hrd hm
  -- what the entries parse to, part by part
  obtain ⟨pp, hpp, hpo⟩ := parseAll_each pre.flatten IsOther (fun e he =>
    let ⟨r, hr, her⟩ := List.mem_flatten.1 he; (hpre r hr e her).2)
  obtain ⟨np, hnp, hget⟩ := getFilename_nmEntries name.length name hn (Nat.le_refl _)
  obtain ⟨np', hnp', hnm⟩ := parseAll_each _ IsNM (fun e he => (hnmE e he).2)
  obtain rfl : np' = np := Option.some.inj (hnp'.symm.trans hnp)
  obtain ⟨qs, hqs, _⟩ := parseAll_each post.flatten (isCE · = false) (fun e he => (hpost.flatten e he).2)
  rw [List.flatten_append, List.flatten_cons, parseAll_append, hpp, parseAll_append, hnp, hqs] at hps
  obtain rfl := Option.some.inj hps
  refine ⟨_, qs, hread, hqs, ?_, ?_⟩
  · rw [getFilename_skip pp hpo]
    exact hget qs
  · rw [readLink, readLinkGo_skip pp (fun p hp => Or.inl (hpo p hp)), readLinkGo_skip np' (fun p hp => Or.inr (hnm p hp))]
    rfl

end Diskfs.Iso
