/-
  Liveness side of the N-thread machine of Model/Lru.lean: no reachable state is a deadlock, every
  step decreases a measure (so every schedule makes boundedly many moves, and one made of rounds in
  which every thread gets a turn finishes everybody), and the threads' programs are conserved (what
  a thread has returned, is doing and still has to do is always its original program).
-/
import DiskfsModel.Proofs.LruInv
namespace Diskfs.Lru

theorem step_isSome {disk : Pos → Data} {slack : Nat} {s : Sys} {t : Tid} {th : Thread}
    (hp : s.panicked = false) (ht : s.threads[t]? = some th) :
    (step disk slack s t).isSome = true ↔
      match th.pc with
      | .idle => th.prog ≠ [] ∧ s.cacheOwner = none
      | .gLockBlock _ _ b => ∃ blk, s.blocks[b]? = some blk ∧ blk.owner = none
      | _ => True := by
  unfold step
  rw [if_neg (by rw [hp]; exact Bool.false_ne_true)]
  simp only [ht]
  obtain ⟨prog, pc, rets⟩ := th
  cases pc with
  | idle => cases prog <;> simp
  | gLockBlock p ok b => cases hb : s.blocks[b]? <;> simp [hb]
  | gFind p ok => simp only; split <;> simp
  | gCheck p ok b => simp only; split <;> simp
  | gFetch p ok b => simp only; split <;> simp
  | sSet n => simp only; split <;> simp
  | _ => simp

namespace Thread

theorem done_iff {th : Thread} : th.done = true ↔ th.pc = .idle ∧ th.prog = [] := by
  simp [Thread.done]

theorem done_iff_measure {th : Thread} : th.done = true ↔ th.measure = 0 := by
  obtain ⟨prog, pc, rets⟩ := th
  rw [done_iff]
  cases pc <;> simp [Thread.measure, pcRank, Nat.mul_eq_zero]

end Thread

/-- The holder of the cache lock either needs no lock for its next action, or waits for a block lock
    whose holder is past its last lock acquisition. -/
theorem no_deadlock_inv {disk : Pos → Data} {slack : Nat} {s : Sys} (h : Inv disk s) (hnd : allDone s = false) :
    ∃ t, (step disk slack s t).isSome = true := by
  cases hco : s.cacheOwner with
  | some t0 =>
    obtain ⟨⟨prog, pc, rets⟩, ht0, hc0⟩ := h.cown2 t0 hco
    cases pc with
    | gLockBlock p ok b =>
      obtain ⟨blk, hb, _⟩ := h.tref t0 _ p b ht0 rfl
      cases ho : blk.owner with
      | none => exact ⟨t0, (step_isSome h.nopanic ht0).2 ⟨blk, hb, ho⟩⟩
      | some t1 =>
        obtain ⟨⟨prog1, pc1, rets1⟩, ht1, hb1⟩ := h.bown2 b blk t1 hb ho
        refine ⟨t1, (step_isSome h.nopanic ht1).2 ?_⟩
        cases pc1 <;> first | trivial | cases hb1
    | idle => cases hc0
    | _ => exact ⟨t0, (step_isSome h.nopanic ht0).2 trivial⟩
  | none =>
    obtain ⟨th, hm, hd⟩ := List.all_eq_false.1 hnd
    obtain ⟨t, ht⟩ := List.mem_iff_getElem?.1 hm
    refine ⟨t, (step_isSome h.nopanic ht).2 ?_⟩
    obtain ⟨prog, pc, rets⟩ := th
    cases pc with
    | idle => exact ⟨fun e => hd (Thread.done_iff.2 ⟨rfl, e⟩), hco⟩
    | gLockBlock p ok b =>
      have := h.cown1 t _ ht rfl
      rw [hco] at this; cases this
    | _ => trivial

theorem sum_set_lt {α} (f : α → Nat) : ∀ (l : List α) (i : Nat) (a b : α), l[i]? = some a → f b < f a →
    ((l.set i b).map f).sum < (l.map f).sum
  | [], i, a, b, h, _ => by simp at h
  | x :: l, 0, a, b, h, hlt => by
    simp at h; subst h
    simp only [List.set_cons_zero, List.map_cons, List.sum_cons]; omega
  | x :: l, i + 1, a, b, h, hlt => by
    simp only [List.getElem?_cons_succ] at h
    have := sum_set_lt f l i a b h hlt
    simp only [List.set_cons_succ, List.map_cons, List.sum_cons]; omega

theorem step_measure {disk : Pos → Data} {slack : Nat} {s s' : Sys} {t : Tid} (hs : 1 ≤ slack)
    (h : Inv disk s) (hstep : step disk slack s t = some s') : measure s' < measure s := by
  obtain ⟨th, th1, ht, hset, hlt, _⟩ := (step_spec hs h hstep).2
  unfold measure
  rw [hset]
  exact sum_set_lt Thread.measure s.threads t th th1 ht hlt

theorem step_all {disk : Pos → Data} {slack : Nat} {s s' : Sys} {t : Tid} (hs : 1 ≤ slack)
    (h : Inv disk s) (hstep : step disk slack s t = some s') :
    s'.threads.map Thread.all = s.threads.map Thread.all := by
  obtain ⟨th, th1, ht, hset, _, hall⟩ := (step_spec hs h hstep).2
  obtain ⟨hlt, rfl⟩ := List.getElem?_eq_some_iff.1 ht
  rw [hset, List.map_set, hall, ← List.getElem_map Thread.all (h := by simpa using hlt), List.set_getElem_self]

theorem run_all {disk : Pos → Data} {slack : Nat} (hs : 1 ≤ slack) :
    ∀ (sched : List Tid) (s : Sys), Inv disk s →
      (run disk slack s sched).threads.map Thread.all = s.threads.map Thread.all
  | [], _, _ => rfl
  | t :: sched, s, h => by
    simp only [run, List.foldl_cons]
    cases hst : step disk slack s t with
    | none => exact run_all hs sched s h
    | some s' =>
      have := run_all hs sched s' (step_spec hs h hst).1
      simp only [run] at this
      simp only [Option.getD_some, this, step_all hs h hst]

theorem init_all (maxBlocks : Int) (progs : List (List Op)) : (init maxBlocks progs).threads.map Thread.all = progs := by
  simp only [init, List.map_map]
  have : (Thread.all ∘ fun p => (⟨p, Pc.idle, []⟩ : Thread)) = id := by
    funext p; simp [Thread.all, curOp]
  rw [this, List.map_id]

/-- number of moves actually made along a schedule -/
def moves (disk : Pos → Data) (slack : Nat) : Sys → List Tid → Nat
  | _, [] => 0
  | s, t :: sched =>
    match step disk slack s t with
    | none => moves disk slack s sched
    | some s' => moves disk slack s' sched + 1

theorem moves_bounded {disk : Pos → Data} {slack : Nat} (hs : 1 ≤ slack) :
    ∀ (sched : List Tid) (s : Sys), Inv disk s →
      moves disk slack s sched + measure (run disk slack s sched) ≤ measure s
  | [], _, _ => by simp [moves, run]
  | t :: sched, s, h => by
    simp only [run, List.foldl_cons, moves]
    cases hst : step disk slack s t with
    | none => exact moves_bounded hs sched s h
    | some s' =>
      have h1 := moves_bounded hs sched s' (step_spec hs h hst).1
      have h2 := step_measure hs h hst
      simp only [run] at h1
      simp only [Option.getD_some]
      omega

theorem allDone_iff_measure {s : Sys} : allDone s = true ↔ measure s = 0 := by
  simp [allDone, measure, List.sum_eq_zero_iff_forall_eq_nat, Thread.done_iff_measure]

theorem measure_init (maxBlocks : Int) (progs : List (List Op)) :
    measure (init maxBlocks progs) = 8 * (progs.map List.length).sum := by
  simp only [measure, init, List.map_map]
  induction progs with
  | nil => rfl
  | cons p ps ih =>
    simp only [List.map_cons, List.sum_cons, Function.comp, Thread.measure, pcRank] at ih ⊢
    omega

/-- a round is a stretch of the schedule in which every thread gets at least one turn -/
def FairRound (n : Nat) (round : List Tid) : Prop := ∀ t, t < n → t ∈ round

theorem run_append (disk : Pos → Data) (slack : Nat) (s : Sys) (a b : List Tid) :
    run disk slack s (a ++ b) = run disk slack (run disk slack s a) b := by
  simp [run, List.foldl_append]

theorem moves_eq_zero {disk : Pos → Data} {slack : Nat} :
    ∀ (sched : List Tid) (s : Sys), moves disk slack s sched = 0 → ∀ t ∈ sched, step disk slack s t = none
  | [], _, _ => nofun
  | t :: sched, s, hm => by
    simp only [moves] at hm
    cases hst : step disk slack s t with
    | some s' => rw [hst] at hm; cases hm
    | none => rw [hst] at hm; exact List.forall_mem_cons.2 ⟨hst, moves_eq_zero sched s hm⟩

theorem round_moves {disk : Pos → Data} {slack : Nat} (hs : 1 ≤ slack) {s : Sys} (h : Inv disk s) (round : List Tid)
    (hf : FairRound s.threads.length round) (hnd : allDone s = false) : 0 < moves disk slack s round := by
  refine Nat.pos_of_ne_zero fun h0 => ?_
  obtain ⟨t, ht⟩ := no_deadlock_inv (slack := slack) h hnd
  obtain ⟨s', hs'⟩ := Option.isSome_iff_exists.1 ht
  obtain ⟨th, _, hth, _⟩ := (step_spec hs h hs').2
  have := moves_eq_zero round s h0 t (hf t (List.getElem?_eq_some_iff.1 hth).1)
  rw [hs'] at this
  cases this

theorem allDone_stays {disk : Pos → Data} {slack : Nat} (hs : 1 ≤ slack) {s : Sys} (h : Inv disk s) (hd : allDone s = true) :
    ∀ sched : List Tid, run disk slack s sched = s
  | [] => rfl
  | t :: sched => by
    cases hst : step disk slack s t with
    | some s' =>
      have := step_measure hs h hst
      have := allDone_iff_measure.1 hd
      omega
    | none =>
      simp only [run, List.foldl_cons, hst, Option.getD_none]
      exact allDone_stays hs h hd sched

/-- enough fair rounds finish everybody: `measure s` rounds suffice -/
theorem fair_completion {disk : Pos → Data} {slack : Nat} (hs : 1 ≤ slack) (rounds : List (List Tid)) (s : Sys)
    (h : Inv disk s) (hf : ∀ r ∈ rounds, FairRound s.threads.length r) (hk : measure s ≤ rounds.length) :
    allDone (run disk slack s rounds.flatten) = true := by
  induction rounds generalizing s with
  | nil => exact allDone_iff_measure.2 (Nat.le_zero.1 hk)
  | cons r rounds ih =>
    cases hd : allDone s with
    | true => rw [allDone_stays hs h hd]; exact hd
    | false =>
      -- a fair round of an unfinished system moves at least once, and every move lowers the measure
      have hmv := round_moves hs h r (hf r (List.mem_cons_self ..)) hd
      have hb := moves_bounded hs r s h
      have hlen : (run disk slack s r).threads.length = s.threads.length := by
        simpa using congrArg List.length (run_all hs r s h)
      rw [List.flatten_cons, run_append]
      refine ih _ (run_inv hs r s h) (fun r' hr' => ?_) (by simp only [List.length_cons] at hk; omega)
      rw [hlen]; exact hf r' (List.mem_cons_of_mem _ hr')

end Diskfs.Lru
