/-
  The data mapping of Model/Sqfs/Map.lean: `File.Read` (`byteAt`, `readS`) on a file image returns
  the file's contents.  `Maps` says what a file image has to offer for that (the stored full blocks
  and, if there is a tail, a fragment block holding it), so that the builder core
  (`buildFile_maps`) and a file image read off a device (`fileBytes_written`,
  Proofs/SqfsImageWr.lean) share one proof.
-/
import DiskfsModel.Model.Sqfs.Map
import DiskfsModel.Proofs.SqfsLists
namespace Diskfs.Sqfs

theorem loadBlock_store (c : Codec) (noComp : Bool) (bs : Nat) (blk : Bytes) (h : blk.length = bs) (hbs : 0 < bs) :
    loadBlock c bs (storeBlock c noComp blk) = blk := by
  have hne : blk ≠ [] := List.length_pos_iff.1 (h ▸ hbs)
  unfold storeBlock loadBlock
  split
  · simp [c.nonempty blk hne, c.roundtrip]
  · simp [hne]

theorem loadFrag_store (c : Codec) (noComp : Bool) (blk : Bytes) : loadFrag c (storeBlock c noComp blk) = blk := by
  unfold storeBlock loadFrag
  split <;> simp [c.roundtrip]

theorem fullBlocks_length (bs k : Nat) (c : Bytes) : (fullBlocks bs k c).length = k := by
  induction k generalizing c with
  | zero => rfl
  | succ k ih => simp [fullBlocks, ih]

theorem fullBlocks_getD (bs k : Nat) (c : Bytes) (i : Nat) (hi : i < k) :
    (fullBlocks bs k c).getD i [] = (c.drop (i * bs)).take bs := by
  induction k generalizing c i with
  | zero => omega
  | succ k ih =>
    cases i with
    | zero => simp [fullBlocks]
    | succ i => rw [fullBlocks, List.getD_cons_succ, ih _ _ (by omega), List.drop_drop, Nat.succ_mul, Nat.add_comm]

theorem tail_length (bs : Nat) (d : Bytes) : (d.drop (d.length / bs * bs)).length = d.length % bs := by
  rw [List.length_drop, Nat.mul_comm]
  have := Nat.div_add_mod d.length bs
  omega

/-- what `File.Read` needs of a file image to deliver `content`: its blocks are the stored full
    blocks, and if the contents have a tail, the fragment block holds it at `fragOff` -/
structure Maps (c : Codec) (f : FileImg) (content : Bytes) : Prop where
  bs : 0 < f.bs
  size : f.size = content.length
  blocks : ∃ nd, f.blocks = (fullBlocks f.bs (content.length / f.bs) content).map (storeBlock c nd)
  tail : content.length % f.bs ≠ 0 → ∃ s, f.fragBlock = some s ∧
    ((loadFrag c s).drop f.fragOff).take (content.length % f.bs) = content.drop (content.length / f.bs * f.bs)

theorem byteAt_maps (c : Codec) (f : FileImg) (content : Bytes) (h : Maps c f content) (p : Nat) (hp : p < content.length) :
    byteAt c f p = content.getD p 0 := by
  obtain ⟨bs, _, _, _, _⟩ := f
  obtain ⟨hbs, _, ⟨nd, hb⟩, ht⟩ := h
  simp only at hbs hb ht
  have hk : content.length / bs * bs ≤ content.length := Nat.div_mul_le_self _ _
  have hdm : p / bs * bs + p % bs = p := by rw [Nat.mul_comm]; exact Nat.div_add_mod p bs
  unfold byteAt
  simp only [hb, List.length_map, fullBlocks_length]
  split
  · rename_i hi
    have hle : p / bs * bs + bs ≤ content.length := Nat.succ_mul .. ▸ Nat.le_trans (Nat.mul_le_mul_right bs hi) hk
    rw [getD_map_of_lt (storeBlock c nd) _ _ _ [] (by rw [fullBlocks_length]; exact hi), fullBlocks_getD _ _ _ _ hi,
      loadBlock_store c nd bs _ (by rw [List.length_take, List.length_drop]; omega) hbs]
    simp [List.getD_eq_getElem?_getD, Nat.mod_lt _ hbs, hdm]
  · rename_i hi
    have hpk : content.length / bs * bs ≤ p :=
      Nat.le_trans (Nat.mul_le_mul_right bs (Nat.le_of_not_lt hi)) (Nat.div_mul_le_self _ _)
    have hlen := tail_length bs content
    rw [List.length_drop] at hlen
    obtain ⟨s, hs, htl⟩ := ht (by omega)
    have := congrArg (·.getD (p - content.length / bs * bs) 0) htl
    simp only [List.getD_eq_getElem?_getD, List.getElem?_take, List.getElem?_drop, show p - content.length / bs * bs < content.length % bs by omega,
      if_true, Nat.add_sub_cancel' hpk] at this
    simp only [hs, List.getD_eq_getElem?_getD, this]

theorem readS_maps (c : Codec) (f : FileImg) (content : Bytes) (h : Maps c f content) (off n : Nat) :
    readS c f off n =
      ((content.drop off).take n, off + min n (content.length - off),
        decide (content.length ≤ off + min n (content.length - off))) := by
  unfold readS
  simp only [h.size]
  congr 1
  apply List.ext_getElem
  · simp
  · intro i h1 h2
    simp only [List.length_map, List.length_range] at h1
    simp only [List.getElem_map, List.getElem_range, List.getElem_take, List.getElem_drop]
    rw [byteAt_maps c f content h (off + i) (by omega), getD_eq_of_lt]

theorem buildFile_maps (c : Codec) (nd nf : Bool) (bs : Nat) (pre post content : Bytes) (hbs : 0 < bs) :
    Maps c (buildFile c nd nf bs pre post content) content :=
  ⟨hbs, rfl, ⟨nd, rfl⟩, fun hm => ⟨_, if_neg hm, by
    simp only [loadFrag_store, buildFile, List.append_assoc, List.drop_left]
    exact List.take_left' (tail_length bs content)⟩⟩

end Diskfs.Sqfs
