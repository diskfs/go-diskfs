/-
  Writer against reader at the level of bytes (Model/Sqfs/ImageWr.lean against
  Model/Sqfs/ImageRd.lean): the metadata tables the writers lay down are the 8 KiB chunks of their
  streams, every (translated block, offset) reference into them resolves on the device, file
  contents come back out of the data and fragment blocks, and every owner id stands in the id
  table at its index.
-/
import DiskfsModel.Model.Sqfs.ImageWr
import DiskfsModel.Proofs.SqfsImageRd
namespace Diskfs.Sqfs

theorem cutGT_chunks (items : List Bytes) (buf : Bytes) (hb : buf.length ≤ metaBlock) (hx : ∀ x ∈ items, x.length ≤ metaBlock) :
    cutGT items buf = metaChunks (buf ++ items.flatten) := by
  induction items generalizing buf with
  | nil =>
    rw [cutGT, List.flatten_nil, List.append_nil]
    cases buf with
    | nil => rfl
    | cons a r => rw [metaChunks_small _ (by simp) hb]; rfl
  | cons x r ih =>
    have hxl := hx x (List.mem_cons_self ..)
    have hr : ∀ y ∈ r, y.length ≤ metaBlock := fun y hy => hx y (List.mem_cons_of_mem _ hy)
    rw [cutGT, List.flatten_cons, ← List.append_assoc]
    by_cases hgt : (buf ++ x).length > metaBlock
    · rw [if_pos hgt, ih _ (by simp only [List.length_drop, List.length_append] at hgt ⊢; omega) hr,
        metaChunks_cons (buf ++ x ++ r.flatten) (by intro h; rw [List.append_eq_nil_iff.1 h |>.1] at hgt; simp at hgt),
        List.take_append_of_le_length (Nat.le_of_lt hgt), List.drop_append_of_le_length (Nat.le_of_lt hgt)]
    · rw [if_neg hgt, ih _ (by omega) hr]

/-- `X`: the blocks of the next table, into which a read near the end of `S` runs on -/
theorem readsFrom_stream (c : Codec) (nc : Bool) (img : Dev) (tbl : Nat) (S : Bytes) (X : List Bytes)
    (hX : ∀ x ∈ X, BlockOK x) (hT : HoldsAt img tbl (metaTable c nc (metaChunks S ++ X)))
    (pos : Nat) (hpos : pos ≤ S.length) (hk : pos / metaBlock < (metaChunks S).length) :
    ReadsFrom c img tbl (metaOff c nc (metaChunks S) (pos / metaBlock)) (pos % metaBlock) (S.drop pos ++ X.flatten) := by
  have hok : ∀ x ∈ metaChunks S ++ X, BlockOK x := fun x hx => (List.mem_append.1 hx).elim (metaChunks_ok S x) (hX x)
  have hdm : pos / metaBlock * metaBlock + pos % metaBlock = pos := by rw [Nat.mul_comm]; exact Nat.div_add_mod pos metaBlock
  have hoff : pos % metaBlock ≤ ((metaChunks S ++ X).getD (pos / metaBlock) []).length := by
    rw [List.getD_eq_getElem?_getD, List.getElem?_append_left hk, ← List.getD_eq_getElem?_getD, metaChunks_getD,
      List.length_take, List.length_drop]
    have : pos % metaBlock < metaBlock := Nat.mod_lt _ (by decide)
    omega
  have := readsFrom_of_table c nc img tbl (metaChunks S ++ X) hok hT (pos / metaBlock) (pos % metaBlock)
    (by rw [List.length_append]; omega) hoff
  rwa [metaOff_append c nc _ _ _ (Nat.le_of_lt hk), List.drop_append_of_le_length (Nat.le_of_lt hk), List.flatten_append,
    metaChunks, chunksOf_drop_flatten metaBlock (by decide) _ _ _ (Nat.le_refl _),
    List.drop_append_of_le_length (by rw [List.length_drop]; omega), List.drop_drop, hdm] at this

theorem translate_metaOff (c : Codec) (nc : Bool) (blocks : List Bytes) (k : Nat) (hk : k < blocks.length) :
    translate (blockOffsets (blocks.map fun b => (storeBlock c nc b).payload.length) 0) k = metaOff c nc blocks k := by
  rw [translate, if_pos (by rw [blockOffsets_length, List.length_map]; exact hk)]
  simpa using metaOff_blockOffsets c nc blocks 0 k hk

theorem dirLocs_getD (sizes : List Nat) (p k : Nat) (hk : k < sizes.length) :
    (dirLocs sizes p).getD k (0, 0, 0) =
      ((p + (sizes.take k).sum) / metaBlock, (p + (sizes.take k).sum) % metaBlock, sizes.getD k 0 + 3) := by
  induction sizes generalizing p k with
  | nil => simp at hk
  | cons s r ih =>
    cases k with
    | zero => simp [dirLocs]
    | succ k =>
      simp only [dirLocs, List.getD_cons_succ, List.take_succ_cons, List.sum_cons]
      rw [ih (p + s) k (by simpa using hk), Nat.add_assoc]

theorem storedBytes_cons (s : Stored) (r : List Stored) : storedBytes (s :: r) = s.payload ++ storedBytes r := by
  simp [storedBytes]

theorem dataLocs_getD (c : Codec) (o : WOpt) (fl : List FEnt) (p k : Nat) (hk : k < fl.length) :
    (dataLocs c o fl p).getD k 0 = p + (((fl.map fun e => storedBytes (fileStored c o e))).take k).flatten.length := by
  induction fl generalizing p k with
  | nil => simp at hk
  | cons e r ih =>
    cases k with
    | zero => simp [dataLocs]
    | succ k =>
      simp only [dataLocs, List.getD_cons_succ, List.map_cons, List.take_succ_cons, List.flatten_cons, List.length_append]
      rw [ih _ k (by simpa using hk), Nat.add_assoc]

/-- `File.Read` finds the blocks `copyFileData` wrote: block i at `start + Σ sizes[<i]` -/
theorem loadBlocks_stored (img : Dev) (l : List Stored) (loc : Nat) (h : HoldsAt img loc (storedBytes l)) :
    loadBlocks img loc (l.map blkOfStored) = l := by
  induction l generalizing loc with
  | nil => rfl
  | cons s r ih =>
    rw [storedBytes_cons] at h
    obtain ⟨h1, h2⟩ := holdsAt_append _ _ _ _ h
    simp only [List.map_cons, loadBlocks, blkOfStored]
    rw [ih _ h2, (h1 : readAt img loc s.payload.length = s.payload)]

theorem fragEnts_get (img : Dev) (l : List Stored) (loc : Nat) (h : HoldsAt img loc (storedBytes l)) (i : Nat) (hi : i < l.length) :
    ∃ fe, (fragEnts l loc)[i]? = some fe ∧ (⟨fe.compressed, readAt img fe.start fe.size⟩ : Stored) = l.getD i ⟨false, []⟩ := by
  induction l generalizing loc i with
  | nil => simp at hi
  | cons s r ih =>
    rw [storedBytes_cons] at h
    obtain ⟨h1, h2⟩ := holdsAt_append _ _ _ _ h
    cases i with
    | zero =>
      refine ⟨⟨loc, s.payload.length, s.compressed⟩, by simp [fragEnts], ?_⟩
      unfold HoldsAt at h1
      simp [h1]
    | succ i =>
      obtain ⟨fe, a, b⟩ := ih _ h2 i (by simpa using hi)
      exact ⟨fe, by simpa [fragEnts] using a, by simpa using b⟩

theorem fragEnts_length (l : List Stored) (loc : Nat) : (fragEnts l loc).length = l.length := by
  induction l generalizing loc with
  | nil => rfl
  | cons s r ih => simp [fragEnts, ih]

/-- what the image has to offer for a file's tail: nothing if there is none, else the fragment
    table entry the reference names leads to a stored block that holds the tail at the offset -/
def FragOK (c : Codec) (ncf : Bool) (img : Dev) (frags : List FragEnt) (tail : Bytes) : Option (Nat × Nat) → Prop
  | none => tail = []
  | some (idx, fo) => tail = [] ∨ (idx < noFrag ∧ ∃ fe blkU, frags[idx]? = some fe ∧
      (⟨fe.compressed, readAt img fe.start fe.size⟩ : Stored) = storeBlock c ncf blkU ∧ (blkU.drop fo).take tail.length = tail)

theorem fileBytes_written (c : Codec) (o : WOpt) (hbs : 0 < o.bs) (img : Dev) (frags : List FragEnt) (e : FEnt) (hk : e.kind = 0)
    (dloc : Nat) (fr : Option (Nat × Nat)) (dir : Nat × Nat × Nat)
    (hD : HoldsAt img dloc (storedBytes (fileStored c o e)))
    (hF : FragOK c o.noCompFrag img frags (tailOf o e) fr) :
    fileBytes c img o.bs frags (mkBody c o e dloc fr dir) = some e.data := by
  have ht : tailOf o e = e.data.drop (e.data.length / o.bs * o.bs) := by simp [tailOf, hk]
  have htl : (tailOf o e).length = e.data.length % o.bs := ht ▸ tail_length _ _
  have hblocks : loadBlocks img dloc ((fileStored c o e).map blkOfStored) =
      (fullBlocks o.bs (e.data.length / o.bs) e.data).map (storeBlock c o.noCompData) := by
    rw [loadBlocks_stored img _ _ hD, fileStored, if_pos hk]
  -- basic or extended inode, the file image the reader assembles maps to the contents
  have key : ∀ frag fo, (∀ idx f2, fr = some (idx, f2) → frag = idx ∧ fo = f2) →
      Maps c (fileFromImage img o.bs frags dloc frag fo e.data.length ((fileStored c o e).map blkOfStored)) e.data := by
    intro frag fo hfr
    refine ⟨hbs, rfl, ⟨o.noCompData, hblocks⟩, fun hm => ?_⟩
    simp only [fileFromImage, ← htl] at hm ⊢
    cases fr with
    | none => exact absurd (congrArg List.length (show tailOf o e = [] from hF)) hm
    | some f =>
      obtain ⟨idx, fo'⟩ := f
      obtain ⟨rfl, rfl⟩ := hfr idx fo' rfl
      rcases hF with hF | ⟨hlt, fe, blkU, hget, hst, htail⟩
      · exact absurd (congrArg List.length hF) hm
      · refine ⟨_, by simp only [Nat.ne_of_lt hlt, if_false, hget]; rfl, ?_⟩
        show ((loadFrag c ⟨fe.compressed, readAt img fe.start fe.size⟩).drop fo).take _ = _
        rw [hst, loadFrag_store, ← ht]
        exact htail
  unfold mkBody
  simp only [show ¬ e.kind = 1 by omega, show ¬ e.kind = 2 by omega, if_false]
  by_cases hl : e.links > 0 <;> simp only [hl, if_true, if_false, fileBytes] <;>
    rw [readS_maps c _ _ (key _ _ (by rintro idx f2 rfl; exact ⟨rfl, rfl⟩))] <;> simp

theorem idxIn_spec (x : Nat) (l : List Nat) (h : x ∈ l) : l[idxIn x l]? = some x := by
  induction l with
  | nil => simp at h
  | cons y r ih =>
    by_cases hy : y = x
    · simp [idxIn, hy]
    · simpa [idxIn, hy] using ih ((List.mem_cons.1 h).resolve_left (Ne.symm hy))

theorem mem_addId (l : List Nat) (x y : Nat) : y ∈ addId l x ↔ y ∈ l ∨ y = x := by
  unfold addId
  split
  · exact ⟨Or.inl, fun h => h.elim id (fun h => h ▸ ‹x ∈ l›)⟩
  · simp

theorem mem_idTable_acc (fl : List FEnt) : ∀ acc : List Nat,
    (∀ x ∈ acc, x ∈ fl.foldl (fun acc e => addId (addId acc e.uid) e.gid) acc) ∧
    (∀ e ∈ fl, e.uid ∈ fl.foldl (fun acc e => addId (addId acc e.uid) e.gid) acc ∧
               e.gid ∈ fl.foldl (fun acc e => addId (addId acc e.uid) e.gid) acc) := by
  induction fl with
  | nil => intro acc; simp
  | cons e r ih =>
    intro acc
    obtain ⟨h1, h2⟩ := ih (addId (addId acc e.uid) e.gid)
    simp only [List.foldl_cons]
    refine ⟨fun x hx => h1 x (by simp [mem_addId, hx]), ?_⟩
    intro e' he'
    rcases List.mem_cons.1 he' with rfl | he'
    · exact ⟨h1 _ (by simp [mem_addId]), h1 _ (by simp [mem_addId])⟩
    · exact h2 e' he'

theorem mem_idTable (fl : List FEnt) (e : FEnt) (he : e ∈ fl) : e.uid ∈ idTable fl ∧ e.gid ∈ idTable fl :=
  (mem_idTable_acc fl []).2 e he

end Diskfs.Sqfs
