/-
  The SL encoder against `parseSL` + `ReadLink`.  Component records are reasoned about as `Item`s:
  `slWalk` over the records of one entry spells `slRender` of them; the packing loop is `packS` on
  items, each of whose groups parses as one entry; `ReadLink` over the entries keeps `PInv` (what was
  collected is empty, "/" or ends in a component), under which `joinSymlinkParts` is `slRender`.
  Then the targets that come back byte for byte: those that split into the records that spell them.
-/
import DiskfsModel.Model.Iso.SymlinkEnc
import DiskfsModel.Proofs.IsoSusp
namespace Diskfs.Iso

/-- a component as `splitPath` delivers it: not empty, no slash, its record fits an entry -/
def CompOK (c : Bytes) : Prop := c ≠ [] ∧ 47 ∉ c ∧ c.length ≤ 248

/-- a name that has a component: not empty, not "/", not ending with a slash -/
def Normal (t : Bytes) : Prop := t ≠ [] ∧ t ≠ [47] ∧ t.getLast? ≠ some 47

/-- a name collected so far: empty, "/", or `Normal` -/
def Good (t : Bytes) : Prop := t = [] ∨ t = [47] ∨ Normal t

/-- "/c₁/c₂/…": what further components add behind a name -/
def sfx (rest : List Bytes) : Bytes := (rest.map fun c => 47 :: c).flatten

theorem getLast?_append_ne (a b : Bytes) (hb : b ≠ []) : (a ++ b).getLast? = b.getLast? := by
  rw [List.getLast?_append]
  cases h : b.getLast? with
  | none => exact absurd (List.getLast?_eq_none_iff.1 h) hb
  | some x => simp

theorem appendComp_nil (c : Bytes) : appendComp [] c = c := by simp [appendComp]

theorem appendComp_root (c : Bytes) : appendComp [47] c = 47 :: c := by simp [appendComp]

theorem appendComp_normal (t c : Bytes) (h : Normal t) : appendComp t c = t ++ 47 :: c := by
  rw [appendComp, if_pos ⟨h.1, h.2.1⟩]; simp

theorem normal_appendComp (t c : Bytes) (hc : CompOK c) : Normal (appendComp t c) := by
  have hl : (appendComp t c).getLast? ≠ some 47 := by
    rw [appendComp, getLast?_append_ne _ _ hc.1]; exact fun h => hc.2.1 (List.mem_of_getLast? h)
  exact ⟨by simp [appendComp, hc.1], fun h => hl (by rw [h]; rfl), hl⟩

theorem slRender_comps_normal (rest : List Bytes) (hr : ∀ c ∈ rest, CompOK c) (m : Bytes) (hm : Normal m) :
    slRender (rest.map some) m = m ++ sfx rest ∧ Normal (slRender (rest.map some) m) := by
  induction rest generalizing m with
  | nil => simp [slRender, sfx, hm]
  | cons c r ih =>
    rw [List.forall_mem_cons] at hr
    have := ih hr.2 (appendComp m c) (normal_appendComp m c hr.1)
    refine ⟨?_, this.2⟩
    show slRender (r.map some) (appendComp m c) = _
    rw [this.1, appendComp_normal m c hm]
    simp [sfx]

theorem slRender_comps (t c : Bytes) (rest : List Bytes) (hc : CompOK c) (hr : ∀ x ∈ rest, CompOK x) :
    slRender ((c :: rest).map some) t = appendComp t c ++ sfx rest ∧ Normal (slRender ((c :: rest).map some) t) :=
  slRender_comps_normal rest hr (appendComp t c) (normal_appendComp t c hc)

/-- a component record the encoder can emit: the root record, or a component that is `CompOK` -/
def ItemOK : Item → Prop
  | none => True
  | some c => CompOK c

theorem itemOK_root_comps (pre : List Item) (hpre : ∀ i ∈ pre, i = none) (comps : List Bytes) (hc : ∀ c ∈ comps, CompOK c) :
    ∀ i ∈ pre ++ comps.map some, ItemOK i := by
  intro i hi
  rcases List.mem_append.1 hi with hi | hi
  · rw [hpre i hi]; trivial
  · obtain ⟨c, hcm, rfl⟩ := List.mem_map.1 hi
    exact hc c hcm

theorem slRender_append (a b : List Item) (t : Bytes) : slRender (a ++ b) t = slRender b (slRender a t) := by
  induction a generalizing t with
  | nil => rfl
  | cons i r ih => cases i <;> simp [slRender, ih]

theorem slWalk_step (f : Nat) (fl : UInt8) (c rest name : Bytes) (hc : c.length < 256) :
    slWalk (f + 1) (fl :: UInt8.ofNat c.length :: (c ++ rest)) name =
      slWalk f rest
        (if bit fl.toNat 3 then [47]
         else if bit fl.toNat 2 then appendComp name [46, 46]
         else if bit fl.toNat 1 then appendComp name [46]
         else if c.length > 0 then appendComp name c
         else name) := by
  have hl : (UInt8.ofNat c.length).toNat = c.length := UInt8.toNat_ofNat_of_lt' hc
  simp only [slWalk, List.isEmpty_cons, Bool.false_eq_true, if_false, List.length_cons, List.getD_cons_zero,
    List.getD_cons_succ, hl, List.length_append]
  rw [if_neg (by omega), if_neg (by omega)]
  have hd : List.drop (2 + c.length) (fl :: UInt8.ofNat c.length :: (c ++ rest)) = rest := by
    rw [Nat.add_comm]; simp
  have ht : List.take c.length (List.drop 2 (fl :: UInt8.ofNat c.length :: (c ++ rest))) = c := by simp
  simp only [hd, ht]

theorem slWalk_item (f : Nat) (i : Item) (hi : ItemOK i) (rest name : Bytes) :
    slWalk (f + 1) (encItem i ++ rest) name = slWalk f rest (slRender [i] name) := by
  cases i with
  | none => exact (slWalk_step f 8 [] rest name (by decide)).trans (by simp [slRender, bit])
  | some c =>
    have hc : CompOK c := hi
    by_cases h2 : c = [46, 46]
    · rw [h2]; exact (slWalk_step f 4 [] rest name (by decide)).trans (by simp [slRender, bit])
    · by_cases h1 : c = [46]
      · rw [h1]; exact (slWalk_step f 2 [] rest name (by decide)).trans (by simp [slRender, bit])
      · have hpos : c.length > 0 := List.length_pos_iff.2 hc.1
        rw [show encItem (some c) = 0 :: UInt8.ofNat c.length :: c by simp [encItem, h2, h1]]
        exact (slWalk_step f 0 c rest name (by have := hc.2.2; omega)).trans (by simp [slRender, bit, hpos])

theorem slWalk_items (g : List Item) (hg : ∀ i ∈ g, ItemOK i) : ∀ (fuel : Nat) (name : Bytes), g.length ≤ fuel →
    slWalk fuel ((g.map encItem).flatten) name = some (slRender g name) := by
  induction g with
  | nil => intro fuel name _; cases fuel <;> rfl
  | cons i r ih =>
    intro fuel name hf
    cases fuel with
    | zero => cases hf
    | succ f =>
      rw [List.forall_mem_cons] at hg
      rw [List.map_cons, List.flatten_cons, slWalk_item f i hg.1, ih hg.2 f _ (Nat.le_of_succ_le_succ hf), ← slRender_append [i] r]
      rfl

/-- bytes the component records of `g` take in an entry's component area -/
def encLen (g : List Item) : Nat := ((g.map encItem).flatten).length

theorem encLen_snoc (g : List Item) (i : Item) : encLen (g ++ [i]) = encLen g + (encItem i).length := by
  simp [encLen]

theorem encItem_len (i : Item) (h : ItemOK i) : 2 ≤ (encItem i).length ∧ (encItem i).length ≤ 250 := by
  cases i with
  | none => simp [encItem]
  | some c =>
    have := h.2.2
    simp only [encItem]
    split
    · simp
    · split
      · simp
      · simp; omega

theorem encLen_ge (g : List Item) (hg : ∀ i ∈ g, ItemOK i) : g.length ≤ encLen g := by
  induction g with
  | nil => exact Nat.le_refl _
  | cons i r ih =>
    rw [List.forall_mem_cons] at hg
    have := ih hg.2
    have h2 := (encItem_len i hg.1).1
    simp only [encLen, List.map_cons, List.flatten_cons, List.length_append, List.length_cons] at this ⊢
    omega

theorem slEntry_ok (cont : Bool) (g : List Item) (hl : encLen g ≤ 250) : EntOK (slEntry cont ((g.map encItem).flatten)) :=
  (suspHdr 83 76 _ _ _ rfl (by unfold encLen at hl; omega)).1

theorem parseEnt_slEntry (cont : Bool) (g : List Item) (hg : ∀ i ∈ g, ItemOK i) (hl : encLen g ≤ 250) :
    parseEnt (slEntry cont ((g.map encItem).flatten)) = some (.sl cont (slRender g [])) := by
  have hw : slWalk (((g.map encItem).flatten).length + 5) _ [] = _ :=
    slWalk_items g hg _ [] (by have := encLen_ge g hg; unfold encLen at this; omega)
  have htake : (slEntry cont ((g.map encItem).flatten)).take 2 = [83, 76] := rfl
  rw [parseEnt, htake, if_neg (by decide), if_pos rfl]
  refine (parseSL_hdr 83 76 _ _ _ rfl (by unfold encLen at hl; omega)).trans ?_
  rw [hw]
  cases cont <;> rfl

/-- `slPack` on component records rather than bytes: (continued?, records of the entry) -/
def packS : List Item → List Item → List (Bool × List Item)
  | [], cur => [(false, cur)]
  | e :: r, cur =>
    if (encItem e).length + encLen cur > slMaxComp then (true, cur) :: packS r [e] else packS r (cur ++ [e])

theorem slPack_packS (r cur : List Item) :
    slPack (r.map encItem) ((cur.map encItem).flatten) =
      (packS r cur).map (fun p => slEntry p.1 ((p.2.map encItem).flatten)) := by
  induction r generalizing cur with
  | nil => rfl
  | cons e r ih =>
    have hl : ((cur.map encItem).flatten).length = encLen cur := rfl
    simp only [List.map_cons, slPack, packS]
    rw [hl]
    split
    · have := ih [e]
      simp only [List.map_cons, List.map_nil, List.flatten_cons, List.flatten_nil, List.append_nil] at this
      simp only [List.map_cons, this]
    · have := ih (cur ++ [e])
      simp only [List.map_append, List.flatten_append, List.map_cons, List.map_nil, List.flatten_cons, List.flatten_nil,
        List.append_nil] at this
      exact this

theorem packS_groups (r : List Item) (hr : ∀ i ∈ r, ItemOK i) : ∀ (cur : List Item), (∀ i ∈ cur, ItemOK i) → encLen cur ≤ 250 →
    ∀ p ∈ packS r cur, (∀ i ∈ p.2, ItemOK i) ∧ encLen p.2 ≤ 250 := by
  induction r with
  | nil => intro cur hc hl p hp; rw [List.mem_singleton.1 hp]; exact ⟨hc, hl⟩
  | cons e r ih =>
    intro cur hc hl p hp
    rw [List.forall_mem_cons] at hr
    have he1 : ∀ i ∈ [e], ItemOK i := fun i hi => List.mem_singleton.1 hi ▸ hr.1
    simp only [packS] at hp
    split at hp
    · rcases List.mem_cons.1 hp with rfl | hp
      · exact ⟨hc, hl⟩
      · exact ih hr.2 [e] he1 (by simpa [encLen] using (encItem_len e hr.1).2) p hp
    · rename_i hn
      refine ih hr.2 (cur ++ [e]) (fun i hi => (List.mem_append.1 hi).elim (hc i) (he1 i)) ?_ p hp
      unfold slMaxComp at hn
      rw [encLen_snoc]
      omega

/-- what a group of `packS` parses to -/
def toSl (p : Bool × List Item) : SEnt := .sl p.1 (slRender p.2 [])

/-- the state of the reader between two entries: `t` collected so far (`s`: an entry was seen), `cur`
    the records of the entry being filled -/
def PInv (cur : List Item) (t : Bytes) (s : Bool) : Prop :=
  Good t ∧ (s = false → t = [] ∧ Good (slRender cur [])) ∧
  (s = true → ∃ c rest, cur = (c :: rest).map some ∧ CompOK c ∧ ∀ x ∈ rest, CompOK x)

theorem joinParts_slRender (cur : List Item) (t : Bytes) (s : Bool) (h : PInv cur t s) :
    joinParts t (slRender cur []) s = slRender cur t ∧ Good (slRender cur t) := by
  cases s with
  | false =>
    obtain ⟨rfl, hg⟩ := h.2.1 rfl
    exact ⟨by simp [joinParts], hg⟩
  | true =>
    obtain ⟨c, rest, rfl, hc, hr⟩ := h.2.2 rfl
    have Y := slRender_comps t c rest hc hr
    refine ⟨?_, Or.inr (Or.inr Y.2)⟩
    rw [(slRender_comps [] c rest hc hr).1, Y.1, appendComp_nil]
    rcases h.1 with rfl | rfl | hn
    · simp [joinParts, appendComp_nil]
    · simp [joinParts, appendComp_root]
    · have hj : ¬ (t = [] ∨ t.getLast? = some 47) := fun h => h.elim hn.1 hn.2.2
      simp [joinParts, hj, appendComp_normal t c hn]

theorem pinv_push (cur : List Item) (t : Bytes) (s : Bool) (h : PInv cur t s) (e : Bytes) (he : CompOK e) :
    PInv (cur ++ [some e]) t s := by
  refine ⟨h.1, fun hs => ⟨(h.2.1 hs).1, ?_⟩, fun hs => ?_⟩
  · rw [slRender_append]
    exact Or.inr (Or.inr (normal_appendComp _ e he))
  · obtain ⟨c, rest, rfl, hc, hr⟩ := h.2.2 hs
    exact ⟨c, rest ++ [e], by simp, hc, fun x hx => (List.mem_append.1 hx).elim (hr x) (fun hx => List.mem_singleton.1 hx ▸ he)⟩

theorem readLink_packS (r : List Bytes) (hr : ∀ c ∈ r, CompOK c) : ∀ (cur : List Item) (t : Bytes) (s : Bool), PInv cur t s →
    readLinkGo ((packS (r.map some) cur).map toSl) t s = some (slRender (cur ++ r.map some) t) := by
  induction r with
  | nil =>
    intro cur t s h
    simp only [List.map_nil, packS, List.map_cons, toSl, readLinkGo, Bool.false_eq_true, if_false, List.append_nil,
      (joinParts_slRender cur t s h).1]
  | cons e r ih =>
    intro cur t s h
    rw [List.forall_mem_cons] at hr
    have hcl := joinParts_slRender cur t s h
    simp only [List.map_cons, packS]
    split
    · simp only [List.map_cons, toSl, readLinkGo, if_true, hcl.1]
      have hi : PInv [some e] (slRender cur t) true :=
        ⟨hcl.2, ⟨(fun h => nomatch h), fun _ => ⟨e, [], rfl, hr.1, fun x hx => nomatch hx⟩⟩⟩
      rw [ih hr.2 [some e] (slRender cur t) true hi, slRender_append, slRender_append]
      rfl
    · rw [ih hr.2 (cur ++ [some e]) t s (pinv_push cur t s h e hr.1), List.append_assoc]
      rfl

theorem splitSlash_ok (t cur : Bytes) (hcur : 47 ∉ cur) : ∀ c ∈ splitSlash t cur, c ≠ [] ∧ 47 ∉ c := by
  induction t generalizing cur with
  | nil =>
    intro c hc
    by_cases h : cur = [] <;> simp only [splitSlash, h, if_true, if_false, List.mem_singleton, List.not_mem_nil] at hc
    exact hc ▸ ⟨h, hcur⟩
  | cons x r ih =>
    intro c hc
    by_cases hx : x = 47
    · by_cases h : cur = [] <;> simp only [splitSlash, hx, h, if_true, if_false, List.mem_cons] at hc
      · exact ih [] (by simp) c hc
      · rcases hc with rfl | hc
        · exact ⟨h, hcur⟩
        · exact ih [] (by simp) c hc
    · simp only [splitSlash, hx, if_false] at hc
      exact ih (cur ++ [x]) (by simp [hcur, Ne.symm hx]) c hc

theorem slItems_ok (uni : Bool) (t : Bytes) (hlen : ∀ c ∈ slComps uni t, c.length ≤ 248) :
    (∀ c ∈ slComps uni t, CompOK c) ∧ ∀ i ∈ slItems uni t, ItemOK i := by
  have hc : ∀ c ∈ slComps uni t, CompOK c := fun c hcm =>
    have := splitSlash_ok _ [] (fun h => nomatch h) c hcm
    ⟨this.1, this.2, hlen c hcm⟩
  exact ⟨hc, itemOK_root_comps _ (by split <;> simp) _ hc⟩

theorem slEntries_mem (uni : Bool) (t : Bytes) (hlen : ∀ c ∈ slComps uni t, c.length ≤ 248) :
    ∀ e ∈ slEntries uni t, ∃ cont g, (∀ i ∈ g, ItemOK i) ∧ encLen g ≤ 250 ∧ e = slEntry cont ((g.map encItem).flatten) := by
  intro e he
  rw [show slEntries uni t = _ from slPack_packS (slItems uni t) []] at he
  obtain ⟨p, hp, rfl⟩ := List.mem_map.1 he
  have := packS_groups (slItems uni t) (slItems_ok uni t hlen).2 [] (fun _ h => nomatch h) (Nat.zero_le _) p hp
  exact ⟨p.1, p.2, this.1, this.2, rfl⟩

theorem splitSlash_comp (c r cur : Bytes) (hc : 47 ∉ c) : splitSlash (c ++ r) cur = splitSlash r (cur ++ c) := by
  induction c generalizing cur with
  | nil => simp
  | cons x xs ih =>
    have hx : x ≠ 47 := fun e => hc (by rw [e]; exact List.mem_cons_self ..)
    simp only [List.cons_append, splitSlash, hx, if_false]
    rw [ih (cur ++ [x]) (fun hm => hc (List.mem_cons_of_mem _ hm))]
    simp

theorem splitSlash_sfx (rest : List Bytes) (hr : ∀ c ∈ rest, CompOK c) (cur : Bytes) (hcur : cur ≠ []) :
    splitSlash (sfx rest) cur = cur :: rest := by
  induction rest generalizing cur with
  | nil => simp [sfx, splitSlash, hcur]
  | cons c r ih =>
    rw [List.forall_mem_cons] at hr
    rw [show sfx (c :: r) = 47 :: (c ++ sfx r) by simp [sfx]]
    simp only [splitSlash, if_true, hcur, if_false]
    rw [splitSlash_comp c (sfx r) [] hr.1.2.1, List.nil_append, ih hr.2 c hr.1.1]

theorem slItems_render (root : Bool) (comps : List Bytes) (hc : ∀ c ∈ comps, CompOK c) :
    slItems false (slRender ((if root then [none] else []) ++ comps.map some) []) =
      (if root then [none] else []) ++ comps.map some := by
  cases comps with
  | nil => cases root <;> simp [slItems, slRender, slComps, splitSlash]
  | cons c rest =>
    rw [List.forall_mem_cons] at hc
    obtain ⟨hc0, hr⟩ := hc
    have hsplit : splitSlash (c ++ sfx rest) [] = c :: rest := by
      rw [splitSlash_comp c (sfx rest) [] hc0.2.1, List.nil_append, splitSlash_sfx rest hr c hc0.1]
    cases root with
    | false =>
      have R : slRender ((c :: rest).map some) [] = c ++ sfx rest := by
        rw [(slRender_comps [] c rest hc0 hr).1, appendComp_nil]
      have hh : (c ++ sfx rest).head? ≠ some 47 := by
        cases c with
        | nil => exact absurd rfl hc0.1
        | cons x xs => exact fun h => hc0.2.1 (by rw [← Option.some.inj h]; exact List.mem_cons_self ..)
      simp only [Bool.false_eq_true, if_false, List.nil_append, R, slItems, hh, slComps, hsplit]
    | true =>
      have R : slRender (none :: (c :: rest).map some) [] = 47 :: (c ++ sfx rest) := by
        show slRender ((c :: rest).map some) [47] = _
        rw [(slRender_comps [47] c rest hc0 hr).1, appendComp_root]
        rfl
      simp only [if_true, List.cons_append, List.nil_append, R, slItems, List.head?_cons, slComps, Bool.false_eq_true,
        if_false, splitSlash, hsplit]

end Diskfs.Iso
