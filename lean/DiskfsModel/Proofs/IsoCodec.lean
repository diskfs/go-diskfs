/-
  The record codecs of Model/Iso/Codec are inverted by their decoders: both-endian fields, the
  directory record, path table records.  Each decoder cuts its input with `split`, so a round trip is
  one pass of `split_append` over the encoding.
-/
import DiskfsModel.Model.Iso.Codec
namespace Diskfs.Iso

theorem split_append (a rest : Bytes) (n : Nat) (h : a.length = n) : split n (a ++ rest) = (a, rest) := by
  subst h; simp [split]

@[simp] theorem both32_length (n : Nat) : (both32 n).length = 8 := by simp [both32]
@[simp] theorem both16_length (n : Nat) : (both16 n).length = 4 := by simp [both16]

theorem unboth_both (k n : Nat) (h : n < 256 ^ k) : unboth k (leEnc k n ++ beEnc k n) = some n := by
  simp [unboth, leDec_leEnc_of_lt k n h, beDec_beEnc_of_lt k n h, Nat.two_mul]

theorem unboth_both32 (n : Nat) (h : n < 2 ^ 32) : unboth 4 (both32 n) = some n := unboth_both 4 n h

theorem leDec_leEnc32 (n : Nat) (h : n < 2 ^ 32) : leDec (leEnc 4 n) = n := leDec_leEnc_of_lt 4 n h

theorem encodeRec_length_eq (r : DirRec) :
    (encodeRec r).length = 26 + r.date.length + r.name.length + (recPad r.name.length).length := by
  simp [encodeRec]; omega

theorem encodeRec_length (r : DirRec) (hd : r.date.length = 7) :
    (encodeRec r).length = recLen r.name.length := by
  rw [encodeRec_length_eq, hd, recLen]

theorem recLen_le (n : Nat) (h : n < 222) : recLen n ≤ 255 := by
  unfold recLen recPad; split <;> simp <;> omega

/-- location and size fit 32 bits, the date is 7 bytes, the record length fits its byte -/
def DirRec.WF (r : DirRec) : Prop :=
  r.loc < 2 ^ 32 ∧ r.size < 2 ^ 32 ∧ r.date.length = 7 ∧ r.name.length < 222

theorem decode_encodeRec (r : DirRec) (h : r.WF) : decodeRec (encodeRec r) = some r := by
  obtain ⟨hl, hs, hd, hn⟩ := h
  have hrl := recLen_le _ hn
  unfold decodeRec
  rw [encodeRec_length r hd]
  simp only [encodeRec, List.cons_append, List.nil_append, split_append, both32_length, both16_length, hd,
    UInt8.toNat_ofNat_of_lt' (show r.name.length < 256 by omega), UInt8.toNat_ofNat_of_lt' (show recLen r.name.length < 256 by omega),
    unboth_both32 _ hl, unboth_both32 _ hs, and_self, if_true]

-- the name is not empty and its length fits a byte, location and parent number fit their 32- and 16-bit fields
def PtRec.WF (r : PtRec) : Prop :=
  0 < r.name.length ∧ r.name.length < 256 ∧ r.loc < 2 ^ 32 ∧ r.parent < 2 ^ 16

theorem decode_encodePt (big : Bool) (r : PtRec) (rest : Bytes) (h : r.WF) :
    decodePt big (encodePt big r ++ rest) = some (r, rest) := by
  obtain ⟨h0, h1, hl, hp⟩ := h
  have hl' : r.loc < 256 ^ 4 := by simpa using hl
  have hp' : r.parent < 256 ^ 2 := by simpa using hp
  unfold decodePt
  cases big <;>
  simp [encodePt, split_append, UInt8.toNat_ofNat_of_lt' h1, Nat.ne_of_gt h0,
    leDec_leEnc_of_lt _ _ hl', leDec_leEnc_of_lt _ _ hp', beDec_beEnc_of_lt _ _ hl', beDec_beEnc_of_lt _ _ hp']

theorem encodePt_ne_nil (big : Bool) (r : PtRec) : encodePt big r ≠ [] := by simp [encodePt]

theorem encodePt_length (big : Bool) (r : PtRec) :
    (encodePt big r).length = 8 + r.name.length + (ptPad r.name.length).length := by
  cases big <;> simp [encodePt] <;> omega

theorem encodePtTable_length (big : Bool) (rs : List PtRec) :
    (encodePtTable big rs).length = (rs.map fun r => 8 + r.name.length + (ptPad r.name.length).length).sum := by
  induction rs with
  | nil => rfl
  | cons r rs ih =>
    simp only [encodePtTable, List.map_cons, List.flatten_cons, List.length_append, List.sum_cons, encodePt_length] at ih ⊢
    rw [ih]

/-- a record is 8 bytes, the name and at most one pad byte -/
theorem encodePtTable_length_le (big : Bool) (rs : List PtRec) (k : Nat) (h : ∀ r ∈ rs, r.name.length ≤ k) :
    (encodePtTable big rs).length ≤ (k + 9) * rs.length := by
  induction rs with
  | nil => exact Nat.le_refl _
  | cons r rest ih =>
    rw [List.forall_mem_cons] at h
    have := ih h.2
    have hpad : (ptPad r.name.length).length ≤ 1 := by unfold ptPad; split <;> simp
    simp only [encodePtTable, List.map_cons, List.flatten_cons, List.length_append, List.length_cons, encodePt_length,
      Nat.mul_succ] at this ⊢
    omega

end Diskfs.Iso
