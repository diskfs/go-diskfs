/-
  Layer E for a tree of directories, third part: every directory fits its storage (`TFit`) after
  every call.  A call inside a directory returns the state it was given or a directory rewritten by
  `writeDir` around old and new children (`dstep_shape`); `writeDir` leaves exactly the clusters the
  entries need (`writeDir_fit`); the path walk carries that to any depth (`atDirT_fit`).  This is
  the clause a directory cut short of its entries would violate (finding
  fat-rename-enospc-truncates-dir, fixed by 5b30bf0: the parent was cut to one cluster first).
  A directory that fits is rewritten in place (`writeDir_same`), so a Write or truncating open that
  got its clusters is always recorded.  Core Lean only.
-/
import DiskfsModel.Proofs.FatTreeStep
namespace Diskfs.Fat

theorem kidsFit_iff (g : TGeom) (ks : List TNode) : kidsFit g ks ↔ ∀ t ∈ ks, t.Fit g := by
  induction ks with
  | nil => rw [kidsFit]; simp
  | cons t ks ih => rw [kidsFit, ih, List.forall_mem_cons]

theorem fit_file (g : TGeom) (n : Spec.Name) (c : List Nat) (sz : Nat) : (TNode.file n c sz).Fit g := by
  rw [TNode.Fit]; trivial

theorem fit_dir (g : TGeom) (n : Spec.Name) (c : List Nat) (ks : List TNode) :
    (TNode.dir n c ks).Fit g ↔ c ≠ [] ∧ LevelFit g 2 c ks ∧ kidsFit g ks := by rw [TNode.Fit]

theorem fit_rename (g : TGeom) (t : TNode) (n : Spec.Name) : (t.rename n).Fit g ↔ t.Fit g := by
  cases t <;> simp [TNode.rename, TNode.Fit]

theorem writeDir_fit {g : TGeom} {fuel : Nat} {m : CMap} {d : Dev} {chain : List Nat} {base : Nat}
    {ks : List TNode} {img : Bytes} {w : WD} (hb : 0 < g.f.io.bpc)
    (hw : writeDir g fuel m d chain base ks img = .ok w) :
    LevelFit g base w.chain ks ∧ (w.chain = [] ↔ chain = []) := by
  rcases writeDir_cases hw with ⟨rfl, hle, rfl⟩ | ⟨hne, heq, rfl⟩ | ⟨hne, hn0, _, l', hres, rfl⟩ <;> dsimp only
  · exact ⟨⟨fun _ => hle, fun hh => absurd rfl hh⟩, Iff.rfl⟩
  · exact ⟨⟨fun hh => absurd hh hne, fun _ => heq.symm⟩, Iff.rfl⟩
  · unfold falloc at hres
    have hlen := alloc_res_len hres
    rw [clusterCount_mul _ hb] at hlen
    have htl : (l'.take (dirNeed g base ks)).length = dirNeed g base ks := by
      rw [List.length_take]; omega
    have hne' : l'.take (dirNeed g base ks) ≠ [] := by
      intro e; rw [e] at htl; exact hn0 htl.symm
    exact ⟨⟨fun hh => absurd hh hne', fun _ => htl⟩, by simp [hne, hne']⟩

/-- `f` keeps "this directory and everything below it fits its storage", and the kind of its chain -/
def FitOk (g : TGeom) (f : Nat → DirSt → DirSt × TRes) : Prop :=
  ∀ (base : Nat) (s : DirSt), LevelFit g base s.chain s.kids → kidsFit g s.kids →
    LevelFit g base (f base s).1.chain (f base s).1.kids ∧ kidsFit g (f base s).1.kids ∧
    ((f base s).1.chain = [] ↔ s.chain = [])

section fit
variable {eqn : Spec.Name → Spec.Name → Bool} {g : TGeom} {fuel : Nat}

/-- a child a call can put into the directory `s`: a fresh leaf under the call's name, the file the
    call addresses with a new chain and size, or an old child under the call's new name -/
def NewChild (eqn : Spec.Name → Spec.Name → Bool) (g : TGeom) (fuel : Nat) (s : DirSt) (t : TNode) : TOp → Prop
  | .mkdir _ n _ _ => ∃ l, (falloc g.f fuel s.m 1 0).res = some l ∧ t = .dir n l []
  | .create _ n _ => ∃ l, t = .file n l 0
  | .writeAt _ n off data _ => ∃ fn fc size l', kfind eqn s.kids n = some (.file fn fc size) ∧
      t = .file fn l' (Nat.max size (off + data.length))
  | .truncate _ n _ => ∃ fn fc size, kfind eqn s.kids n = some (.file fn fc size) ∧ t = .file fn (fc.take 1) 0
  | .rename _ _ n _ => ∃ u ∈ s.kids, t = u.rename n
  | .remove _ _ _ => False

theorem dstep_shape (op : TOp) (base : Nat) (s : DirSt) :
    (dstep eqn g fuel op base s).1 = s ∨
    ∃ m d img w, writeDir g fuel m d s.chain base (dstep eqn g fuel op base s).1.kids img = .ok w ∧
      (dstep eqn g fuel op base s).1.chain = w.chain ∧
      ∀ t ∈ (dstep eqn g fuel op base s).1.kids, t ∈ s.kids ∨ NewChild eqn g fuel s t op := by
  generalize hr : dstep eqn g fuel op base s = r
  -- branch by branch: `s` is returned, or the state is put together from a successful `writeDir`
  cases op <;> simp only [dstep, dMkdir, dCreate, dWrite, dTrunc, dRemove, dRename] at hr <;>
    (repeat' split at hr) <;> subst hr <;>
    first | exact Or.inl rfl | refine Or.inr ⟨_, _, _, _, ‹_›, rfl, fun t ht => ?_⟩
  -- what is left is where the children come from: mkdir, create, write, truncate, rename (onto a
  -- free name, over a file), remove
  · exact (List.mem_append.1 ht).imp_right fun ht => ⟨_, ‹_›, List.mem_singleton.1 ht⟩
  · exact (List.mem_append.1 ht).imp_right fun ht => ⟨_, List.mem_singleton.1 ht⟩
  · exact (mem_kset ht).symm.imp_right fun e => ⟨_, _, _, _, ‹_›, e⟩
  · exact (mem_kset ht).symm.imp_right fun e => ⟨_, _, _, ‹_›, e⟩
  · obtain ⟨u, hu, e | e⟩ := mem_krename ht
    · exact Or.inr ⟨u, hu, e⟩
    · exact Or.inl (e ▸ hu)
  · obtain ⟨u, hu, e | e⟩ := mem_krename ht
    · exact Or.inr ⟨u, mem_kerase hu, e⟩
    · exact Or.inl (e ▸ mem_kerase hu)
  · exact Or.inl (mem_kerase ht)

theorem new_dir_fit (hb64 : 64 ≤ g.f.io.bpc) {m : CMap} {l : List Nat} (n : Spec.Name)
    (hres : (falloc g.f fuel m 1 0).res = some l) : (TNode.dir n l []).Fit g := by
  unfold falloc at hres
  have hb : 0 < g.f.io.bpc := by omega
  have hlen := alloc_new_len hb (by decide) hres
  rw [clusterCount_one hb] at hlen
  have hne : l ≠ [] := by intro e; rw [e] at hlen; cases hlen
  rw [fit_dir]
  refine ⟨hne, ⟨fun hh => absurd hh hne, fun _ => ?_⟩, by rw [kidsFit]; trivial⟩
  -- "." and ".." take 64 bytes
  rw [hlen]
  exact (clusterCount_le_one (n := 32 * (2 + 0)) (by decide) hb64).symm

theorem dstep_fit (hb64 : 64 ≤ g.f.io.bpc) (op : TOp) : FitOk g (dstep eqn g fuel op) := by
  intro base s hfit hkids
  rcases dstep_shape (eqn := eqn) (g := g) (fuel := fuel) op base s with h | ⟨m, d, img, w, hw, hc, hmem⟩
  · rw [h]
    exact ⟨hfit, hkids, Iff.rfl⟩
  · obtain ⟨h1, h2⟩ := writeDir_fit (by omega) hw
    rw [hc]
    refine ⟨h1, (kidsFit_iff _ _).2 fun t ht => ?_, h2⟩
    rcases hmem t ht with h | h
    · exact (kidsFit_iff _ _).1 hkids t h
    · cases op with
      | mkdir _ n _ _ => obtain ⟨l, hres, rfl⟩ := h; exact new_dir_fit hb64 n hres
      | create _ n _ => obtain ⟨l, rfl⟩ := h; exact fit_file _ _ _ _
      | writeAt _ n off data _ => obtain ⟨fn, fc, size, l', _, rfl⟩ := h; exact fit_file _ _ _ _
      | truncate _ n _ => obtain ⟨fn, fc, size, _, rfl⟩ := h; exact fit_file _ _ _ _
      | rename _ _ n _ => obtain ⟨u, hu, rfl⟩ := h; exact (fit_rename g u n).2 ((kidsFit_iff _ _).1 hkids u hu)
      | remove _ _ _ => exact h.elim

theorem dirSlots_kset_same (he : EqnOk eqn) {ks : List TNode} {n : Spec.Name} {t x : TNode} (base : Nat)
    (hd : ks.Pairwise fun a b => eqn a.name b.name = false) (hf : kfind eqn ks n = some t)
    (hx : x.name = t.name) : dirSlots g base (kset eqn ks n x) = dirSlots g base ks := by
  obtain ⟨pre, post, hsplit, hfn, hpre, hpost⟩ := find_split he hd hf
  rw [hsplit, kset, map_mid _ hfn hpre hpost]
  unfold dirSlots
  simp only [List.map_append, List.map_cons, hx]

theorem atDirT_fit (he : EqnOk eqn) {f : Nat → DirSt → DirSt × TRes} (hf : FitOk g f) (path : List Spec.Name) :
    ∀ (base : Nat) (s : DirSt), kidsWF eqn g s.kids → LevelFit g base s.chain s.kids → kidsFit g s.kids →
      LevelFit g base (atDirT eqn f path base s).1.chain (atDirT eqn f path base s).1.kids ∧
      kidsFit g (atDirT eqn f path base s).1.kids ∧
      ((atDirT eqn f path base s).1.chain = [] ↔ s.chain = []) := by
  induction path with
  | nil =>
    intro base s _ hfit hkids
    simp only [atDirT]
    exact hf base s hfit hkids
  | cons n path ih =>
    intro base s hwf hfit hkids
    simp only [atDirT]
    split
    · rename_i nm c ks hfd
      have hall := (kidsFit_iff g s.kids).1 hkids
      have hchild := (fit_dir ..).1 (hall _ (kfind_mem hfd))
      have IH := ih 2 ⟨s.m, s.d, c, ks⟩ ((wf_dir ..).1 (wf_child hwf hfd)) hchild.2.1 hchild.2.2
      generalize atDirT eqn f path 2 ⟨s.m, s.d, c, ks⟩ = r at IH ⊢
      by_cases hok : r.2 = .ok
      · simp only [hok, if_true]
        refine ⟨?_, (kidsFit_iff ..).2 fun u hu => ?_, trivial⟩
        · unfold LevelFit dirNeed at hfit ⊢
          rw [dirSlots_kset_same (x := .dir nm r.1.chain r.1.kids) he base (kidsWF_pairwise hwf) hfd rfl]
          exact hfit
        · rcases mem_kset hu with rfl | hu
          · exact (fit_dir ..).2 ⟨fun e => hchild.1 (IH.2.2.1 e), IH.1, IH.2.1⟩
          · exact hall u hu
      · simp only [hok, if_false]
        exact ⟨hfit, hkids, trivial⟩
    · exact ⟨hfit, hkids, Iff.rfl⟩
    · exact ⟨hfit, hkids, Iff.rfl⟩

end fit

section fitmain
variable {eqn : Spec.Name → Spec.Name → Bool} {g : TGeom} {fuel : Nat}

/-- every call, accepted or refused, leaves every directory with exactly the clusters its
    entries need (the fixed root: with a slot for every entry) -/
theorem tstep_fit (he : EqnOk eqn) (hb64 : 64 ≤ g.f.io.bpc) (s : DirSt) (op : TOp)
    (hwf : kidsWF eqn g s.kids) (hfit : TFit g s) : TFit g (tstep eqn g fuel s op).1 := by
  have := atDirT_fit he (dstep_fit (eqn := eqn) (fuel := fuel) hb64 op) op.dir g.rootBase s hwf hfit.root hfit.kids
  exact ⟨this.1, this.2.1⟩

theorem trun_fit (he : EqnOk eqn) (hg : TGeomOk g) (hfuel : g.f.lim - 2 ≤ fuel) (hb64 : 64 ≤ g.f.io.bpc)
    (ops : List TOp) (s : DirSt) (h : TInv eqn g s) (hfit : TFit g s) :
    TFit g (trun eqn g fuel s ops) := by
  induction ops generalizing s with
  | nil => exact hfit
  | cons op rest ih =>
    simp only [trun, List.foldl_cons]
    exact ih _ (tstep_inv he hg hfuel s op h) (tstep_fit he hb64 s op h.wf hfit)

end fitmain

theorem writeDir_same {g : TGeom} {fuel : Nat} {m : CMap} {d : Dev} {chain : List Nat} {base : Nat}
    {ks ks' : List TNode} {img : Bytes} (hfit : LevelFit g base chain ks)
    (hs : dirSlots g base ks' = dirSlots g base ks) :
    ∃ d', writeDir g fuel m d chain base ks' img = .ok ⟨m, d', chain⟩ := by
  cases chain with
  | nil =>
    simp only [writeDir]
    rw [if_pos (by rw [hs]; exact hfit.1 rfl)]
    exact ⟨_, rfl⟩
  | cons c cs =>
    have hn : dirNeed g base ks' = (c :: cs).length := by
      have := hfit.2 (by simp)
      unfold dirNeed at this ⊢
      rw [hs]; exact this.symm
    simp only [writeDir]
    rw [if_neg (by rw [hn]; simp), if_pos hn]
    exact ⟨_, rfl⟩

section recorded
variable {eqn : Spec.Name → Spec.Name → Bool} {g : TGeom} {fuel : Nat}

/-- in a directory that fits its storage the rewrite of the parent directory by a truncating open
    (same entries, new size) cannot fail; for a Write see `C01.fat_write_recorded` -/
theorem dTrunc_rewrite_ok (he : EqnOk eqn) {base : Nat} {s : DirSt} {n fn : Spec.Name} {fc : List Nat}
    {size : Nat} {img : Bytes}
    (hwf : kidsWF eqn g s.kids) (hfit : LevelFit g base s.chain s.kids)
    (hf : kfind eqn s.kids n = some (.file fn fc size)) :
    ∃ d', writeDir g fuel s.m s.d s.chain base (kset eqn s.kids n (.file fn (fc.take 1) 0)) img
      = .ok ⟨s.m, d', s.chain⟩ :=
  writeDir_same hfit (dirSlots_kset_same (g := g) (x := .file fn (fc.take 1) 0) he base
    (kidsWF_pairwise hwf) hf rfl)

end recorded

/-! ### non-vacuity: a volume whose directory "B" (two clusters) holds the file "A" -/

/-- 64-byte clusters, two slots per name: "." + ".." + one entry fill exactly two clusters -/
def exTGeom2 : TGeom := ⟨⟨.f12, 10, 10, ⟨0, 256, 64⟩⟩, fun _ => 2, 8, 1, 0⟩

theorem exTGeom2_ok : TGeomOk exTGeom2 := ⟨by decide, ex_limOk, by decide, by decide⟩

def exTree2 : DirSt := ⟨exTable, fun _ => 0, [], [.dir [66] [3, 4] [.file [65] [2] 3]]⟩

theorem exTree2_inv : TInv exEqn exTGeom2 exTree2 where
  table := by
    have : chainOwner exTree2.chain ++ kidsOwners exTree2.kids = [[3, 4], [2]] := by
      simp [exTree2, chainOwner, kidsOwners_cons, kidsOwners_nil, owners_file, owners_dir]
    rw [this]
    exact ex_inv'
  wf := by
    simp only [exTree2, kidsWF_cons, wf_dir, wf_file, kidsWF_nil, List.not_mem_nil, false_imp_iff,
      implies_true, and_true]
    decide

theorem exTree2_fit : TFit exTGeom2 exTree2 where
  root := ⟨fun _ => by decide, fun h => absurd rfl h⟩
  kids := by
    simp only [exTree2, kidsFit, TNode.Fit, and_true]
    exact ⟨by decide, ⟨fun h => (by cases h), fun _ => (by decide)⟩⟩

example (ops : List TOp) : TFit exTGeom2 (trun exEqn exTGeom2 8 exTree2 ops) :=
  trun_fit exEqn_ok exTGeom2_ok (by decide) (by decide) ops exTree2 exTree2_inv exTree2_fit

/-- a second file in "B" (it gets cluster 5) needs a third directory cluster: the chain grows to 3 → 4 → 6 … -/
example : (tstep exEqn exTGeom2 8 exTree2 (.create [[66]] [67] [])).1.kids.map TNode.chain = [[3, 4, 6]] := by
  decide

/-- … and removing "A" shrinks it to one cluster -/
example : (tstep exEqn exTGeom2 8 exTree2 (.remove [[66]] [65] [])).1.kids.map TNode.chain = [[3]] := by
  decide

end Diskfs.Fat
