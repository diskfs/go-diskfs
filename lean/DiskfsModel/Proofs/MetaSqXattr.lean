/-
  The squashfs xattr lookup walk (Model/MetaSqXattr.lean) over attributes laid out back to back: one step reads
  one encoded attribute and lands behind it.
-/
import DiskfsModel.Model.MetaSqXattr
namespace Diskfs.Meta.SqXattr
open Diskfs

theorem sub_at (pre mid post : Bytes) (o n : Nat) (ho : o = pre.length) (hn : n = mid.length) :
    sub (pre ++ (mid ++ post)) o n = mid := by
  subst ho; subst hn; simp [sub]

theorem encAttr_length (a : Attr) : (encAttr a).length = 8 + a.name.length + a.val.length := by
  simp [encAttr]; omega

theorem step_enc (pre : Bytes) (a : Attr) (rest : Bytes) (h : WfAttr a) :
    step (pre ++ (encAttr a ++ rest)) pre.length
      = some (a.name, a.val, pre.length + (encAttr a).length) := by
  obtain ⟨h1, h2, h3⟩ := h
  have hlen : (pre ++ (encAttr a ++ rest)).length
      = pre.length + (8 + a.name.length + a.val.length) + rest.length := by
    simp [encAttr]; omega
  -- each field is the middle of a three-part split of the record: everything before it, the field, the rest
  have e : pre ++ (encAttr a ++ rest) = pre ++ (leEnc 2 a.typ ++ (leEnc 2 a.name.length ++ (a.name ++
      (leEnc 4 a.val.length ++ (a.val ++ rest))))) := by
    simp [encAttr]
  have hx : leDec (sub (pre ++ (encAttr a ++ rest)) (pre.length + 2) 2) = a.name.length := by
    rw [e, ← List.append_assoc, sub_at _ _ _ _ _ (by simp) (by simp)]
    exact leDec_leEnc_of_lt 2 _ (by omega)
  have hk : sub (pre ++ (encAttr a ++ rest)) (pre.length + 4) a.name.length = a.name := by
    rw [e, ← List.append_assoc, ← List.append_assoc, sub_at _ _ _ _ _ (by simp <;> omega) rfl]
  have hv : leDec (sub (pre ++ (encAttr a ++ rest)) (pre.length + 4 + a.name.length) 4) = a.val.length := by
    rw [e, ← List.append_assoc, ← List.append_assoc, ← List.append_assoc, sub_at _ _ _ _ _ (by simp <;> omega) (by simp)]
    exact leDec_leEnc_of_lt 4 _ (by omega)
  have hw : sub (pre ++ (encAttr a ++ rest)) (pre.length + 4 + a.name.length + 4) a.val.length = a.val := by
    rw [e, ← List.append_assoc, ← List.append_assoc, ← List.append_assoc, ← List.append_assoc,
      sub_at _ _ _ _ _ (by simp <;> omega) rfl]
  unfold step
  simp only [hx, hv, hk, hw, hlen, encAttr_length]
  rw [if_neg (by omega), if_neg (by omega), if_neg (by omega), if_neg (by omega), if_neg (by omega)]
  congr 3; omega

theorem walk_encSet (pre : Bytes) (as : List Attr) (rest : Bytes) (h : ∀ a ∈ as, WfAttr a) :
    walk true (pre ++ (encSet as ++ rest)) as.length pre.length
      = some (as.map fun a => (a.name, a.val)) := by
  induction as generalizing pre with
  | nil => simp [walk]
  | cons a as ih =>
    have e : pre ++ (encSet (a :: as) ++ rest) = pre ++ (encAttr a ++ (encSet as ++ rest)) := by
      simp [encSet, List.append_assoc]
    have e2 : pre ++ (encAttr a ++ (encSet as ++ rest)) = (pre ++ encAttr a) ++ (encSet as ++ rest) := by
      simp
    have ih' := ih (pre ++ encAttr a) (fun x hx => h x (by simp [hx]))
    simp only [List.length_cons, walk]
    rw [e, step_enc pre a _ (h a (by simp))]
    simp only [if_true]
    rw [e2, show pre.length + (encAttr a).length = (pre ++ encAttr a).length by simp, ih']
    simp

end Diskfs.Meta.SqXattr
