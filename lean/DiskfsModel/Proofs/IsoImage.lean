/-
  The plain image as a whole.  The volume descriptors (primary and supplementary) round-trip.  On any
  device that shows a tree (`Holds`) the reader returns its listing (`readDirP_walk`); pairwise disjoint
  writes read back (`readAt_applyWrs_mem`), so the writes of Finalize, once disjoint, show the tree and
  the reader finds it (`reader_on_writes`); the sequential placement `seqWr` makes them disjoint
  (`placed_writes_disjoint`).
-/
import DiskfsModel.Model.Iso.Svd
import DiskfsModel.Model.Iso.Writes
import DiskfsModel.Proofs.Bytes
import DiskfsModel.Proofs.IsoCodec
import DiskfsModel.Proofs.IsoExtent
namespace Diskfs.Iso

theorem rootRec_length (r : DirRec) (hd : r.date.length = 7) (hn : r.name.length = 1) : (encodeRec r).length = 34 := by
  rw [encodeRec_length r hd]; simp [recLen, recPad, hn]

theorem encodePVD_length (p : PVD) (h : p.WF) : (encodePVD p).length = 2048 := by
  obtain ⟨h1, h2, _, _, _, _, _, _, _, _, _, _, _, hd, hn, ht⟩ := h
  simp [encodePVD, pvdMagic, h1, h2, ht, rootRec_length p.root hd hn]

/-- what the decoders of both volume descriptors find behind their cuts -/
theorem pvd_fields {p : PVD} (h : p.WF) :
    p.sysId.length = 32 ∧ p.volId.length = 32 ∧ (encodeRec p.root).length = 34 ∧
    unboth 4 (both32 p.volSize) = some p.volSize ∧ unboth 2 (both16 p.setSize) = some p.setSize ∧
    unboth 2 (both16 p.seqNo) = some p.seqNo ∧ unboth 2 (both16 p.blocksize) = some p.blocksize ∧
    unboth 4 (both32 p.ptSize) = some p.ptSize ∧ leDec (leEnc 4 p.ptL) = p.ptL ∧ leDec (leEnc 4 p.ptLopt) = p.ptLopt ∧
    beDec (beEnc 4 p.ptM) = p.ptM ∧ beDec (beEnc 4 p.ptMopt) = p.ptMopt ∧ decodeRec (encodeRec p.root) = some p.root := by
  obtain ⟨h1, h2, h3, h4, h5, h6, h7, h8, h9, h10, h11, h12, h13, hd, hn, _⟩ := h
  exact ⟨h1, h2, rootRec_length p.root hd hn, unboth_both32 _ h3, unboth_both 2 _ h4, unboth_both 2 _ h5, unboth_both 2 _ h6,
    unboth_both32 _ h7, leDec_leEnc32 _ h8, leDec_leEnc32 _ h9, beDec_beEnc_of_lt 4 _ h10, beDec_beEnc_of_lt 4 _ h11,
    decode_encodeRec p.root ⟨h12, h13, hd, by omega⟩⟩

theorem decode_encodePVD (p : PVD) (h : p.WF) : decodePVD (encodePVD p) = some p := by
  have hm : (pvdMagic ++ [0]).length = 8 := rfl
  unfold decodePVD
  rw [encodePVD_length p h]
  simp only [encodePVD, split_append, hm, zeros_length, both32_length, both16_length, leEnc_length, beEnc_length, pvd_fields h]
  simp [pvdMagic]

theorem encodeSVD_length (s : SVD) (h : s.WF) : (encodeSVD s).length = 2048 := by
  obtain ⟨he, h1, h2, _, _, _, _, _, _, _, _, _, _, _, hd, hn, ht⟩ := h
  simp [encodeSVD, svdMagic, h1, h2, ht, he, rootRec_length s.d.root hd hn]

theorem decode_encodeSVD (s : SVD) (h : s.WF) : decodeSVD (encodeSVD s) = some s := by
  have hm : (svdMagic ++ [s.flags]).length = 8 := rfl
  unfold decodeSVD
  rw [encodeSVD_length s h]
  simp only [encodeSVD, split_append, hm, h.1, zeros_length, both32_length, both16_length, leEnc_length, beEnc_length, pvd_fields h.2]
  simp [svdMagic]

theorem encodeRec_recOK (bs : Nat) (hbs : 255 ≤ bs) (r : DirRec) (hd : r.date.length = 7) (hn : r.name.length < 222) :
    RecOK bs (encodeRec r) := by
  have hb := recLen_le _ hn
  have hp : 0 < recLen r.name.length := by unfold recLen; omega
  rw [RecOK, encodeRec_length r hd]
  exact ⟨hp, by omega, by omega, UInt8.toNat_ofNat_of_lt' (show recLen r.name.length < 256 by omega)⟩

theorem decodeAll_encode (rs : List DirRec) (h : ∀ r ∈ rs, r.WF) : decodeAll (rs.map encodeRec) = some rs := by
  induction rs with
  | nil => rfl
  | cons r rs ih =>
    rw [List.forall_mem_cons] at h
    simp only [List.map_cons, decodeAll, decode_encodeRec r h.1, ih h.2]

theorem parse_dirBytes (bs : Nat) (hbs : 255 ≤ bs) (rs : List DirRec) (h : ∀ r ∈ rs, r.WF) :
    decodeAll (parseExtent bs (2 * (encodeExtent bs (rs.map encodeRec)).length + 1) 0 (encodeExtent bs (rs.map encodeRec))) = some rs := by
  have hok : ∀ b ∈ rs.map encodeRec, RecOK bs b := by
    intro b hb
    obtain ⟨r, hr, rfl⟩ := List.mem_map.1 hb
    exact encodeRec_recOK bs hbs r (h r hr).2.2.1 (h r hr).2.2.2
  have hlen : (rs.map encodeRec).length ≤ (encodeExtent bs (rs.map encodeRec)).length :=
    encSuffix_length_ge bs _ 0 (fun b hb => (hok b hb).1)
  have := parse_encSuffix bs (by omega) (rs.map encodeRec) hok [] (2 * (encodeExtent bs (rs.map encodeRec)).length + 1) (by omega)
  rw [List.length_nil, List.nil_append] at this
  show decodeAll (parseExtent bs _ 0 (encSuffix bs _ 0)) = _
  rw [this]
  exact decodeAll_encode rs h

theorem isDirFlag_dirFlag (b : Bool) : isDirFlag (dirFlag b) = b := by cases b <;> decide

theorem dirRecs_wf (t : PTree) (hwf : t.WF) (d : Nat) (hd : d < t.n) : ∀ r ∈ t.dirRecs d, r.WF := by
  intro r hr
  simp only [PTree.dirRecs, List.mem_cons, List.mem_map] at hr
  rcases hr with rfl | rfl | ⟨c, hc, rfl⟩
  · obtain ⟨a, b, c, _⟩ := hwf.2.2 d hd
    exact ⟨a, b, c, Nat.lt_of_sub_eq_succ rfl⟩
  · obtain ⟨a, b, c, _⟩ := hwf.2.2 (t.parent d) (hwf.2.1 d hd)
    exact ⟨a, b, c, Nat.lt_of_sub_eq_succ rfl⟩
  · exact hwf.2.2 c (hwf.1 d hd c hc)

theorem readDirP_walk (img : Dev) (bs : Nat) (hbs : 255 ≤ bs) (t : PTree) (hwf : t.WF) (hh : Holds img bs t) :
    ∀ (fuel : Nat) (pre : List Bytes) (d : Nat), d < t.n → (t.ent d).isDir = true → t.Fits fuel d →
      readDirP img bs fuel pre (t.ent d).loc (t.ent d).size = some (t.walk fuel pre d) := by
  intro fuel
  induction fuel with
  | zero => intro pre d _ _ hf; exact hf.elim
  | succ fuel ih =>
    intro pre d hd hdir hfit
    have hsize : (t.ent d).size = (t.dirBytes bs d).length := by
      simpa using congrArg List.length (hh.1 d hd hdir)
    have kids : ∀ ks : List Nat, (∀ c ∈ ks, c ∈ t.kids d) →
        walkRecs (fun q l z => readDirP img bs fuel q l z) img bs pre (ks.map t.recOf) =
          some (ks.flatMap fun c => t.reOf pre c :: (if (t.ent c).isDir then t.walk fuel (pre ++ [(t.ent c).name]) c else [])) := by
      intro ks
      induction ks with
      | nil => intro _; rfl
      | cons c ks ihk =>
        intro hsub
        rw [List.forall_mem_cons] at hsub
        have hcn : c < t.n := hwf.1 d hd c hsub.1
        simp only [List.map_cons, walkRecs, ihk hsub.2, List.flatMap_cons]
        cases hcd : (t.ent c).isDir with
        | true =>
          simp [PTree.recOf, hcd, isDirFlag_dirFlag, PTree.reOf, ih (pre ++ [(t.ent c).name]) c hcn hcd (hfit c hsub.1 hcd)]
        | false =>
          simp [PTree.recOf, hcd, isDirFlag_dirFlag, PTree.reOf, hh.2 c hcn hcd]
    rw [readDirP, hh.1 d hd hdir, hsize, PTree.dirBytes, parse_dirBytes bs hbs (t.dirRecs d) (dirRecs_wf t hwf d hd)]
    show (if (t.selfRec d).name = [0] ∧ (t.selfRec d).loc = (t.ent d).loc ∧ (t.parRec d).name = [1] then
        walkRecs (fun q l z => readDirP img bs fuel q l z) img bs pre ((t.kids d).map t.recOf) else none) = _
    rw [if_pos ⟨rfl, rfl, rfl⟩, kids (t.kids d) (fun c hc => hc)]
    rfl

theorem padBlock_length (bs : Nat) (b : Bytes) : (padBlock bs b).length = b.length + (bs - b.length % bs) % bs := by
  simp [padBlock]

/-- the fill of a last block that holds `r > 0` bytes is shorter than a block -/
theorem fill_mod (bs r : Nat) (h : 0 < r) : (bs - r) % bs = bs - r := by
  rcases Nat.eq_zero_or_pos bs with rfl | h0
  · simp
  · exact Nat.mod_eq_of_lt (by omega)

theorem padBlock_length_blocks (bs : Nat) (hbs : 0 < bs) (b : Bytes) :
    (padBlock bs b).length = blocksFor b.length bs * bs := by
  have hm := Nat.mod_lt b.length hbs
  have hd := Nat.div_add_mod b.length bs
  rw [Nat.mul_comm] at hd
  rw [padBlock_length, blocksFor, Nat.add_mul]
  split
  · rename_i h
    rw [fill_mod bs _ h, Nat.one_mul]
    omega
  · have h0 : b.length % bs = 0 := by omega
    rw [h0] at hd
    rw [h0, Nat.sub_zero, Nat.mod_self]
    omega

theorem blocksFor_padBlock (bs : Nat) (hbs : 0 < bs) (b : Bytes) :
    blocksFor (padBlock bs b).length bs = blocksFor b.length bs := by
  rw [padBlock_length_blocks bs hbs, blocksFor_mul _ _ hbs]

-- `WrDisjoint` (Model/Iso/Image) unfolds to `Wr.Disj`, the relation `readAt_applyWrs_mem` is stated over
theorem read_padded (d : Dev) (ws : List Wr) (hd : ws.Pairwise WrDisjoint) (off bs : Nat) (b : Bytes)
    (hw : ⟨off, padBlock bs b⟩ ∈ ws) : readAt (applyWrs d ws) off b.length = b := by
  have h := readAt_applyWrs_mem d ws hd _ hw
  rw [← readAt_take_of_le _ _ _ _ (by rw [padBlock_length]; omega : b.length ≤ (padBlock bs b).length), h]
  simp [padBlock]

theorem extents_writes_disjoint (bs : Nat) (l : List ((Nat × Nat) × Bytes))
    (hp : l.Pairwise (fun a b => a.1.1 + a.1.2 ≤ b.1.1)) (hl : ∀ x ∈ l, x.2.length ≤ x.1.2 * bs) :
    (l.map fun x => (⟨x.1.1 * bs, x.2⟩ : Wr)).Pairwise WrDisjoint := by
  rw [List.pairwise_map]
  refine hp.imp_of_mem (fun {a b} ha _ hab => Or.inl ?_)
  have h := Nat.mul_le_mul_right bs hab
  have := hl a ha
  rw [Nat.add_mul] at h
  show a.1.1 * bs + a.2.length ≤ b.1.1 * bs
  omega

section
variable (i : ImageIn)

theorem ImageIn.dir_mem_mid {d : Nat} (hd : d ∈ i.dirs) :
    (⟨(i.t.ent d).loc * i.bs, padBlock i.bs (i.t.dirBytes i.bs d)⟩ : Wr) ∈ i.mid :=
  List.mem_append_left _ (List.mem_map.2 ⟨d, hd, rfl⟩)

theorem ImageIn.file_mem_mid {f : Nat} (hf : f ∈ i.files) :
    (⟨(i.t.ent f).loc * i.bs, padBlock i.bs (i.t.ent f).content⟩ : Wr) ∈ i.mid :=
  List.mem_append_right _ (List.mem_append_right _ (List.mem_map.2 ⟨f, hf, rfl⟩))

theorem ImageIn.ptL_mem_mid : (⟨i.pvd.ptL * i.bs, i.ptLBytes⟩ : Wr) ∈ i.mid :=
  List.mem_append_right _ (List.mem_append_left _ (List.mem_cons_self ..))

theorem ImageIn.ptM_mem_mid : (⟨i.pvd.ptM * i.bs, i.ptMBytes⟩ : Wr) ∈ i.mid :=
  List.mem_append_right _ (List.mem_append_left _ (List.mem_cons_of_mem _ (List.mem_cons_self ..)))

theorem ImageIn.mid_sub_writes {w : Wr} (hw : w ∈ i.mid) : w ∈ i.writes :=
  List.mem_cons_of_mem _ (List.mem_append_left _ hw)

theorem pvd_read_back (d0 : Dev) (hdisj : i.writes.Pairwise WrDisjoint) (hp : i.pvd.WF) :
    readAt (applyWrs d0 i.writes) (16 * i.bs) 2048 = encodePVD i.pvd :=
  encodePVD_length i.pvd hp ▸ readAt_applyWrs_mem d0 i.writes hdisj ⟨16 * i.bs, encodePVD i.pvd⟩
    (List.mem_cons_of_mem _ (List.mem_append_right _ (List.mem_cons_self ..)))

theorem writes_hold (d0 : Dev) (hdisj : i.writes.Pairwise WrDisjoint)
    (hdirs : ∀ d, d < i.t.n → (i.t.ent d).isDir = true → d ∈ i.dirs)
    (hfiles : ∀ c, c < i.t.n → (i.t.ent c).isDir = false → c ∈ i.files)
    (hsz : ∀ d ∈ i.dirs, (i.t.ent d).size = (i.t.dirBytes i.bs d).length)
    (hfsz : ∀ f ∈ i.files, (i.t.ent f).size = (i.t.ent f).content.length) :
    Holds (applyWrs d0 i.writes) i.bs i.t := by
  refine ⟨fun d hd hdir => ?_, fun c hc hfile => ?_⟩
  · have hm := hdirs d hd hdir
    rw [hsz d hm]
    exact read_padded d0 _ hdisj _ _ _ (i.mid_sub_writes (i.dir_mem_mid hm))
  · have hm := hfiles c hc hfile
    rw [hfsz c hm]
    exact read_padded d0 _ hdisj _ _ _ (i.mid_sub_writes (i.file_mem_mid hm))

/-- `unfold readImageP` exposes `readAt img off 2048` with the literal length, and the rewriting below is slow on
    it (this proof is the one slow step when the file is checked): it is done here once, and every result about
    the whole image goes through this theorem. -/
theorem reader_on_writes (d0 : Dev) (fuel : Nat) (hbs : 255 ≤ i.bs) (hwf : i.t.WF) (hp : i.pvd.WF)
    (hpbs : i.pvd.blocksize = i.bs) (hroot : i.pvd.root = i.t.selfRec 0) (h0 : 0 < i.t.n)
    (hrd : (i.t.ent 0).isDir = true)
    (hdirs : ∀ d, d < i.t.n → (i.t.ent d).isDir = true → d ∈ i.dirs)
    (hfiles : ∀ c, c < i.t.n → (i.t.ent c).isDir = false → c ∈ i.files)
    (hsz : ∀ d ∈ i.dirs, (i.t.ent d).size = (i.t.dirBytes i.bs d).length)
    (hfsz : ∀ f ∈ i.files, (i.t.ent f).size = (i.t.ent f).content.length)
    (hdisj : i.writes.Pairwise WrDisjoint) (hfit : i.t.Fits fuel 0) :
    readImageP (applyWrs d0 i.writes) (16 * i.bs) fuel = some (i.pvd, i.t.walk fuel [] 0) := by
  have hh := writes_hold i d0 hdisj hdirs hfiles hsz hfsz
  have := readDirP_walk _ i.bs hbs i.t hwf hh fuel [] 0 h0 hrd hfit
  unfold readImageP
  rw [pvd_read_back i d0 hdisj hp, decode_encodePVD i.pvd hp]
  show (if i.pvd.root.name = [0] then
    (readDirP _ i.pvd.blocksize fuel [] i.pvd.root.loc i.pvd.root.size).map _ else none) = _
  rw [hroot, hpbs, if_pos (show (i.t.selfRec 0).name = [0] from rfl)]
  exact congrArg (Option.map _) this

end

/-- By induction on the pieces rather than through `seqWr_offsets` and `seqAlloc_inside`: that route has to
    find a write's extent again in the zip of offsets and data. -/
theorem seqWr_inside (bs s : Nat) (ds : List Bytes) : ∀ w ∈ seqWr bs s ds,
    s * bs ≤ w.off ∧ w.off + blocksFor w.data.length bs * bs ≤ (s + (ds.map fun b => blocksFor b.length bs).sum) * bs := by
  induction ds generalizing s with
  | nil => intro w hw; cases hw
  | cons b r ih =>
    intro w hw
    rw [List.map_cons, List.sum_cons, ← Nat.add_assoc]
    rcases List.mem_cons.1 hw with rfl | hw
    · exact ⟨Nat.le_refl _, by rw [← Nat.add_mul]; exact Nat.mul_le_mul_right bs (Nat.le_add_right ..)⟩
    · exact ⟨Nat.le_trans (Nat.mul_le_mul_right bs (Nat.le_add_right ..)) (ih _ w hw).1, (ih _ w hw).2⟩

theorem seqWr_pairwise (bs : Nat) (hbs : 0 < bs) (s : Nat) (ds : List Bytes) :
    (seqWr bs s ds).Pairwise (fun a b => a.off + a.data.length ≤ b.off) := by
  induction ds generalizing s with
  | nil => exact List.Pairwise.nil
  | cons b r ih =>
    refine List.pairwise_cons.2 ⟨fun w hw => ?_, ih _⟩
    have h1 := (seqWr_inside bs (s + blocksFor b.length bs) r w hw).1
    have h2 := (blocksFor_covers b.length bs hbs).1
    rw [Nat.add_mul] at h1
    show s * bs + b.length ≤ w.off
    omega

/-- `seqWr` puts every piece where `seqAlloc` (the layout model of `layout_disjoint` / `layout_inside`)
    puts an extent of its block count -/
theorem seqWr_offsets (bs s : Nat) (ds : List Bytes) :
    (seqWr bs s ds).map (·.off) = (seqAlloc s (ds.map fun b => blocksFor b.length bs)).map (fun e => e.1 * bs) := by
  induction ds generalizing s with
  | nil => rfl
  | cons b r ih => simp [seqWr, seqAlloc, ih]

theorem seqWr_data (bs s : Nat) (ds : List Bytes) : (seqWr bs s ds).map (·.data) = ds := by
  induction ds generalizing s with
  | nil => rfl
  | cons b r ih => simp [seqWr, ih]

theorem terminator_length : terminator.length = 2048 := by
  rw [terminator, List.length_append, zeros_length]; rfl

/-- the writes of a plain image in the order of their offsets -/
def ImageIn.ordered (i : ImageIn) : List Wr :=
  ⟨0, zeros (16 * i.bs)⟩ :: ⟨16 * i.bs, encodePVD i.pvd⟩ :: ⟨17 * i.bs, terminator⟩ :: i.mid

section
variable (i : ImageIn) (hbs : 2048 ≤ i.bs) (hp : i.pvd.WF) (hpl : i.Placed)
include hbs hp hpl

/-- The whole image is ONE sequential layout from block 0: 16 blocks of system area, one block each for
    the descriptor and the terminator (2048 bytes in a block of at least that), then the pieces from
    block 18 on; its blocks are the declared volume.  What `seqWr` gives for the pieces (order, bounds)
    therefore holds of every write. -/
theorem ordered_seq :
    i.ordered = seqWr i.bs 0 (i.ordered.map (·.data)) ∧
    ((i.ordered.map (·.data)).map fun b => blocksFor b.length i.bs).sum = i.volBlocks := by
  simp only [ImageIn.ordered, List.map_cons, List.sum_cons, seqWr, zeros_length, encodePVD_length i.pvd hp, terminator_length,
    blocksFor_mul 16 i.bs (by omega), blocksFor_one 2048 i.bs (by decide) hbs, Nat.zero_mul, Nat.zero_add, ImageIn.volBlocks,
    dataStartSector]
  exact ⟨congrArg _ (congrArg _ (congrArg _ hpl)), by omega⟩

theorem placed_writes_disjoint : i.writes.Pairwise WrDisjoint :=
  (List.Perm.pairwise_iff Or.symm (.cons _ List.perm_append_comm)).2
    (show i.ordered.Pairwise WrDisjoint from
      (ordered_seq i hbs hp hpl).1 ▸ (seqWr_pairwise i.bs (by omega) 0 _).imp Or.inl)

theorem ordered_inside : ∀ x ∈ i.ordered, x.off + x.data.length ≤ i.volBlocks * i.bs := by
  obtain ⟨hseq, hsum⟩ := ordered_seq i hbs hp hpl
  intro x hx
  rw [hseq] at hx
  have := (seqWr_inside i.bs 0 _ x hx).2
  rw [hsum, Nat.zero_add] at this
  exact Nat.le_trans (Nat.add_le_add_left (blocksFor_covers _ _ (by omega)).1 _) this

end

theorem wr_zip (a : List Wr) : List.zipWith Wr.mk (a.map (·.off)) (a.map (·.data)) = a := by
  induction a with
  | nil => rfl
  | cons x xs ih => simp [ih]

/-- `Placed` is a statement about locations only: the offsets are those of the layout model -/
theorem placed_of_offsets (i : ImageIn)
    (h : i.mid.map (·.off) =
      (seqAlloc (dataStartSector + 2) ((i.mid.map (·.data)).map fun b => blocksFor b.length i.bs)).map (fun e => e.1 * i.bs)) :
    i.Placed := by
  rw [ImageIn.Placed, ← wr_zip (seqWr _ _ _), seqWr_offsets, seqWr_data, ← h, wr_zip]

end Diskfs.Iso
