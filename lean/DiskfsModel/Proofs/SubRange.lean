/-
  C03, Model/Ranges.lean.  The arithmetic of the GPT regions; and SubStorage (`subAbs`, `subSeek`): the nest is
  a pure translation by the sum of the window offsets; in-bounds calls through nested windows stay inside every
  enclosing window; a call that leaves the window is passed on unchanged (nothing in backend/substorage.go
  consults `size` for ReadAt / WriteAt).  What keeps a filesystem behind a window inside it is therefore the bound
  on its own writes (`sub_writes_inside`).
-/
import DiskfsModel.Model.Ranges
import DiskfsModel.Proofs.Bytes
namespace Diskfs.Ranges

/-- the sector products of the GPT layout (`q` sectors, `a` of them an entry array of `G` bytes), made linear -/
theorem gpt_products {lss size q a G : Nat} (hq : q * lss ≤ size) (hdiv : a * lss = G) (hs : 2 * a + 3 ≤ q) :
    (q - 1) * lss = (q - 1 - a) * lss + G ∧ (q - 1) * lss + lss ≤ size ∧
    (2 + a) * lss = 2 * lss + G ∧ (2 + a) * lss ≤ (q - 1 - a) * lss := by
  refine ⟨?_, ?_, by rw [Nat.add_mul, hdiv], Nat.mul_le_mul_right _ (by omega)⟩
  · rw [← hdiv, ← Nat.add_mul, Nat.sub_add_cancel (by omega)]
  · rw [← Nat.succ_mul, Nat.succ_eq_add_one, Nat.sub_add_cancel (by omega)]
    exact hq

/-- the protective MBR entry area is taken as written whether or not it is -/
theorem forall_mem_gptRegions {lss size : Nat} {pmbr : Bool} {P : Region → Prop}
    (h1 : P ⟨(size / lss - 1 - gptArrayBytes / lss) * lss, gptArrayBytes⟩) (h2 : P ⟨(size / lss - 1) * lss, lss⟩)
    (h3 : P ⟨2 * lss, gptArrayBytes⟩) (h4 : P ⟨lss, lss⟩) (h5 : P ⟨446, 66⟩) :
    ∀ r ∈ gptRegions lss size pmbr, P r := by
  intro r hr
  simp only [gptRegions, List.mem_append, List.mem_cons, List.not_mem_nil, or_false, List.mem_ite_nil_right] at hr
  rcases hr with (rfl | rfl | rfl | rfl) | ⟨_, rfl⟩ <;> assumption

/-- a component behind `backend.Sub` at `start` whose own writes end at or below `bound`: on the device every write
    lies in [start, start + bound), so no byte outside changes; and in any wider window -/
theorem sub_writes_inside (start bound : Nat) (ws : List Wr) (h : ∀ w ∈ ws, w.off + w.data.length ≤ bound) (d : Dev) :
    (∀ w ∈ ws.map (subWrite start), start ≤ w.off ∧ w.off + w.data.length ≤ start + bound) ∧
    (∀ i, i < start ∨ start + bound ≤ i → applyWrs d (ws.map (subWrite start)) i = d i) ∧
    ∀ size, bound ≤ size → ∀ w ∈ ws.map (subWrite start), start ≤ w.off ∧ w.off + w.data.length ≤ start + size := by
  have hin : ∀ size, bound ≤ size →
      ∀ w ∈ ws.map (subWrite start), start ≤ w.off ∧ w.off + w.data.length ≤ start + size := by
    intro size hle w hw
    obtain ⟨u, hu, rfl⟩ := List.mem_map.1 hw
    have := h u hu
    simp only [subWrite]
    omega
  exact ⟨hin bound (Nat.le_refl _), applyWrs_frame_range d _ start _ (hin bound (Nat.le_refl _)), hin⟩

def winSum (ws : List Win) : Nat := (ws.map (·.off)).sum

theorem winSum_cons (w : Win) (ws : List Win) : winSum (w :: ws) = w.off + winSum ws := by
  simp [winSum]

theorem subAbs_eq : ∀ (ws : List Win) (off : Int), subAbs ws off = off + (winSum ws : Int)
  | [], off => by simp [subAbs, winSum]
  | w :: ws, off => by
    rw [subAbs, subAbs_eq ws, winSum_cons]
    omega

/-- each window lies inside the one around it -/
def Nested : List Win → Prop
  | [] => True
  | [_] => True
  | a :: b :: rest => a.off + a.size ≤ b.size ∧ Nested (b :: rest)

/-- the device range [lo, hi) lies inside the device range of every window of the nest -/
def InsideAll : List Win → Int → Int → Prop
  | [], _, _ => True
  | w :: ws, lo, hi => (winSum (w :: ws) : Int) ≤ lo ∧ hi ≤ (winSum (w :: ws) : Int) + (w.size : Int) ∧ InsideAll ws lo hi

theorem insideAll_of_head (w : Win) (ws : List Win) (lo hi : Int) (hn : Nested (w :: ws))
    (h1 : (winSum (w :: ws) : Int) ≤ lo) (h2 : hi ≤ (winSum (w :: ws) : Int) + (w.size : Int)) :
    InsideAll (w :: ws) lo hi := by
  induction ws generalizing w with
  | nil => exact ⟨h1, h2, trivial⟩
  | cons b rest ih =>
    have := hn.1
    refine ⟨h1, h2, ih b hn.2 ?_ ?_⟩ <;> rw [winSum_cons] at h1 h2 <;> omega

theorem subSeek_start (devSize : Nat) : ∀ (ws : List Win) (upos offset : Int), 0 ≤ offset →
    subSeek devSize ws upos .start offset = some (offset + (winSum ws : Int), offset)
  | [], upos, offset, h => by
    simp only [subSeek, winSum, List.map_nil, List.sum_nil]
    split
    · omega
    · simp
  | w :: ws, upos, offset, h => by
    simp only [subSeek]
    rw [subSeek_start devSize ws upos (offset + (w.off : Int)) (by omega), winSum_cons]
    simp only [Option.map_some, Option.some.injEq, Prod.mk.injEq]
    constructor <;> omega

theorem subSeek_current (devSize : Nat) : ∀ (ws : List Win) (upos offset : Int), 0 ≤ upos + offset →
    subSeek devSize ws upos .current offset = some (upos + offset, upos + offset - (winSum ws : Int))
  | [], upos, offset, h => by
    simp only [subSeek, winSum, List.map_nil, List.sum_nil]
    split
    · omega
    · simp
  | w :: ws, upos, offset, h => by
    simp only [subSeek]
    rw [subSeek_current devSize ws upos offset h, winSum_cons]
    simp only [Option.map_some, Option.some.injEq, Prod.mk.injEq]
    exact ⟨trivial, by omega⟩

theorem subSeek_end (devSize : Nat) (w : Win) (ws : List Win) (upos offset : Int) (h : 0 ≤ (w.size : Int) + offset) :
    subSeek devSize (w :: ws) upos .«end» offset =
      some ((w.size : Int) + offset + (winSum (w :: ws) : Int), (w.size : Int) + offset) := by
  simp only [subSeek]
  rw [subSeek_start devSize ws upos _ (by omega), winSum_cons]
  simp only [Option.map_some, Option.some.injEq, Prod.mk.injEq]
  constructor <;> omega

end Diskfs.Ranges
