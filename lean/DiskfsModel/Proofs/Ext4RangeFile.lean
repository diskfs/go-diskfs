/-
  C03, ext4: every WriteAt of File.Write (Model/Ext4/FileIO.lean, the repaired loop) lies inside one extent of
  the file's extent list: for the loop entered at any position (`writeLoop_in_extents`, from `writeLoop_run`) and for
  the whole call (`writeE_in_extents`, from `writeE_ok`: what Props/C03.lean uses).
-/
import DiskfsModel.Proofs.Ext4FileWrite
namespace Diskfs.Ext4

/-- the write loop (repaired: skip test `≤`, cumulative stop test) over a contiguous extent list that holds
    the whole transfer: every WriteAt it issues lies inside one extent of the list -/
theorem writeLoop_in_extents (bs off0 : Nat) (b : Bytes) (hbs : 0 < bs) :
    ∀ (es : List Extent) (first off written : Nat) (ws : List (Int × Bytes)),
      Contig first es →
      first * bs ≤ off → off0 ≤ off →
      ((off = off0 ∧ written = 0) ∨ (off = first * bs ∧ written < b.length)) →
      written ≤ b.length →
      off + (b.length - written) ≤ first * bs + blockCount es * bs →
      ∃ ws', writeLoop false true bs (off0 / bs) b es off written ws =
          .ok ⟨ws ++ ws', b.length, off + (b.length - written)⟩ ∧
        ∀ w ∈ ws', InExtent bs es w := by
  intro es first off written ws hc hbase hoff0 hdisj hwl henough
  -- nothing written yet: `off0 / bs` is the block of `off`; else `off` is the start of block `first`, behind `off0`
  have hsb : ∀ n, first < n → (n ≤ off0 / bs ↔ n * bs ≤ off) := by
    intro n hn
    rw [Nat.le_div_iff_mul_le hbs]
    rcases hdisj with ⟨rfl, _⟩ | ⟨rfl, _⟩
    · exact Iff.rfl
    · have := Nat.mul_le_mul_right bs (Nat.succ_le_of_lt hn)
      rw [Nat.succ_mul] at this
      omega
  obtain ⟨ws', hr, hin, _⟩ := writeLoop_run bs (off0 / bs) b hbs es first off (off - first * bs) (b.length - written) written ws hc
    (by omega) hsb (by omega) (by omega)
  exact ⟨ws', hr, hin⟩

/-- File.Write when the extent list already holds the transfer (what it is after allocateExtents and
    extendExtentTree have run): accepted, and every WriteAt lies inside one extent of the file -/
theorem writeE_in_extents (bs : Nat) (es : List Extent) (size off : Nat) (b : Bytes)
    (hbs : 0 < bs) (hc : Contig 0 es)
    (hsz : size ≤ blockCount es * bs) (hfit : off + b.length ≤ blockCount es * bs) :
    ∃ r, writeE false true bs es size off b = .ok r ∧ ∀ w ∈ r.ws, InExtent bs es w := by
  obtain ⟨r, hr, _, _, _, hin, _⟩ := writeE_ok bs es size off b hbs hc hsz hfit
  exact ⟨r, hr, hin⟩

end Diskfs.Ext4
