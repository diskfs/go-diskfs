/-
  Codec lemmas for the GPT model: GUID byte order, UTF-16, the name field,
  partition entries, initEntry.
-/
import DiskfsModel.Model.Gpt
import DiskfsModel.Proofs.Bytes
namespace Diskfs.Gpt

theorem two64_eq : two64 = 256 ^ 8 := by decide
theorem two32_eq : two32 = 256 ^ 4 := by decide

theorem guidSwap_length (b : Bytes) (h : b.length = 16) : (guidSwap b).length = 16 := by
  simp [guidSwap, h]

theorem guid_split (b : Bytes) : b.take 4 ++ ((b.drop 4).take 2 ++ ((b.drop 6).take 2 ++ b.drop 8)) = b := by
  have h1 := List.take_append_drop 2 (b.drop 6)
  have h2 := List.take_append_drop 2 (b.drop 4)
  rw [List.drop_drop] at h1 h2
  rw [h1, h2, List.take_append_drop]

theorem guidSwap_append (a b c d : Bytes) (ha : a.length = 4) (hb : b.length = 2) (hc : c.length = 2) :
    guidSwap (a ++ (b ++ (c ++ d))) = a.reverse ++ (b.reverse ++ (c.reverse ++ d)) := by
  have e6 : a ++ (b ++ (c ++ d)) = (a ++ b) ++ (c ++ d) := by simp
  have e8 : a ++ (b ++ (c ++ d)) = (a ++ b ++ c) ++ d := by simp
  unfold guidSwap
  rw [List.take_left' ha, List.drop_left' ha, List.take_left' hb]
  rw [e6, List.drop_left' (by simp [ha, hb]), List.take_left' hc]
  rw [← e6, e8, List.drop_left' (by simp [ha, hb, hc]), List.append_assoc, List.append_assoc]

/-- each group is reversed in place, so swapping twice restores it -/
theorem guidSwap_invol (b : Bytes) (h : b.length = 16) : guidSwap (guidSwap b) = b := by
  conv => lhs; rw [← guid_split b]
  rw [guidSwap_append _ _ _ _ (by simp; omega) (by simp; omega) (by simp; omega),
    guidSwap_append _ _ _ _ (by simp; omega) (by simp; omega) (by simp; omega)]
  simp only [List.reverse_reverse]
  exact guid_split b

theorem allZero_guidSwap (b : Bytes) : allZero (guidSwap b) = allZero b := by
  conv => rhs; rw [← guid_split b]
  simp [allZero, guidSwap, List.all_append, List.all_reverse]

theorem allZero_zeros (n : Nat) : allZero (zeros n) = true := by
  simp [allZero, zeros]

theorem utf16Dec_single (u : Nat) (rest : List Nat) (h : u < 0xD800 ∨ 0xE000 ≤ u) :
    utf16Dec (u :: rest) = u :: utf16Dec rest := by
  cases rest with
  | nil =>
    have : ¬ (0xD800 ≤ u ∧ u < 0xE000) := by omega
    simp [utf16Dec, this]
  | cons v r => simp [utf16Dec, h]

theorem utf16Dec_pair (u v : Nat) (rest : List Nat) (hu : 0xD800 ≤ u ∧ u < 0xDC00) (hv : 0xDC00 ≤ v ∧ v < 0xE000) :
    utf16Dec (u :: v :: rest) = ((u - 0xD800) * 1024 + (v - 0xDC00) + 0x10000) :: utf16Dec rest := by
  have h1 : ¬ (u < 0xD800 ∨ 0xE000 ≤ u) := by omega
  simp [utf16Dec, h1, hu.2, hv.1, hv.2]

theorem utf16EncRune_valid (r : Nat) (hr : validRune r = true) :
    ((r < 0xD800 ∨ 0xE000 ≤ r) ∧ r < 0x10000 ∧ utf16EncRune r = [r]) ∨
    (0x10000 ≤ r ∧ r ≤ 0x10FFFF ∧
      utf16EncRune r = [0xD800 + (r - 0x10000) / 1024 % 1024, 0xDC00 + (r - 0x10000) % 1024]) := by
  simp only [validRune, Bool.or_eq_true, Bool.and_eq_true, decide_eq_true_eq] at hr
  by_cases hb : r < 0xD800 ∨ (0xE000 ≤ r ∧ r < 0x10000)
  · exact .inl ⟨by omega, by omega, by simp [utf16EncRune, hb]⟩
  · have hhi : 0x10000 ≤ r ∧ r ≤ 0x10FFFF := by omega
    exact .inr ⟨hhi.1, hhi.2, by simp [utf16EncRune, hb, hhi]⟩

/-- `utf16.Decode(utf16.Encode(rs)) = rs` for every sequence of valid runes -/
theorem utf16_roundtrip (rs : List Nat) (h : ∀ r ∈ rs, validRune r = true) : utf16Dec (utf16Enc rs) = rs := by
  induction rs with
  | nil => simp [utf16Enc, utf16Dec]
  | cons r rs ih =>
    have ih' := ih (fun x hx => h x (List.mem_cons_of_mem _ hx))
    simp only [utf16Enc, List.flatMap_cons] at ih' ⊢
    rcases utf16EncRune_valid r (h r (List.mem_cons_self ..)) with ⟨h1, _, e⟩ | ⟨h1, h2, e⟩
    · rw [e, List.singleton_append, utf16Dec_single r _ h1, ih']
    · rw [e, List.cons_append, List.singleton_append, utf16Dec_pair _ _ _ (by omega) (by omega), ih']
      congr 1
      omega

theorem utf16Enc_units (rs : List Nat) (h : ∀ r ∈ rs, validRune r = true ∧ r ≠ 0) :
    ∀ u ∈ utf16Enc rs, 0 < u ∧ u < 65536 := by
  intro u hu
  simp only [utf16Enc, List.mem_flatMap] at hu
  obtain ⟨r, hr, hu⟩ := hu
  rcases utf16EncRune_valid r (h r hr).1 with ⟨_, h2, e⟩ | ⟨_, _, e⟩ <;> rw [e] at hu
  · have := (h r hr).2
    simp only [List.mem_singleton] at hu
    omega
  · simp only [List.mem_cons, List.not_mem_nil, or_false] at hu
    omega

theorem utf16Enc_length_ge (rs : List Nat) : rs.length ≤ (utf16Enc rs).length := by
  rw [utf16Enc, List.flatMap_def]
  refine length_le_map_flatten _ _ fun r _ => ?_
  unfold utf16EncRune
  split
  · simp
  · split <;> simp

theorem unitsUntilZero_zeros (k : Nat) : unitsUntilZero (zeros k) = [] := by
  match k with
  | 0 => simp [zeros, unitsUntilZero]
  | 1 => simp [zeros, unitsUntilZero, List.replicate]
  | k + 2 => simp [zeros, unitsUntilZero, List.replicate]

theorem nameBytes_length (us : List Nat) : (nameBytes us).length = 2 * us.length := by
  rw [nameBytes, List.flatMap_def, map_flatten_length _ 2 (leEnc_length 2)]

theorem unitsUntilZero_nameBytes (us : List Nat) (k : Nat) (h : ∀ u ∈ us, 0 < u ∧ u < 65536) :
    unitsUntilZero (nameBytes us ++ zeros k) = us := by
  induction us with
  | nil => simpa [nameBytes] using unitsUntilZero_zeros k
  | cons u us ih =>
    have hu := h u (List.mem_cons_self ..)
    have ih' := ih (fun x hx => h x (List.mem_cons_of_mem _ hx))
    simp only [nameBytes, List.flatMap_cons] at ih' ⊢
    have e : leEnc 2 u = [UInt8.ofNat (u % 256), UInt8.ofNat (u / 256 % 256)] := by simp [leEnc]
    rw [e]
    simp only [List.cons_append, List.nil_append, unitsUntilZero]
    have h1 : (UInt8.ofNat (u % 256)).toNat + 256 * (UInt8.ofNat (u / 256 % 256)).toNat = u := by
      simp [UInt8.toNat_ofNat']
      omega
    rw [h1]
    have : u ≠ 0 := by omega
    simp [this, ih']

/-- `b` holds the byte strings `fs` one after the other from offset `o` on -/
def SlicesAt (b : Bytes) : Nat → List Bytes → Prop
  | _, [] => True
  | o, f :: fs => slice b o (o + f.length) = f ∧ SlicesAt b (o + f.length) fs

theorem slicesAt_flatten : ∀ (fs : List Bytes) (pre : Bytes), SlicesAt (pre ++ fs.flatten) pre.length fs
  | [], _ => trivial
  | f :: fs, pre => by
    have h := slicesAt_flatten fs (pre ++ f)
    rw [List.length_append, List.append_assoc] at h
    exact ⟨by rw [List.flatten_cons, slice_mid pre f fs.flatten _ _ rfl rfl], by rwa [List.flatten_cons]⟩

/-- A record given as the list of its fields holds each of them at its offset: for a concrete list
    `simp only [SlicesAt, <the fields' lengths>, Nat.reduceAdd]` turns this into one equation per field. -/
theorem SlicesAt.of_flatten {b : Bytes} {fs : List Bytes} (h : b = fs.flatten) : SlicesAt b 0 fs :=
  h ▸ slicesAt_flatten fs []

theorem put_field (r : Bytes) (pre : List Bytes) (f : Bytes) (post : List Bytes) (off : Nat) (d : Bytes)
    (hr : r = (pre ++ f :: post).flatten) (h1 : pre.flatten.length = off) (h2 : d.length = f.length) :
    put r off d = (pre ++ d :: post).flatten := by
  subst hr h1
  rw [List.flatten_append, List.flatten_append, List.flatten_cons, List.flatten_cons, put, List.take_left' rfl,
    List.take_of_length_le (by simp; omega), h2, ← List.length_append, ← List.append_assoc, List.drop_left' rfl,
    List.append_assoc]

/-- what `Write` may be given for a used entry: 16-byte GUIDs, a non-zero type, 64-bit fields,
    a name of valid non-NUL runes that fits the 36 UTF-16 units of the name field -/
structure EntryWF (p : Part) : Prop where
  typ_len : p.typ.length = 16
  guid_len : p.guid.length = 16
  used : allZero p.typ = false
  start_lt : p.start < two64
  end_lt : p.end_ < two64
  attrs_lt : p.attrs < two64
  runes : ∀ r ∈ p.name, validRune r = true ∧ r ≠ 0
  units : (utf16Enc p.name).length ≤ 36

/-- the size the reader derives from start / end -/
def sizeOf (start end_ lss : Nat) : Nat := u64 (u64 (u64sub end_ start + 1) * lss)

theorem entryEnc_unused (c : Cfg) (p : Part) (h : allZero p.typ = true) : entryEnc c p = .ok (zeros 128) := by
  simp [entryEnc, h]

theorem entryEnc_ok (c : Cfg) (p : Part) (h : EntryWF p) :
    entryEnc c p = .ok (guidSwap p.typ ++ guidSwap p.guid ++ leEnc 8 p.start ++ leEnc 8 p.end_ ++ leEnc 8 p.attrs
        ++ padTo 72 (nameBytes (utf16Enc p.name))) := by
  unfold entryEnc
  have h1 := utf16Enc_length_ge p.name
  have h2 := h.units
  have h3 : ¬ (p.name.length > 36) := by omega
  have h4 : ¬ ((utf16Enc p.name).length > 36) := by omega
  simp [h.used, h3, h4]

theorem padTo_nameBytes_length (us : List Nat) (h : us.length ≤ 36) : (padTo 72 (nameBytes us)).length = 72 := by
  simp [padTo, nameBytes_length]
  omega

theorem entryDec_entryEnc (c : Cfg) (p : Part) (i lss : Nat) (h : EntryWF p) :
    ∃ b, entryEnc c p = .ok b ∧ b.length = 128 ∧
      entryDec i b lss = some { p with index := i, size := sizeOf p.start p.end_ lss } := by
  have l1 := guidSwap_length _ h.typ_len
  have l2 := guidSwap_length _ h.guid_len
  have l6 := padTo_nameBytes_length _ h.units
  refine ⟨_, entryEnc_ok c p h, by simp [l1, l2, l6], ?_⟩
  have hs := h.start_lt; have he := h.end_lt; have ha := h.attrs_lt
  rw [two64_eq] at hs he ha
  generalize hN : padTo 72 (nameBytes (utf16Enc p.name)) = N at l6
  have e : guidSwap p.typ ++ guidSwap p.guid ++ leEnc 8 p.start ++ leEnc 8 p.end_ ++ leEnc 8 p.attrs ++ N
      = [guidSwap p.typ, guidSwap p.guid, leEnc 8 p.start, leEnc 8 p.end_, leEnc 8 p.attrs, N].flatten := by simp
  have H := SlicesAt.of_flatten e
  simp only [SlicesAt, l1, l2, leEnc_length, l6, Nat.reduceAdd] at H
  obtain ⟨s0, s1, s2, s3, s4, s5, _⟩ := H
  unfold entryDec
  rw [s0, s1, s2, s3, s4, s5]
  rw [allZero_guidSwap, h.used, if_neg Bool.false_ne_true, guidSwap_invol _ h.typ_len, guidSwap_invol _ h.guid_len,
    leDec_leEnc_of_lt 8 _ hs, leDec_leEnc_of_lt 8 _ he, leDec_leEnc_of_lt 8 _ ha, ← hN]
  unfold padTo
  rw [unitsUntilZero_nameBytes _ _ (utf16Enc_units p.name h.runes),
    utf16_roundtrip p.name (fun r hr => (h.runes r hr).1)]
  rfl

theorem entryDec_entryEnc_exact (c : Cfg) (p : Part) (lss : Nat) (h : EntryWF p) (hz : p.size = sizeOf p.start p.end_ lss) :
    ∃ b, entryEnc c p = .ok b ∧ b.length = 128 ∧ entryDec p.index b lss = some p := by
  obtain ⟨b, hb, hlen, hd⟩ := entryDec_entryEnc c p p.index lss h
  exact ⟨b, hb, hlen, by rw [hd, ← hz]⟩

theorem entryDec_zeros (i lss : Nat) : entryDec i (zeros 128) lss = none := by
  unfold entryDec
  have : slice (zeros 128) 0 16 = zeros 16 := by simp [slice, zeros]
  rw [this, allZero_zeros]
  simp

theorem initEntry_used (p : Part) (bs : Nat) (hu : allZero p.typ = false) :
    initEntry p bs =
      if p.start = 0 then none
      else if p.end_ ≥ p.start ∧ p.size = sizeOf p.start p.end_ bs then some p
      else if p.size = 0 ∧ p.end_ ≥ p.start then some { p with size := sizeOf p.start p.end_ bs }
      else if p.size > 0 ∧ p.size % bs = 0 ∧ p.start > 0 ∧ p.end_ = 0 then
        some { p with end_ := u64sub (u64 (p.start + p.size / bs)) 1 }
      else none := by
  unfold initEntry
  rw [hu]
  rfl

theorem initEntry_some (p p' : Part) (bs : Nat) (h : initEntry p bs = some p') :
    (allZero p.typ = true ∧ p' = p) ∨ (allZero p.typ = false ∧ p.start ≠ 0 ∧
      ((p.size = sizeOf p.start p.end_ bs ∧ p' = p) ∨
       p' = { p with size := sizeOf p.start p.end_ bs } ∨
       (0 < p.size ∧ p.size % bs = 0 ∧ p' = { p with end_ := u64sub (u64 (p.start + p.size / bs)) 1 }))) := by
  cases hu : allZero p.typ with
  | true => simp [initEntry, hu] at h; exact .inl ⟨rfl, h.symm⟩
  | false =>
    rw [initEntry_used p bs hu] at h
    split at h
    · cases h
    · rename_i h0
      refine .inr ⟨rfl, h0, ?_⟩
      split at h
      · rename_i h1; cases h; exact .inl ⟨h1.2, rfl⟩
      · split at h
        · cases h; exact .inr (.inl rfl)
        · split at h
          · rename_i h3; cases h; exact .inr (.inr ⟨h3.1, h3.2.1, rfl⟩)
          · cases h

theorem initEntry_fields (p p' : Part) (bs : Nat) (h : initEntry p bs = some p') :
    p'.index = p.index ∧ p'.start = p.start ∧ p'.typ = p.typ ∧ p'.guid = p.guid ∧ p'.attrs = p.attrs ∧ p'.name = p.name := by
  rcases initEntry_some p p' bs h with ⟨_, e⟩ | ⟨_, _, ⟨_, e⟩ | e | ⟨_, _, e⟩⟩ <;> subst e <;> simp

/-- uint64 arithmetic: holds also when `s + q` wraps -/
theorem sizeOf_computed_end (s q bs : Nat) (hq : q * bs < two64) (hbs : 0 < bs) :
    sizeOf s (u64sub (u64 (s + q)) 1) bs = q * bs := by
  have hqlt : q < two64 := by
    have : q ≤ q * bs := Nat.le_mul_of_pos_right q hbs
    omega
  have key : u64 (u64sub (u64sub (u64 (s + q)) 1) s + 1) = q := by
    simp only [u64, u64sub, two64] at *
    omega
  rw [sizeOf, key]
  exact Nat.mod_eq_of_lt hq

theorem initEntry_consistent (p p' : Part) (bs : Nat) (hbs : 0 < bs) (hu : allZero p.typ = false)
    (hs : p.start < two64) (he : p.end_ < two64) (hz : p.size < two64)
    (h : initEntry p bs = some p') :
    p'.start ≠ 0 ∧ p'.end_ < two64 ∧ p'.size = sizeOf p'.start p'.end_ bs := by
  rcases initEntry_some p p' bs h with ⟨hz', _⟩ | ⟨_, h0, ⟨h1, e⟩ | e | ⟨_, hmod, e⟩⟩
  · rw [hu] at hz'; cases hz'
  · subst e; exact ⟨h0, he, h1⟩
  · subst e; exact ⟨h0, he, rfl⟩
  · subst e
    have hq : p.size / bs * bs = p.size := Nat.div_mul_cancel (Nat.dvd_of_mod_eq_zero hmod)
    refine ⟨h0, Nat.mod_lt _ (by decide), ?_⟩
    rw [sizeOf_computed_end p.start (p.size / bs) bs (by rw [hq]; exact hz) hbs, hq]

theorem initEntry_wf (p p' : Part) (bs : Nat) (hbs : 0 < bs) (h : EntryWF p) (hz : p.size < two64)
    (hi : initEntry p bs = some p') : EntryWF p' ∧ p'.size = sizeOf p'.start p'.end_ bs := by
  obtain ⟨_, hst, hty, hgu, hat, hnm⟩ := initEntry_fields p p' bs hi
  obtain ⟨_, hend, hsz⟩ := initEntry_consistent p p' bs hbs h.used h.start_lt h.end_lt hz hi
  exact ⟨⟨hty ▸ h.typ_len, hgu ▸ h.guid_len, hty ▸ h.used, hst ▸ h.start_lt, hend, hat ▸ h.attrs_lt,
    hnm ▸ h.runes, hnm ▸ h.units⟩, hsz⟩

end Diskfs.Gpt
