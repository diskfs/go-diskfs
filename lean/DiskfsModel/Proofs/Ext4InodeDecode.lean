/-
  The mirror of inodeFromBytes (Model/Ext4/InodeDecode.lean goDecode / goCsumOk) against the SPEC decoder
  (ImageSpec.readInode = specInode over the bytes of the record): words of the image as words of its byte lists,
  the checksum over a range of the image as crc32c of its bytes, the record padded to 256 bytes and the words of
  the extra area read from it.
-/
import DiskfsModel.Model.Ext4.InodeDecode
import DiskfsModel.Proofs.MetaCodec
import DiskfsModel.Proofs.Bytes
namespace Diskfs.Ext4.InodeDec
open Diskfs Diskfs.Ext4.Reader Diskfs.Ext4.InodeCodec Diskfs.Ext4.Spec

theorem bytes_length (i : Img) (off len : Nat) : (i.bytes off len).length = len :=
  readAt_length i.byte off len

theorem bytes_getElem? (i : Img) (off len k : Nat) (h : k < len) :
    (i.bytes off len)[k]? = some (i.byte (off + k)) := by
  simp [Img.bytes, List.getElem?_map, List.getElem?_range h]

theorem slice_bytes (i : Img) (off len k w : Nat) (h : k + w ≤ len) :
    slice (i.bytes off len) k (k + w) = i.bytes (off + k) w := by
  -- `i.bytes off len` is `readAt i.byte off len`, by definition
  rw [show i.bytes off len = readAt i.byte off len from rfl, slice_readAt _ _ _ _ _ (Nat.le_add_right ..) h,
    Nat.add_sub_cancel_left]
  rfl

theorem take_bytes (i : Img) (o n m : Nat) (h : m ≤ n) : (i.bytes o n).take m = i.bytes o m :=
  readAt_take_of_le i.byte o n m h

theorem le16_bytes (i : Img) (off len k : Nat) (h : k + 2 ≤ len) :
    le16 (i.bytes off len) k = i.u16 (off + k) := by
  unfold le16
  rw [slice_bytes i off len k 2 h]
  simp [Img.bytes, Img.u16, Img.u8, leDec, List.range_succ, Nat.add_assoc]

theorem le32_bytes (i : Img) (off len k : Nat) (h : k + 4 ≤ len) :
    le32 (i.bytes off len) k = i.u32 (off + k) := by
  unfold le32
  rw [slice_bytes i off len k 4 h]
  simp [Img.bytes, Img.u32, Img.u16, Img.u8, leDec, List.range_succ, Nat.add_assoc]
  omega

theorem crcRange_eq (i : Img) (zero : Nat → Bool) : ∀ (n off : Nat) (c : UInt32),
    i.crcRange zero off n c =
      crc32c c ((List.range n).map fun k => if zero (off + k) then 0 else i.byte (off + k)) := by
  intro n
  induction n with
  | zero => intro off c; simp [Img.crcRange, crc32c]
  | succ n ih =>
    intro off c
    rw [Img.crcRange, ih, List.range_succ_eq_map]
    simp only [crc32c, List.map_cons, List.foldl_cons, List.map_map, Nat.add_zero]
    congr 1
    apply List.map_congr_left
    intro k _
    simp only [Function.comp]
    rw [show off + 1 + k = off + (k + 1) by omega]

theorem crcRange_mapIdx (i : Img) (zero : Nat → Bool) (o n : Nat) (c : UInt32) :
    i.crcRange zero o n c = crc32c c ((i.bytes o n).mapIdx fun k x => if zero (o + k) then 0 else x) := by
  rw [crcRange_eq]
  congr 1
  apply List.ext_getElem?
  intro k
  rw [List.getElem?_mapIdx]
  by_cases hk : k < n
  · rw [List.getElem?_map, List.getElem?_range hk, bytes_getElem? i o n k hk]
    simp
  · rw [List.getElem?_eq_none (by simp; omega), List.getElem?_eq_none (by rw [bytes_length]; omega)]
    rfl

theorem crcRange_bytes (i : Img) (o n : Nat) (c : UInt32) :
    i.crcRange (fun _ => false) o n c = crc32c c (i.bytes o n) := by
  rw [crcRange_eq]
  rfl

theorem pad256_long (b : Bytes) (h : 256 ≤ b.length) : pad256 b = b := by
  unfold pad256; rw [if_neg (by omega)]

theorem slice_pad256 (raw : Bytes) (lo hi : Nat) (h : hi ≤ raw.length) :
    slice (pad256 raw) lo hi = slice raw lo hi := by
  unfold pad256
  split
  · exact slice_append_left raw _ lo hi h
  · rfl

theorem le16_pad256 (raw : Bytes) (o : Nat) (h : o + 2 ≤ raw.length) : le16 (pad256 raw) o = le16 raw o := by
  unfold le16; rw [slice_pad256 raw o (o + 2) h]

theorem le32_pad256 (raw : Bytes) (o : Nat) (h : o + 4 ≤ raw.length) : le32 (pad256 raw) o = le32 raw o := by
  unfold le32; rw [slice_pad256 raw o (o + 4) h]

theorem le32_pad256_beyond (raw : Bytes) (o : Nat) (h1 : raw.length ≤ o) (h2 : o + 4 ≤ 256) :
    le32 (pad256 raw) o = 0 := by
  unfold le32 pad256
  rw [if_pos (by omega), slice_append_right _ _ _ _ h1]
  simp only [slice, zeros, List.drop_replicate, List.take_replicate]
  exact leDec_zeros _

theorem fitsIn_mono (isz e a c : Nat) (hac : a ≤ c) (h : fitsIn isz e c = true) : fitsIn isz e a = true := by
  simp only [fitsIn, Bool.and_eq_true, decide_eq_true_eq] at h ⊢
  omega

/-- a word of the extra area as the mirror takes it from the padded record is the word the format defines (zero
    where i_extra_isize does not reach it): for the repaired reader always; as found on 128-byte inodes, where
    it reads the padding, and where i_extra_isize covers all the timestamp words.  `132 ≤ isz`: the i_extra_isize
    word at 0x80 lies inside the record (130 would do; inode sizes are multiples of 4) -/
theorem goExtraWord_pad256 (guarded : Bool) (isz : Nat) (raw : Bytes) (hl : raw.length = isz)
    (hisz : isz = 128 ∨ 132 ≤ isz)
    (hfit : guarded = true ∨ isz = 128 ∨ (0x98 ≤ 128 + le16 raw 0x80 ∧ 0x98 ≤ isz))
    (o : Nat) (h1 : 128 ≤ o) (h2 : o + 4 ≤ 0x98) :
    goExtraWord guarded isz (pad256 raw) o =
      if fitsIn isz (if isz > 128 then le16 raw 0x80 else 0) (o + 4) then le32 raw o else 0 := by
  unfold goExtraWord
  rcases hisz with h128 | h132
  · have hf : ∀ e, fitsIn isz e (o + 4) = false := fun e => by simp [fitsIn, h128]
    rw [hf, hf, le32_pad256_beyond raw o (by omega) (by omega)]
    simp
  · rw [le16_pad256 raw 0x80 (by omega), if_pos (by omega : isz > 128)]
    cases hc : fitsIn isz (le16 raw 0x80) (o + 4)
    · have hg : guarded = true := by
        rcases hfit with hg | h | h
        · exact hg
        · omega
        · exact absurd hc (by simp [fitsIn]; omega)
      simp [hg]
    · simp only [fitsIn, Bool.and_eq_true, decide_eq_true_eq] at hc
      rw [le32_pad256 raw o (by omega)]
      simp

/-- the repaired reader takes every word of the extra area that ends at or before 0x98 when i_extra_isize reaches
    that far (as found it takes them all) -/
theorem extraWord_taken (guarded : Bool) (isz extra fe : Nat) (hx : guarded = false ∨ 0x98 ≤ 128 + extra)
    (hi : 0x98 ≤ isz) (hf : fe ≤ 0x98) : (guarded && !fitsIn isz extra fe) = false := by
  rcases hx with hg | hg
  · simp [hg]
  · have : fitsIn isz extra fe = true := by
      simp only [fitsIn, Bool.and_eq_true, decide_eq_true_eq]; omega
    simp [this]

/-- a word of the extra area that i_extra_isize reaches lies inside the record -/
theorem fitsIn_le32_bytes (i : Img) (o isz extra fo : Nat) :
    (if fitsIn isz extra (fo + 4) = true then le32 (i.bytes o isz) fo else 0) =
    (if fitsIn isz extra (fo + 4) = true then i.u32 (o + fo) else 0) := by
  split
  · rename_i h
    simp only [fitsIn, Bool.and_eq_true, decide_eq_true_eq] at h
    rw [le32_bytes i o isz fo h.2]
  · rfl

theorem tsDec_zero : tsDec 0 0 = ⟨0, 0⟩ := by decide

theorem tsDec_mod (t : Ts) (h : TsWF t) : tsDec (tsLo t % 4294967296) (tsExtra t % 4294967296) = t := by
  rw [Nat.mod_eq_of_lt (tsLo_lt t), Nat.mod_eq_of_lt (tsExtra_lt t)]
  exact ts_roundtrip_aux t h

end Diskfs.Ext4.InodeDec
