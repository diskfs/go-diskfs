/-
  The mirror of the ext4 read side (Model/Ext4/Reader.lean), in five parts: fields of concatenated buffers and a
  field as its bytes; records of little-endian fields (an encoded record holds its fields, `holdsAt_enc`: the reads
  of group descriptors, inode records, directory and xattr entries come from it); a block looked up in the flattened
  list of a well-formed extent tree against the search of the tree by key (`children_flat`, `treeWF_flat`); the
  directory entry encoding and one turn of the rec_len walk on it; inversion of the `Res` combinators the hash-tree
  walk is written with.
-/
import DiskfsModel.Model.Ext4.Reader
import DiskfsModel.Proofs.Bytes
namespace Diskfs.Ext4.Reader

/-! ### fields of concatenated buffers, a field as its bytes -/

theorem le16_append_left (a b : Bytes) (o : Nat) (h : o + 2 ≤ a.length) : le16 (a ++ b) o = le16 a o := by
  unfold le16; rw [slice_append_left a b o (o + 2) h]

theorem le32_append_left (a b : Bytes) (o : Nat) (h : o + 4 ≤ a.length) : le32 (a ++ b) o = le32 a o := by
  unfold le32; rw [slice_append_left a b o (o + 4) h]

theorem u8_append_left (a b : Bytes) (o : Nat) (h : o < a.length) : u8 (a ++ b) o = u8 a o := by
  unfold u8
  simp [List.getD_eq_getElem?_getD, List.getElem?_append_left h]

theorem u8_shift (pre l : Bytes) (k : Nat) : u8 (pre ++ l) (pre.length + k) = u8 l k := by
  unfold u8
  simp [List.getD_eq_getElem?_getD, List.getElem?_append_right]

theorem le32_shift (pre l : Bytes) (k : Nat) : le32 (pre ++ l) (pre.length + k) = le32 l k := by
  unfold le32; rw [Nat.add_assoc, slice_shift]

theorem leDec_slice_succ (b : Bytes) (o k : Nat) (h : o < b.length) :
    leDec (slice b o (o + (k + 1))) = u8 b o + 256 * leDec (slice b (o + 1) (o + 1 + k)) := by
  unfold u8 slice
  rw [List.drop_eq_getElem_cons h, Nat.add_sub_cancel_left, Nat.add_sub_cancel_left, List.take_succ_cons, leDec,
    List.getD_eq_getElem?_getD, List.getElem?_eq_getElem h, Option.getD_some]

theorem u8_eq_leDec (b : Bytes) (o : Nat) (h : o < b.length) : u8 b o = leDec (slice b o (o + 1)) := by
  rw [leDec_slice_succ b o 0 h, Nat.add_zero, slice, Nat.sub_self, List.take_zero, leDec, Nat.mul_zero, Nat.add_zero]

theorem le32_eq_u8s (b : Bytes) (o : Nat) (h : o + 4 ≤ b.length) :
    le32 b o = u8 b o + 256 * (u8 b (o + 1) + 256 * (u8 b (o + 2) + 256 * u8 b (o + 3))) := by
  rw [le32, leDec_slice_succ b o 3 (by omega), leDec_slice_succ b (o + 1) 2 (by omega),
    leDec_slice_succ b (o + 1 + 1) 1 (by omega), ← u8_eq_leDec b (o + 1 + 1 + 1) (by omega)]

/-! ### records of little-endian fields -/

/-- a record as a list of (width in bytes, value): its on-disk bytes -/
def encFields : List (Nat × Nat) → Bytes
  | [] => []
  | (w, v) :: fs => leEnc w v ++ encFields fs

theorem encFields_length : ∀ fs : List (Nat × Nat), (encFields fs).length = (fs.map Prod.fst).sum
  | [] => rfl
  | (w, v) :: fs => by simp [encFields, encFields_length fs]

/-- `b` holds the words `fs` (width, value modulo the width) one after the other from offset `o` on -/
def HoldsAt (b : Bytes) : Nat → List (Nat × Nat) → Prop
  | _, [] => True
  | o, (w, v) :: fs => leDec (slice b o (o + w)) = v % 256 ^ w ∧ HoldsAt b (o + w) fs

/-- For a concrete field list `simp only [HoldsAt, Nat.reduceAdd, Nat.reducePow]` turns this into one equation per
    field, at its offset. -/
theorem holdsAt_enc : ∀ (fs : List (Nat × Nat)) (pre tail : Bytes),
    HoldsAt (pre ++ (encFields fs ++ tail)) pre.length fs
  | [], _, _ => trivial
  | (w, v) :: fs, pre, tail => by
    have h := holdsAt_enc fs (pre ++ leEnc w v) tail
    rw [List.length_append, leEnc_length, List.append_assoc] at h
    refine ⟨?_, by rwa [encFields, List.append_assoc]⟩
    rw [encFields, List.append_assoc,
      slice_mid pre (leEnc w v) (encFields fs ++ tail) _ _ rfl (by rw [leEnc_length]), leDec_leEnc]

/-! ### the flattened list of an extent tree against the search by key -/

/-- every extent of the list lies inside `[lo, hi)` -/
def extsIn (es : List Extent) (lo hi : Nat) : Prop :=
  ∀ e ∈ es, lo ≤ e.fileBlock ∧ e.fileBlock + e.count ≤ hi

theorem extsIn_mono {es : List Extent} {lo hi lo' hi' : Nat} (h : extsIn es lo hi)
    (h1 : lo' ≤ lo) (h2 : hi ≤ hi') : extsIn es lo' hi' := by
  intro e he
  have := h e he
  omega

theorem leafLookup_none_of_forall (l : List Extent) (q : Nat)
    (h : ∀ a ∈ l, ¬ (a.fileBlock ≤ q ∧ q < a.fileBlock + a.count)) : leafLookup l q = none := by
  unfold leafLookup
  rw [List.find?_eq_none.2 fun a ha => by simpa using h a ha]

theorem leafLookup_none_of_outside {es : List Extent} {lo hi lb : Nat} (h : extsIn es lo hi)
    (hlb : lb < lo ∨ hi ≤ lb) : leafLookup es lb = none :=
  leafLookup_none_of_forall es lb fun e he => by have := h e he; omega

theorem leafLookup_cons_miss (a : Extent) (as : List Extent) (q : Nat)
    (h : ¬ (a.fileBlock ≤ q ∧ q < a.fileBlock + a.count)) : leafLookup (a :: as) q = leafLookup as q := by
  unfold leafLookup
  rw [List.find?_cons_of_neg (by simpa using h)]

theorem leafLookup_cons_hit (a : Extent) (as : List Extent) (q : Nat)
    (h : a.fileBlock ≤ q ∧ q < a.fileBlock + a.count) :
    leafLookup (a :: as) q = some (a.start + (q - a.fileBlock)) := by
  unfold leafLookup
  rw [List.find?_cons_of_pos (by simpa using h)]

theorem leafLookup_append (a b : List Extent) (lb : Nat) :
    leafLookup (a ++ b) lb = (leafLookup a lb).orElse (fun _ => leafLookup b lb) := by
  unfold leafLookup
  rw [List.find?_append]
  cases h : a.find? (fun e => decide (e.fileBlock ≤ lb ∧ lb < e.fileBlock + e.count)) <;> simp

/-- children carry ascending keys and each child satisfies `P` on its key interval -/
def childrenWF {α : Type} (P : α → Nat → Nat → Prop) : List (Nat × α) → Nat → Prop
  | [], _ => True
  | [(k, t)], hi => P t k hi
  | (k, t) :: (k', t') :: rest, hi => k < k' ∧ P t k k' ∧ childrenWF P ((k', t') :: rest) hi

/-- One induction over the children of an index node (keys ascending, none above `hi`, each child's list `M a`
    inside its key interval and looked up as `look a` does): the concatenated lists lie between the first key and
    `hi`, and a lookup in them is the search by key.  `lb` falls into at most one key interval; the lists of the other
    children map nothing there. -/
theorem children_flat {α : Type} (M : α → List Extent) (look : α → Nat → Option Nat) (P : α → Nat → Nat → Prop)
    (lb : Nat) (hP : ∀ a lo hi, P a lo hi → extsIn (M a) lo hi ∧ leafLookup (M a) lb = look a lb) :
    ∀ (cs : List (Nat × α)) (k : Nat) (t : α) (hi : Nat), (∀ c ∈ (k, t) :: cs, c.1 ≤ hi) →
      childrenWF P ((k, t) :: cs) hi →
      extsIn (((k, t) :: cs).flatMap fun c => M c.2) k hi ∧
      leafLookup (((k, t) :: cs).flatMap fun c => M c.2) lb = childLookup look ((k, t) :: cs) lb := by
  intro cs
  induction cs with
  | nil =>
    intro k t hi _ hwf
    obtain ⟨hin, hl⟩ := hP t k hi hwf
    simp only [List.flatMap_cons, List.flatMap_nil, List.append_nil, childLookup]
    refine ⟨hin, ?_⟩
    split
    · exact hl
    · exact leafLookup_none_of_outside hin (by omega)
  | cons c rest ih =>
    intro k t hi hhi ⟨hlt, hpt, hrest⟩
    obtain ⟨k', t'⟩ := c
    obtain ⟨hin, hl⟩ := hP t k k' hpt
    obtain ⟨hin', hl'⟩ := ih k' t' hi (fun c hc => hhi c (List.mem_cons_of_mem _ hc)) hrest
    have hk' : k' ≤ hi := hhi (k', t') (List.mem_cons_of_mem _ (List.mem_cons_self ..))
    rw [List.flatMap_cons, leafLookup_append]
    refine ⟨fun e he => ?_, ?_⟩
    · rcases List.mem_append.1 he with h | h
      · exact extsIn_mono hin (Nat.le_refl _) hk' e h
      · exact extsIn_mono hin' (Nat.le_of_lt hlt) (Nat.le_refl _) e h
    · simp only [childLookup]
      split
      · -- lb ∈ [k, k'): the remaining children start at k'
        rw [leafLookup_none_of_outside hin' (by omega), hl]
        cases look t lb <;> rfl
      · rw [leafLookup_none_of_outside hin (by omega), ← hl']
        rfl

/-- well-formed tree: leaf extents inside the node's interval; index keys ascending and all inside `[lo, hi]`,
    every child well-formed on its key interval -/
def TreeWF : (d : Nat) → TreeD d → Nat → Nat → Prop
  | 0, es, lo, hi => extsIn es lo hi
  | _ + 1, Sum.inl es, lo, hi => extsIn es lo hi
  | d + 1, Sum.inr cs, lo, hi =>
    (∀ c ∈ cs, lo ≤ c.1) ∧ (∀ c ∈ cs, c.1 ≤ hi) ∧ childrenWF (TreeWF d) cs hi

theorem treeWF_flat (lb : Nat) : ∀ (d : Nat) (t : TreeD d) (lo hi : Nat), TreeWF d t lo hi →
    extsIn (mirrorBlocks d t) lo hi ∧ leafLookup (mirrorBlocks d t) lb = specLookup d t lb := by
  intro d
  induction d with
  | zero => intro t lo hi h; exact ⟨h, rfl⟩
  | succ d ih =>
    intro t lo hi h
    cases t with
    | inl es => exact ⟨h, rfl⟩
    | inr cs =>
      obtain ⟨hlo, hhi, hwf⟩ := h
      cases cs with
      | nil => exact ⟨nofun, rfl⟩
      | cons c cs =>
        obtain ⟨hin, hl⟩ := children_flat (mirrorBlocks d) (specLookup d) (TreeWF d) lb ih cs c.1 c.2 hi hhi hwf
        exact ⟨extsIn_mono hin (hlo c (List.mem_cons_self ..)) (Nat.le_refl _), hl⟩

/-! ### directory entries: their encoding, one turn of the rec_len walk -/

theorem hasLen_iff (b : Bytes) (n : Nat) : hasLen b n = true ↔ n ≤ b.length := by
  cases n with
  | zero => simp [hasLen]
  | succ k =>
    simp only [hasLen, Bool.not_eq_true', List.isEmpty_eq_false_iff]
    rw [ne_eq, List.drop_eq_nil_iff]
    omega

theorem isEmpty_of_length_pos (b : Bytes) (h : 0 < b.length) : b.isEmpty = false :=
  List.isEmpty_eq_false_iff.2 (List.ne_nil_of_length_pos h)

/-- on-disk form of one entry with record length `rl` -/
def encEnt (e : DirEnt) (rl : Nat) : Bytes :=
  leEnc 4 e.inode ++ leEnc 2 rl ++ [UInt8.ofNat e.name.length, UInt8.ofNat e.ftype] ++ e.name ++
    zeros (rl - 8 - e.name.length)

def encEntries : List (DirEnt × Nat) → Bytes
  | [] => []
  | (e, rl) :: rest => encEnt e rl ++ encEntries rest

def EntWF (cfg : Cfg) (p : DirEnt × Nat) : Prop :=
  p.1.inode < 4294967296 ∧ p.1.ftype < 256 ∧
  p.1.name.length < (if cfg.dirNameLenWide then 256 else 248) ∧
  12 ≤ p.2 ∧ 8 + p.1.name.length ≤ p.2 ∧ p.2 < 65536

theorem encEnt_length (e : DirEnt) (rl : Nat) (h : 8 + e.name.length ≤ rl) : (encEnt e rl).length = rl := by
  simp [encEnt]; omega

theorem dirent_read (e : DirEnt) (rl : Nat) (post : Bytes) (hino : e.inode < 4294967296) (hft : e.ftype < 256)
    (hnl : e.name.length < 256) (hrl : 8 + e.name.length ≤ rl) (h16 : rl < 65536) :
    let b := encEnt e rl ++ post
    le32 b 0 = e.inode ∧ le16 b 4 = rl ∧ u8 b 6 = e.name.length ∧ u8 b 7 = e.ftype ∧
    slice b 8 (8 + e.name.length) = e.name ∧ b.drop rl = post ∧ rl ≤ b.length := by
  intro b
  have hlen : (encEnt e rl).length = rl := encEnt_length e rl hrl
  have hb : b = [] ++ (encFields [(4, e.inode), (2, rl), (1, e.name.length), (1, e.ftype)] ++
      (e.name ++ (zeros (rl - 8 - e.name.length) ++ post))) := by
    simp [b, encEnt, encFields, leEnc, Nat.mod_eq_of_lt hnl, Nat.mod_eq_of_lt hft]
  have hbl : rl ≤ b.length := by simp only [b, List.length_append, hlen]; omega
  have h8 : 8 ≤ b.length := by omega
  have hdrop : b.drop rl = post := by
    simp only [b]
    rw [List.drop_append, List.drop_of_length_le (by omega), hlen, Nat.sub_self]
    rfl
  have H := holdsAt_enc [(4, e.inode), (2, rl), (1, e.name.length), (1, e.ftype)] []
    (e.name ++ (zeros (rl - 8 - e.name.length) ++ post))
  rw [← hb] at H
  simp only [HoldsAt, List.length_nil, Nat.reduceAdd, Nat.reducePow, Nat.pow_one] at H
  obtain ⟨h0, h1, h2, h3, _⟩ := H
  have hname := slice_mid (encFields [(4, e.inode), (2, rl), (1, e.name.length), (1, e.ftype)]) e.name
    (zeros (rl - 8 - e.name.length) ++ post) 8 (8 + e.name.length) rfl rfl
  rw [← List.nil_append (_ ++ _), ← hb] at hname
  refine ⟨?_, ?_, ?_, ?_, hname, hdrop, hbl⟩
  · rw [le32, h0, Nat.mod_eq_of_lt hino]
  · rw [le16, h1, Nat.mod_eq_of_lt h16]
  · rw [u8_eq_leDec b 6 (Nat.lt_of_lt_of_le (by decide) h8), h2, Nat.mod_eq_of_lt hnl]
  · rw [u8_eq_leDec b 7 (Nat.lt_of_lt_of_le (by decide) h8), h3, Nat.mod_eq_of_lt hft]

/-- one turn of the rec_len walk on a record of at least 12 bytes that lies inside the data and covers its name; as
    found the name must be short enough for `8 + name_len` not to wrap in a byte -/
theorem parseEntries_cons (cfg : Cfg) (r : Bytes) (f : Nat) (h12 : 12 ≤ le16 r 4) (hlen : le16 r 4 ≤ r.length)
    (hname : 8 + u8 r 6 ≤ le16 r 4) (hw : cfg.dirNameLenWide = true ∨ u8 r 6 < 248) :
    parseEntries cfg (f + 1) r =
      match parseEntries cfg f (r.drop (le16 r 4)) with
      | .ok es => .ok (⟨le32 r 0, u8 r 7, slice r 8 (8 + u8 r 6)⟩ :: es)
      | .err => .err
      | .panic => .panic
      | .diverge => .diverge := by
  have hne : r.isEmpty = false := isEmpty_of_length_pos r (by omega)
  have hhi : (if cfg.dirNameLenWide then 8 + u8 r 6 else (8 + u8 r 6) % 256) = 8 + u8 r 6 := by
    split
    · rfl
    · rename_i hc; exact Nat.mod_eq_of_lt (by rcases hw with h | h; exact absurd h hc; omega)
  rw [parseEntries]
  simp only [hne, (hasLen_iff r 6).2 (by omega), (hasLen_iff r _).2 hlen, hhi, (hasLen_iff r (8 + u8 r 6)).2 (by omega),
    Bool.false_eq_true, if_false, Bool.not_true]
  rw [if_neg (by omega), if_neg (by omega)]
  rfl

theorem parseEntries_encEnt (cfg : Cfg) (e : DirEnt) (rl : Nat) (post : Bytes) (f : Nat) (h : EntWF cfg (e, rl)) :
    parseEntries cfg (f + 1) (encEnt e rl ++ post) =
      match parseEntries cfg f post with
      | .ok es => .ok (e :: es)
      | .err => .err
      | .panic => .panic
      | .diverge => .diverge := by
  obtain ⟨hino, hft, hnl, h12, hrl, h16⟩ := h
  simp only at hino hft hnl h12 hrl h16
  have hnl256 : e.name.length < 256 := by split at hnl <;> omega
  obtain ⟨e1, e2, e3, e4, e5, e6, hrlen⟩ := dirent_read e rl post hino hft hnl256 hrl h16
  have hw : cfg.dirNameLenWide = true ∨ e.name.length < 248 := by
    cases hc : cfg.dirNameLenWide
    · right; simpa [hc] using hnl
    · exact Or.inl rfl
  rw [parseEntries_cons cfg _ f (by rw [e2]; exact h12) (by rw [e2]; exact hrlen) (by rw [e2, e3]; exact hrl)
    (by rw [e3]; exact hw), e1, e2, e3, e4, e5, e6]

/-! ### inversion of the `Res` combinators -/

theorem bind_ok {α β : Type} (r : Res α) (f : α → Res β) (b : β) :
    r.bind f = .ok b ↔ ∃ a, r = .ok a ∧ f a = .ok b := by
  cases r <;> simp [Res.bind]

theorem map_ok {α β : Type} (r : Res α) (f : α → β) (b : β) : r.map f = .ok b ↔ ∃ a, r = .ok a ∧ f a = b := by
  cases r <;> simp [Res.map]

theorem mapRes_ok_cons {α β : Type} (f : α → Res β) (a : α) (as : List α) (ys : List β) :
    mapRes f (a :: as) = .ok ys ↔ ∃ b bs, f a = .ok b ∧ mapRes f as = .ok bs ∧ ys = b :: bs := by
  simp only [mapRes]
  cases f a <;> cases mapRes f as <;> simp [eq_comm]

theorem mapRes_ok_of_forall {α β : Type} (f : α → Res β) (g : α → β) :
    ∀ (xs : List α), (∀ x ∈ xs, f x = .ok (g x)) → mapRes f xs = .ok (xs.map g) := by
  intro xs
  induction xs with
  | nil => intro _; rfl
  | cons x xs ih =>
    intro h
    rw [mapRes, h x (List.mem_cons_self ..), ih (fun y hy => h y (List.mem_cons_of_mem _ hy))]
    rfl

theorem concatRes_nil {α β : Type} (f : α → Res (List β)) : concatRes f [] = .ok [] := rfl

theorem concatRes_ok_cons {α β : Type} (f : α → Res (List β)) (a : α) (as : List α) (es : List β) :
    concatRes f (a :: as) = .ok es ↔ ∃ e1 e2, f a = .ok e1 ∧ concatRes f as = .ok e2 ∧ es = e1 ++ e2 := by
  unfold concatRes
  rw [map_ok]
  constructor
  · rintro ⟨ys, hm, rfl⟩
    obtain ⟨b, bs, hb, hbs, rfl⟩ := (mapRes_ok_cons f a as ys).1 hm
    exact ⟨b, bs.flatten, hb, (map_ok _ _ _).2 ⟨bs, hbs, rfl⟩, by simp⟩
  · rintro ⟨e1, e2, h1, h2, rfl⟩
    obtain ⟨bs, hbs, rfl⟩ := (map_ok _ _ _).1 h2
    exact ⟨e1 :: bs, (mapRes_ok_cons f a as _).2 ⟨e1, bs, h1, hbs, rfl⟩, by simp⟩

theorem concatRes_append_ok {α β : Type} (f : α → Res (List β)) :
    ∀ (xs ys : List α) (e1 e2 : List β), concatRes f xs = .ok e1 → concatRes f ys = .ok e2 →
      concatRes f (xs ++ ys) = .ok (e1 ++ e2) := by
  intro xs
  induction xs with
  | nil =>
    intro ys e1 e2 h1 h2
    rw [concatRes_nil] at h1
    simp only [Res.ok.injEq] at h1
    subst h1; simpa using h2
  | cons x xs ih =>
    intro ys e1 e2 h1 h2
    obtain ⟨a, b, ha, hb, rfl⟩ := (concatRes_ok_cons f x xs e1).1 h1
    rw [List.cons_append]
    exact (concatRes_ok_cons f x (xs ++ ys) _).2 ⟨a, b ++ e2, ha, ih ys b e2 hb h2, by simp⟩

theorem concatRes_perm {α β : Type} (f : α → Res (List β)) (L L' : List α) (es es' : List β)
    (h : concatRes f L = .ok es) (h' : concatRes f L' = .ok es') (hp : L.Perm L') : es.Perm es' := by
  -- a successful run is `flatMap P` for the total projection `P` of `f`, and `flatMap` respects permutations
  let P : α → List β := fun x => match f x with | .ok y => y | _ => []
  have key : ∀ (M : List α) (r : List β), concatRes f M = .ok r → r = M.flatMap P := by
    intro M
    induction M with
    | nil => intro r hr; rw [concatRes_nil] at hr; simp only [Res.ok.injEq] at hr; simp [← hr]
    | cons x xs ih =>
      intro r hr
      obtain ⟨a, b, ha, hb, rfl⟩ := (concatRes_ok_cons f x xs r).1 hr
      rw [List.flatMap_cons, ← ih b hb]
      have : P x = a := by simp [P, ha]
      rw [this]
  rw [key L es h, key L' es' h']
  exact List.Perm.flatMap_right P hp

end Diskfs.Ext4.Reader
