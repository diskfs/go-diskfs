/-
  C03 for squashfs: every WriteAt of the region mirror of `Finalize` (Model/Sqfs/Regions.lean) ends
  at or below bytes_used, and bytes_used is reached.
-/
import DiskfsModel.Proofs.SqfsRegions
namespace Diskfs.Sqfs

theorem finalize_write_le (p : Pieces) : ∀ w ∈ (finalize p).writes, w.1 + w.2 ≤ (finalize p).bytesUsed := by
  intro w hm
  rw [(finalize_writes_seq p).2]
  rcases (mem_finalize_writes p w).1 hm with hm | rfl
  · exact (seqWrites_bounds sbSize (allLens p) w hm).2
  · simp

theorem bytesUsed_ge (p : Pieces) : sbSize ≤ (finalize p).bytesUsed := by
  rw [(finalize_writes_seq p).2]; omega

theorem finalize_write_reaches (p : Pieces) : ∃ w ∈ (finalize p).writes, w.1 + w.2 = (finalize p).bytesUsed := by
  have hge := bytesUsed_ge p
  have hpos : (finalize p).bytesUsed - 1 < (finalize p).bytesUsed := by simp only [sbSize] at hge; omega
  obtain ⟨w, hw, h1, h2⟩ := (finalize_cover p _).1 hpos
  have := finalize_write_le p w hw
  exact ⟨w, hw, by omega⟩

end Diskfs.Sqfs
