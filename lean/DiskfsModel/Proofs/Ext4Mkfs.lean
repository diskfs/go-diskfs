/-
  The ext4 mkfs layout arithmetic (Model/Ext4/Mkfs.lean): bounds for `ceilDiv`, what the six parameter checks of
  Create say about an accepted layout (`mkLayout_guards`), and where flex_bg puts the metadata slot of a group:
  slots of one flex group are ordered, and under `Fits` each lies inside the block group of the flex group's first
  group (`flex_slot_inside`).
-/
import DiskfsModel.Model.Ext4.Mkfs
import DiskfsModel.Proofs.Arith
namespace Diskfs.Ext4.Mkfs

theorem le_ceilDiv_mul (a b : Nat) (hb : 0 < b) : a ≤ ceilDiv a b * b :=
  (ceil_bounds a b hb).1

theorem ceilDiv_pos (a b : Nat) (hb : 0 < b) (ha : 0 < a) : 1 ≤ ceilDiv a b :=
  Nat.div_pos (by omega) hb

theorem ceilDiv_spec (a b : Nat) (hb : 0 < b) (hq : 0 < ceilDiv a b) :
    (ceilDiv a b - 1) * b < a ∧ a ≤ ceilDiv a b * b := by
  obtain ⟨h0, h1⟩ := ceil_bounds a b hb
  refine ⟨?_, h0⟩
  unfold ceilDiv at *
  have h2 : b ≤ (a + b - 1) / b * b := Nat.le_mul_of_pos_left b hq
  rw [Nat.sub_mul, Nat.one_mul]
  omega

theorem guard_ok {c : Prop} [Decidable c] {e : Err} {x : Except Err Layout} {l : Layout}
    (h : (if c then .error e else x) = .ok l) : ¬ c ∧ x = .ok l := by
  by_cases hc : c
  · rw [if_pos hc] at h; cases h
  · rw [if_neg hc] at h; exact ⟨hc, h⟩

theorem mkLayout_guards (p : Params) (l : Layout) (h : mkLayout p = .ok l) :
    l = layoutOf p ∧ ¬ (p.spb ≠ 0 ∧ (p.spb > 128 ∨ p.spb < 2)) ∧ ¬ (p.bpg ≠ 0 ∧ p.bpg < 256) ∧
      ¬ p.bpg > maxBPG p ∧ ¬ p.bpg % 8 ≠ 0 ∧ ¬ groupsOf p = 0 ∧ ¬ ic0Of p > 4294967295 := by
  unfold mkLayout at h
  obtain ⟨h1, h⟩ := guard_ok h
  obtain ⟨h2, h⟩ := guard_ok h
  obtain ⟨h3, h⟩ := guard_ok h
  obtain ⟨h4, h⟩ := guard_ok h
  obtain ⟨h5, h⟩ := guard_ok h
  obtain ⟨h6, h⟩ := guard_ok h
  exact ⟨(Except.ok.inj h).symm, h1, h2, h3, h4, h5, h6⟩

theorem chooseBs_ge (p : Params) (h1 : ¬ (p.spb ≠ 0 ∧ (p.spb > 128 ∨ p.spb < 2))) : 1024 ≤ chooseBs p := by
  unfold chooseBs
  split
  · split <;> omega
  · have : ¬ (p.spb > 128 ∨ p.spb < 2) := fun hh => h1 ⟨by assumption, hh⟩
    omega

theorem chooseBpg_pos (p : Params) (hbs : 1024 ≤ chooseBs p) : 0 < chooseBpg p := by
  unfold chooseBpg maxBPG
  split <;> omega

theorem flexSizeOf_pos (p : Params) : 0 < flexSizeOf p := by
  unfold flexSizeOf
  split
  · exact Nat.two_pow_pos _
  · omega

theorem groupStart_mono (l : Layout) (g1 g2 : Nat) (h : g1 < g2) : groupStart l g1 + l.bpg ≤ groupStart l g2 := by
  unfold groupStart
  have : (g1 + 1) * l.bpg ≤ g2 * l.bpg := Nat.mul_le_mul_right _ (by omega)
  rw [Nat.add_mul] at this
  omega

theorem blocksInGroup_le (l : Layout) (g : Nat) : blocksInGroup l g ≤ l.bpg := Nat.min_le_left _ _

theorem perGroupMeta_pos (l : Layout) : 0 < perGroupMeta l := by unfold perGroupMeta; omega

theorem flexOwner_le (l : Layout) (g : Nat) : flexOwner l g ≤ g := Nat.div_mul_le_self _ _

theorem flexOwner_idem (l : Layout) (g : Nat) (hf : 0 < l.flexSize) :
    flexOwner l (flexOwner l g) = flexOwner l g := by
  unfold flexOwner
  rw [Nat.mul_div_cancel _ hf]

theorem sub_flexOwner_lt (l : Layout) (g : Nat) (hf : 0 < l.flexSize) : g - flexOwner l g < l.flexSize := by
  unfold flexOwner
  have h1 := Nat.div_add_mod g l.flexSize
  have h2 := Nat.mod_lt g hf
  rw [Nat.mul_comm] at h1
  omega

theorem flexOwner_add (l : Layout) (hf : 0 < l.flexSize) (o k : Nat) (ho : o = flexOwner l o) (hk : k < l.flexSize) :
    flexOwner l (o + k) = o := by
  unfold flexOwner at *
  have h1 : (o / l.flexSize * l.flexSize + k) / l.flexSize = o / l.flexSize := by
    rw [Nat.mul_comm, Nat.mul_add_div hf, Nat.div_eq_of_lt hk, Nat.add_zero]
  rw [← ho] at h1
  rw [h1]; exact ho.symm

theorem flex_slots_ordered (l : Layout) (g1 g2 : Nat) (ho : flexOwner l g1 = flexOwner l g2) (hlt : g1 < g2) :
    metaBase l true g1 + perGroupMeta l ≤ metaBase l true g2 := by
  unfold metaBase
  simp only [if_true, ← ho]
  have h1 := flexOwner_le l g1
  have : (g1 - flexOwner l g1 + 1) * perGroupMeta l ≤ (g2 - flexOwner l g1) * perGroupMeta l :=
    Nat.mul_le_mul_right _ (by omega)
  rw [Nat.add_mul] at this
  omega

theorem flex_slot_end_le (l : Layout) (hf : 0 < l.flexSize) (g : Nat) (hg : g < l.groups) :
    metaBase l true g + perGroupMeta l ≤ groupStart l (flexOwner l g) + metaBlocks l (flexOwner l g) +
      groupsInFlex l (flexOwner l g) * perGroupMeta l := by
  have hk : g - flexOwner l g + 1 ≤ groupsInFlex l (flexOwner l g) := by
    unfold groupsInFlex
    have := sub_flexOwner_lt l g hf
    have := flexOwner_le l g
    omega
  have := Nat.mul_le_mul_right (perGroupMeta l) hk
  rw [Nat.add_mul] at this
  unfold metaBase
  simp only [if_true]
  omega

theorem flex_slot_inside (l : Layout) (hf : 0 < l.flexSize) (hfit : Fits l true) (g : Nat) (hg : g < l.groups) :
    groupStart l (flexOwner l g) + metaBlocks l (flexOwner l g) ≤ metaBase l true g ∧
    metaBase l true g + perGroupMeta l ≤ groupStart l (flexOwner l g) + blocksInGroup l (flexOwner l g) := by
  have hfo := hfit (flexOwner l g) (by have := flexOwner_le l g; omega)
  simp only [if_true] at hfo
  have hfo := hfo (flexOwner_idem l g hf).symm
  exact ⟨Nat.le_add_right _ _, by have := flex_slot_end_le l hf g hg; omega⟩

end Diskfs.Ext4.Mkfs
