/-
  C03, ext4: every WriteAt of the volume machine (Model/RangesExt4.lean) lies below numBlocks × blockSize.
  A layout that passed Create's checks is well formed (`LWF`); under `Fits` and `BackupsFit` every structure an
  event can name lies inside the volume (`evOk_inside`); the operations of the allocator never change the lengths of
  the bitmaps (`shape`, Proofs/Ext4Alloc.lean), so the runs it hands out stay below the block count (`runs_below`); the machine keeps
  `RInv` and emits only valid events (`vstep_ok`), along every history (`vrun_inside`).
-/
import DiskfsModel.Model.RangesExt4
import DiskfsModel.Proofs.Ext4Mkfs
import DiskfsModel.Proofs.Ext4Own
namespace Diskfs.Ranges.Ext4
open Diskfs.Ext4.Mkfs Diskfs.Ext4.Alloc

structure LWF (l : Layout) : Prop where
  bs1024 : 1024 ≤ l.bs
  bpg_pos : 0 < l.bpg
  groups_pos : 0 < l.groups
  cover : l.numBlocks ≤ l.groups * l.bpg
  gdt_fit : l.groups * l.descSize ≤ l.gdtBlocks * l.bs
  gdt_pos : 1 ≤ l.gdtBlocks
  itb_fit : l.ipg * inodeSize ≤ l.itb * l.bs
  icount : l.inodeCount = l.ipg * l.groups
  flex_pos : 0 < l.flexSize

theorem lwf_of_mkLayout (p : Params) (l : Layout) (h : mkLayout p = .ok l) : LWF l ∧ l.numBlocks * l.bs ≤ p.size := by
  obtain ⟨rfl, h1, _, _, _, hg, _⟩ := mkLayout_guards p l h
  have hbs : 1024 ≤ chooseBs p := chooseBs_ge p h1
  have hbpg := chooseBpg_pos p hbs
  have hgp : 0 < groupsOf p := Nat.pos_of_ne_zero hg
  have hds : 0 < (if p.bit64 then 64 else 32) := by split <;> omega
  refine ⟨⟨hbs, hbpg, hgp, le_ceilDiv_mul _ _ hbpg, le_ceilDiv_mul _ _ (by omega),
    ceilDiv_pos _ _ (by omega) (Nat.mul_pos hgp hds), le_ceilDiv_mul _ _ (by omega), rfl, flexSizeOf_pos p⟩,
    Nat.div_mul_le_self _ _⟩

theorem blocks_inside {x k n bs len : Nat} (h : x + k ≤ n) (hl : len ≤ k * bs) : x * bs + len ≤ n * bs := by
  have := Nat.mul_le_mul_right bs h
  rw [Nat.add_mul] at this
  omega

theorem group_end_le (l : Layout) (g k : Nat) (hk : 1 ≤ k) (h : k ≤ blocksInGroup l g) :
    groupStart l g + k ≤ l.numBlocks := by
  unfold blocksInGroup at h
  have := Nat.le_min.1 h
  omega

theorem slot_inside (l : Layout) (flex : Bool) (hw : LWF l) (hfit : Fits l flex) (g : Nat) (hg : g < l.groups) :
    metaBase l flex g + perGroupMeta l ≤ l.numBlocks := by
  cases flex with
  | true =>
    have h := flex_slot_inside l hw.flex_pos hfit g hg
    have hpos : 1 ≤ blocksInGroup l (flexOwner l g) := by have := perGroupMeta_pos l; omega
    have := group_end_le l (flexOwner l g) _ hpos (Nat.le_refl _)
    omega
  | false =>
    have h := hfit g hg
    simp only [Bool.false_eq_true, if_false] at h
    have hpos : 1 ≤ metaBlocks l g + perGroupMeta l := by have := perGroupMeta_pos l; omega
    have := group_end_le l g _ hpos h
    unfold metaBase
    simp only [Bool.false_eq_true, if_false]
    omega

/-- group 0 carries the primary superblock, descriptor table and reserved GDT blocks: they fit -/
theorem meta0_inside (l : Layout) (flex : Bool) (hw : LWF l) (hfit : Fits l flex) :
    groupStart l 0 + 1 + l.gdtBlocks + l.rsvGdt ≤ l.numBlocks := by
  have h := hfit 0 hw.groups_pos
  have hm : metaBlocks l 0 = 1 + l.gdtBlocks + l.rsvGdt := by
    unfold metaBlocks; rw [if_pos (by decide)]
  have ho : flexOwner l 0 = 0 := by unfold flexOwner; simp
  cases flex with
  | true =>
    simp only [if_true] at h
    have h := h ho.symm
    have := group_end_le l 0 (metaBlocks l 0) (by omega) (by omega)
    omega
  | false =>
    simp only [Bool.false_eq_true, if_false] at h
    have := group_end_le l 0 (metaBlocks l 0) (by omega) (by omega)
    omega

theorem ino_group_lt (l : Layout) (hw : LWF l) (ino : Nat) (h : 1 ≤ ino ∧ ino ≤ l.inodeCount) :
    0 < l.ipg ∧ (ino - 1) / l.ipg < l.groups := by
  obtain ⟨h1, h2⟩ := h
  rw [hw.icount] at h2
  have hipg : 0 < l.ipg := Nat.pos_of_ne_zero (fun h => by rw [h] at h2; omega)
  exact ⟨hipg, Nat.div_lt_of_lt_mul (by omega)⟩

theorem ino_of_slot (l : Layout) (hw : LWF l) (gi p : Nat) (hg : gi < l.groups) (hp : p < l.ipg) :
    1 ≤ gi * l.ipg + p + 1 ∧ gi * l.ipg + p + 1 ≤ l.inodeCount := by
  rw [hw.icount]
  have : (gi + 1) * l.ipg ≤ l.groups * l.ipg := Nat.mul_le_mul_right _ (by omega)
  rw [Nat.add_mul, Nat.mul_comm l.groups] at this
  omega

theorem block_group_lt (l : Layout) (hw : LWF l) (b : Nat) (hb : b < l.numBlocks) : (b - l.fdb) / l.bpg < l.groups := by
  apply Nat.div_lt_of_lt_mul
  have := hw.cover
  rw [Nat.mul_comm]
  omega

theorem evOk_inside (l : Layout) (flex : Bool) (owned : List Nat) (hw : LWF l) (hfit : Fits l flex) (hb : BackupsFit l)
    (hown : ∀ b ∈ owned, b < l.numBlocks) (ev : Ev) (hok : EvOk l owned ev) :
    (evRegion l flex ev).off + (evRegion l flex ev).len ≤ l.numBlocks * l.bs := by
  have hbs := hw.bs1024
  have hgp := hw.gdt_pos
  have hin : ∀ x k len, x + k ≤ l.numBlocks → len ≤ k * l.bs → x * l.bs + len ≤ l.numBlocks * l.bs :=
    fun _ _ _ => blocks_inside
  -- the groups with a superblock copy hold it and the descriptor table
  have hsuper : ∀ g, g < l.groups → hasSuper g = true → groupStart l g + (1 + l.gdtBlocks) ≤ l.numBlocks :=
    fun g hg hs => group_end_le l g _ (by omega) (hb g hg hs)
  -- the slot of a group: block bitmap, inode bitmap, inode table
  have hslot : ∀ g, g < l.groups → metaBase l flex g + (2 + l.itb) ≤ l.numBlocks :=
    fun g hg => slot_inside l flex hw hfit g hg
  cases ev with
  | boot =>
    have := hsuper 0 hw.groups_pos (by decide)
    have := hin 0 2 1024 (by omega) (by omega)
    simp only [evRegion]; omega
  | sb g =>
    have := hsuper g hok.1 hok.2
    have := hin 0 2 2048 (by omega) (by omega)
    have := hin (groupStart l g) 1 1024 (by omega) (by omega)
    simp only [evRegion]
    split <;> omega
  | gdt g =>
    have := hsuper g hok.1 hok.2
    exact hin (groupStart l g + 1) l.gdtBlocks _ (by omega) hw.gdt_fit
  | rsv i =>
    have := meta0_inside l flex hw hfit
    exact hin (groupStart l 0 + 1 + l.gdtBlocks + i) 1 l.bs (by have : i < l.rsvGdt := hok; omega) (by omega)
  | bbm g => exact hin (metaBase l flex g) 1 l.bs (by have := hslot g hok; omega) (by omega)
  | ibm g =>
    have hi := hw.itb_fit
    exact hin (metaBase l flex g + 1) l.itb (l.ipg / 8) (by have := hslot g hok; omega)
      (by unfold inodeSize at hi; omega)
  | ibmInit g => exact hin (metaBase l flex g + 1) 1 l.bs (by have := hslot g hok; omega) (by omega)
  | itab g => exact hin _ _ _ (by have := hslot g hok; omega) (Nat.le_refl _)
  | inode ino =>
    obtain ⟨hipg, hg⟩ := ino_group_lt l hw ino hok
    have hm := Nat.mod_lt (ino - 1) hipg
    have hs : ((ino - 1) % l.ipg + 1) * inodeSize ≤ l.ipg * inodeSize := Nat.mul_le_mul_right _ (by omega)
    rw [Nat.add_mul] at hs
    have hi := hw.itb_fit
    have := hin (metaBase l flex ((ino - 1) / l.ipg) + 2) l.itb ((ino - 1) % l.ipg * inodeSize + inodeSize)
      (by have := hslot _ hg; omega) (by omega)
    simp only [evRegion]
    omega
  | span b n off len =>
    obtain ⟨hn, h1, h2⟩ := hok
    have hb' := hown (b + (n - 1)) (h1 (n - 1) (by omega))
    have := hin b n (off + len) (by omega) h2
    simp only [evRegion]
    omega

theorem lenInv_of_shape (l : Layout) (s s' : Acc) (h : shape s' = shape s) (hi : LenInv l s) : LenInv l s' := by
  unfold shape at h
  obtain ⟨h1, h2⟩ := hi
  have hlen : s'.groups.length = s.groups.length := by simpa using congrArg List.length h
  refine ⟨by omega, fun g grp hg => ?_⟩
  have hx := (congrArg (·[g]?) h).symm
  simp only [List.getElem?_map, hg, Option.map_some, Option.map_eq_some_iff, Prod.mk.injEq] at hx
  obtain ⟨grp0, hs, hx⟩ := hx
  have := h2 g grp0 hs
  omega

theorem runFree_bound (l : Layout) (s : Acc) (r : Run) (hi : LenInv l s) (hf : runFree s r = true) :
    r.1 < l.groups ∧ (0 < r.2.2 → r.2.1 + r.2.2 ≤ blocksInGroup l r.1) := by
  obtain ⟨grp, hg, hf⟩ := (runFree_iff s r).1 hf
  have h3 := (List.getElem?_eq_some_iff.1 hg).1
  refine ⟨by have := hi.1; omega, fun hc => ?_⟩
  have := allAre_le_length hc hf
  have := (hi.2 r.1 grp hg).1
  omega

theorem runBlocks_below (l : Layout) (r : Run) (h : 0 < r.2.2 → r.2.1 + r.2.2 ≤ blocksInGroup l r.1) :
    ∀ b ∈ runBlocks (geoOf l) r, b < l.numBlocks := by
  intro b hb
  simp only [runBlocks, geoOf, List.mem_range'_1] at hb
  have := group_end_le l r.1 (r.2.1 + r.2.2) (by omega) (h (by omega))
  unfold groupStart at this
  omega

theorem runs_below (l : Layout) : ∀ (rs : List Run) (s : Acc), LenInv l s → runsOK s rs = true →
    (∀ r ∈ rs, r.1 < l.groups) ∧ ∀ b ∈ rs.flatMap (runBlocks (geoOf l)), b < l.numBlocks := by
  intro rs
  induction rs with
  | nil => intro s _ _; simp
  | cons r rs ih =>
    intro s hi hok
    simp only [runsOK, Bool.and_eq_true] at hok
    obtain ⟨ih1, ih2⟩ := ih (markRun s r) (lenInv_of_shape l s _ (shape_markRun s r) hi) hok.2
    obtain ⟨hg, hb⟩ := runFree_bound l s r hi hok.1
    refine ⟨List.forall_mem_cons.2 ⟨hg, ih1⟩, fun b hb' => ?_⟩
    simp only [List.flatMap_cons, List.mem_append] at hb'
    exact hb'.elim (runBlocks_below l r hb b) (ih2 b)

theorem mem_superGroups (l : Layout) (g : Nat) (h : g ∈ superGroups l) : g < l.groups ∧ hasSuper g = true := by
  simp only [superGroups, List.mem_filter, List.mem_range] at h
  exact h

theorem metaEvs_ok (l : Layout) (owned : List Nat) : ∀ ev ∈ metaEvs l, EvOk l owned ev := by
  intro ev hev
  simp only [metaEvs, List.mem_append, List.mem_map] at hev
  rcases hev with ⟨g, hg, rfl⟩ | ⟨g, hg, rfl⟩
  · exact mem_superGroups l g hg
  · exact mem_superGroups l g hg

theorem pickInode_bound (l : Layout) (s : Acc) (hi : LenInv l s) (gi p : Nat) (h : pickInode s.groups 0 = some (gi, p)) :
    gi < l.groups ∧ p < l.ipg := by
  obtain ⟨g, _, hg, ha⟩ := pickInode_spec s.groups 0 gi p h
  simp only [Nat.sub_zero] at hg
  have h1 := allAre_le_length (Nat.succ_pos 0) ha
  have h2 := (hi.2 gi g hg).2
  have h3 : gi < s.groups.length := (List.getElem?_eq_some_iff.1 hg).1
  have := hi.1
  exact ⟨by omega, by omega⟩

theorem ownsSpan_spec (f : FileRec) (b n : Nat) (h : ownsSpan f b n = true) : ∀ j, j < n → b + j ∈ f.blocks := by
  intro j hj
  simp only [ownsSpan, List.all_eq_true, List.mem_range] at h
  have := h j hj
  simpa using this

theorem rinv_iff (l : Layout) (o : Own) : RInv l o ↔
    LenInv l o.acc ∧ ∀ f ∈ o.files, (∀ b ∈ f.blocks, b < l.numBlocks) ∧ 1 ≤ f.ino ∧ f.ino ≤ l.inodeCount := by
  simp only [RInv, mem_ownedBlocks]
  constructor
  · rintro ⟨h1, h2, h3⟩
    exact ⟨h1, fun f hf => ⟨fun b hb => h2 b ⟨f, hf, hb⟩, h3 f hf⟩⟩
  · rintro ⟨h1, h2⟩
    exact ⟨h1, fun b ⟨f, hf, hb⟩ => (h2 f hf).1 b hb, fun f hf => (h2 f hf).2⟩

theorem vstep_ok (l : Layout) (hw : LWF l) (o : Own) (op : VOp) (hi : RInv l o) :
    RInv l (vstep l o op).1 ∧
    ∀ ev ∈ (vstep l o op).2, EvOk l (ownedBlocks o) ev := by
  obtain ⟨hlen, hfiles⟩ := (rinv_iff l o).1 hi
  -- a call that is refused or does not exist changes nothing and writes nothing
  have hstay : RInv l o ∧ ∀ ev ∈ ([] : List Ev), EvOk l (ownedBlocks o) ev := ⟨hi, by simp⟩
  -- a call of the allocator machine never changes the geometry: what is left to show is that the files are fine
  have hkeep : ∀ op', (∀ f ∈ (ostep (geoOf l) o op').files, (∀ b ∈ f.blocks, b < l.numBlocks) ∧ 1 ≤ f.ino ∧
      f.ino ≤ l.inodeCount) → RInv l (ostep (geoOf l) o op') :=
    fun op' h => (rinv_iff l _).2 ⟨lenInv_of_shape l _ _ (shape_ostep _ o _) hlen, h⟩
  cases op with
  | create isDir =>
    simp only [vstep]
    split
    · rename_i gi p hp
      obtain ⟨hg, hpp⟩ := pickInode_bound l o.acc hlen gi p hp
      have hin := ino_of_slot l hw gi p hg hpp
      refine ⟨hkeep _ ?_, ?_⟩
      · simp only [ostep]
        split
        · intro f hf
          rcases List.mem_append.1 hf with hf | hf
          · exact hfiles f hf
          · rw [List.mem_singleton.1 hf]
            exact ⟨by simp, hin⟩
        · exact hfiles
      · intro ev hev
        simp only [List.mem_append, List.mem_cons, List.not_mem_nil, or_false] at hev
        rcases hev with (rfl | hev) | rfl
        · exact hg
        · exact metaEvs_ok l _ ev hev
        · exact hin
    · exact hstay
  | grow i n runs =>
    simp only [vstep]
    split
    · rename_i f acc' hf hacc
      obtain ⟨_, hrs, _, hok, _⟩ := allocExtents_ok hacc
      cases hrs
      obtain ⟨hr1, hr2⟩ := runs_below l runs o.acc hlen hok
      refine ⟨hkeep _ ?_, ?_⟩
      · simp only [ostep, hf, hacc]
        intro f' hf'
        rcases List.mem_or_eq_of_mem_set hf' with h | rfl
        · exact hfiles f' h
        · have := hfiles f (List.mem_of_getElem? hf)
          exact ⟨fun b hb => (List.mem_append.1 hb).elim (this.1 b) (hr2 b), this.2⟩
      · intro ev hev
        simp only [List.mem_append, List.mem_map] at hev
        rcases hev with ⟨r, hr, rfl⟩ | hev
        · exact hr1 r hr
        · exact metaEvs_ok l _ ev hev
    · exact hstay
  | remove i isDir =>
    simp only [vstep]
    split
    · rename_i f hf
      split
      · rename_i acc' hacc
        obtain ⟨hfb, hfi⟩ := hfiles f (List.mem_of_getElem? hf)
        refine ⟨hkeep _ ?_, ?_⟩
        · simp only [ostep, hf, hacc]
          exact fun f' hf' => hfiles f' (List.mem_of_mem_eraseIdx hf')
        · intro ev hev
          simp only [List.mem_append, List.mem_map, List.mem_cons, List.not_mem_nil, or_false] at hev
          rcases hev with (⟨b, hb, rfl⟩ | rfl | rfl) | hev
          · exact block_group_lt l hw b (hfb b hb)
          · exact (ino_group_lt l hw f.ino hfi).2
          · exact hfi
          · exact metaEvs_ok l _ ev hev
      · exact hstay
    · exact hstay
  | wblocks i b n off len =>
    simp only [vstep]
    split
    · rename_i f hf
      split
      · rename_i hc
        simp only [Bool.and_eq_true, decide_eq_true_eq] at hc
        refine ⟨hi, ?_⟩
        intro ev hev
        rw [List.mem_singleton.1 hev]
        exact ⟨hc.1.1, fun j hj =>
          (mem_ownedBlocks o _).2 ⟨f, List.mem_of_getElem? hf, ownsSpan_spec f b n hc.1.2 j hj⟩, hc.2⟩
      · exact hstay
    · exact hstay
  | winode i =>
    simp only [vstep]
    split
    · rename_i f hf
      refine ⟨hi, fun ev hev => ?_⟩
      rw [List.mem_singleton.1 hev]
      exact (hfiles f (List.mem_of_getElem? hf)).2
    · exact hstay

theorem vrun_inside (l : Layout) (flex : Bool) (hw : LWF l) (hfit : Fits l flex) (hb : BackupsFit l) :
    ∀ (ops : List VOp) (o : Own), RInv l o →
      RInv l (vrun l o ops).1 ∧
      ∀ ev ∈ (vrun l o ops).2, (evRegion l flex ev).off + (evRegion l flex ev).len ≤ l.numBlocks * l.bs := by
  intro ops
  induction ops with
  | nil => intro o hi; exact ⟨hi, by simp [vrun]⟩
  | cons op ops ih =>
    intro o hi
    simp only [vrun]
    obtain ⟨hi', hok⟩ := vstep_ok l hw o op hi
    obtain ⟨h1, h2⟩ := ih (vstep l o op).1 hi'
    refine ⟨h1, fun ev hev => ?_⟩
    rcases List.mem_append.1 hev with h | h
    · exact evOk_inside l flex _ hw hfit hb hi.2.1 ev (hok ev h)
    · exact h2 ev h

theorem fresh_rinv (l : Layout) (flex : Bool) : RInv l (freshOwn l flex) := by
  refine ⟨⟨by simp [freshOwn], ?_⟩, by simp [freshOwn, ownedBlocks], by simp [freshOwn]⟩
  intro g grp hg
  have hlt : g < l.groups := by simpa [freshOwn] using (List.getElem?_eq_some_iff.1 hg).1
  simp only [freshOwn, List.getElem?_map, List.getElem?_range hlt, Option.map_some, Option.some.injEq] at hg
  subst hg
  simp only [freshGroup, List.length_append, List.length_replicate]
  exact ⟨by omega, by split <;> omega⟩

/-- the free-block counter of `freshOwn` in closed form (it is defined by counting the clear bits of the bitmaps
    `freshOwn` builds): a group has `initialFree` free blocks, at most all its blocks.  Stated as an equation of the
    whole state so that `rw` can put the closed form in place of the counted one inside a larger term. -/
theorem freshOwn_sbFreeBlocks (l : Layout) (flex : Bool) :
    freshOwn l flex = { freshOwn l flex with acc := { (freshOwn l flex).acc with sbFreeBlocks :=
      ((List.range l.groups).map fun g => min (blocksInGroup l g) (initialFree l flex g)).sum } } := by
  have hg : ∀ g, (freshGroup l flex g).freeBlocks = min (blocksInGroup l g) (initialFree l flex g) :=
    fun g => by simp [freshGroup, countFree, List.count_replicate]; omega
  simp only [freshOwn, List.map_map]
  congr 3
  exact List.map_congr_left fun g _ => hg g

theorem createEvs_ok (l : Layout) (owned : List Nat) : ∀ ev ∈ createEvs l, EvOk l owned ev := by
  intro ev hev
  simp only [createEvs, List.mem_append, List.mem_flatMap, List.mem_range, List.mem_map,
    List.mem_cons, List.not_mem_nil, or_false] at hev
  rcases hev with ((rfl | ⟨g, hg, rfl | rfl | rfl⟩) | ⟨i, hi, rfl⟩) | hev
  · trivial
  · exact hg
  · exact hg
  · exact hg
  · exact hi
  · exact metaEvs_ok l owned ev hev

end Diskfs.Ranges.Ext4
