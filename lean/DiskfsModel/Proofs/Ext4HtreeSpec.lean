/-
  Hash-indexed directories.  What the Go reader's hash-tree walk returns equals, up to order, what the SPEC
  reader's linear rec_len walk returns over the leaf blocks (Props/C20 htree_equals_spec_linear).  Here: the two
  mirrors of the entry loop agree on tiling data; a leaf block with and without its checksum tail (`LeafOK`).
-/
import DiskfsModel.Proofs.Ext4DirNow
namespace Diskfs.Ext4.Reader
open Diskfs.Ext4.Spec

/-- on a tiling block the earlier mirror of the entry loop (Model/Ext4/Reader.lean parseEntries, repaired name
    bound) and the mirror of the loop as it is now return the same entries -/
theorem parseEntries_eq_now (r : Bytes) (ht : Tiles r) : ∀ (f1 f2 : Nat), r.length < 12 * f1 → r.length < 12 * f2 →
    parseEntries Cfg.fixed f1 r = parseEntriesNow f2 r := by
  induction ht with
  | nil =>
    intro f1 f2 h1 h2
    obtain ⟨f1, rfl⟩ : ∃ k, f1 = k + 1 := ⟨f1 - 1, by omega⟩
    obtain ⟨f2, rfl⟩ : ∃ k, f2 = k + 1 := ⟨f2 - 1, by omega⟩
    simp [parseEntries, parseEntriesNow]
  | cons r h12 h4 hlen hname rest ih =>
    intro f1 f2 h1 h2
    obtain ⟨f1, rfl, h1'⟩ := fuel_step _ _ f1 h12 hlen h1
    obtain ⟨f2, rfl, h2'⟩ := fuel_step _ _ f2 h12 hlen h2
    have hdl : (r.drop (le16 r 4)).length = r.length - le16 r 4 := List.length_drop
    rw [parseEntriesNow_cons r f2 h12 hlen hname, parseEntries_cons Cfg.fixed r f1 h12 hlen hname (Or.inl rfl),
      ih f1 f2 (hdl ▸ h1') (hdl ▸ h2')]
    rfl

/-- block `b` of the directory data -/
def dirBlock (bs : Nat) (data : Bytes) (b : Nat) : Bytes := slice data (b * bs) (b * bs + bs)

theorem liveEntries_flatten (xss : List (List DirEnt)) :
    liveEntries xss.flatten = (xss.map liveEntries).flatten := by
  induction xss with
  | nil => rfl
  | cons xs xss ih =>
    simp only [List.flatten_cons, List.map_cons]
    rw [← ih]
    simp [liveEntries, List.filter_append]

/-- the 12-byte checksum tail of a leaf block as a directory record: inode 0, rec_len 12, no name -/
def CsTail (t : Bytes) : Prop := t.length = 12 ∧ le32 t 0 = 0 ∧ le16 t 4 = 12 ∧ u8 t 6 = 0

/-- what parseDirEntriesLinear parses of a block: with metadata_csum everything in front of the tail -/
def leafBody (csum : Bool) (bs : Nat) (blk : Bytes) : Bytes := if csum then blk.take (bs - 12) else blk

/-- a well-formed leaf: the records tile the block (with metadata_csum: tile the part in front of the tail, and
    the tail is there) -/
def LeafOK (csum : Bool) (bs : Nat) (blk : Bytes) : Prop :=
  if csum then 12 ≤ bs ∧ Tiles (blk.take (bs - 12)) ∧ CsTail (blk.drop (bs - 12)) else Tiles blk

/-- the records of block `b` as the mirror of the loop (as it is now) returns them; [] where it fails -/
def leafEntriesNow (csum : Bool) (bs : Nat) (data : Bytes) (b : Nat) : List DirEnt :=
  match parseEntriesNow (bs / 8 + 2) (leafBody csum bs (dirBlock bs data b)) with
  | .ok es => es
  | _ => []

theorem stripTails_block (bs : Nat) (blk : Bytes) (hl : blk.length = bs) (h12 : 12 ≤ bs) :
    stripTails (blk.length + 1) bs blk = .ok (blk.take (bs - 12)) := by
  have hne : blk.isEmpty = false := isEmpty_of_length_pos blk (by omega)
  obtain ⟨k, hk⟩ : ∃ k, blk.length = k + 1 := ⟨blk.length - 1, by omega⟩
  rw [stripTails]
  simp only [hne, (hasLen_iff blk bs).2 (by omega), List.drop_eq_nil_of_le (by omega : blk.length ≤ bs),
    Bool.false_eq_true, if_false, Bool.not_true]
  rw [hk, stripTails]
  simp

theorem csTail_walk (bs : Nat) (t : Bytes) (h : CsTail t) (h12 : 12 ≤ bs) (f : Nat) (acc : List Dirent) :
    dirWalk bs (f + 2) t (bs - 12) acc = .ok acc.reverse := by
  obtain ⟨hl, h32, h16, h6⟩ := h
  rw [dirWalk, if_neg (by omega), if_neg (by omega)]
  simp only [h32, h16, h6]
  rw [if_neg (by omega), if_neg (by simp), dirWalk_end _ _ _ _ _ (by omega)]
  simp

end Diskfs.Ext4.Reader
