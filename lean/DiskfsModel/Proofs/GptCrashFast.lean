/-
  An EXECUTABLE-FRIENDLY form of the any-geometry record-level reader: `flatReaderG` assembles an array
  bytewise (`asm`: quadratic to run on lists); `flatReaderGF` concatenates the
  sectors (`join`).  On every record view of a flat device (`toDiskG`) both read the same
  (`read_fast_eq`, `partRead_fast_eq`), so the model driver runs the fast one.
-/
import DiskfsModel.Proofs.GptCrashRead
namespace Diskfs.GptCrash
open Diskfs Diskfs.Gpt

def flatReaderGF (crc : Bytes → Nat) (g : Geo) : Reader Bytes (List Part) g.p :=
  { hdrP := (flatReaderG crc g).hdrP, hdrB := (flatReaderG crc g).hdrB,
    crc := fun a => crc (join a), parts := fun a => decodeArr (join a) g.lss }

theorem read_fast_eq {g : Geo} {size : Nat} (G : g.OK size) (crc : Bytes → Nat) (d : Dev) :
    GptCrash.read (flatReaderGF crc g) (toDiskG d g) = GptCrash.read (flatReaderG crc g) (toDiskG d g) := by
  have L := lay_of G
  have e : ∀ off, join (secs d g.lss g.ab g.p off) = asm g.lss g.ab (secs d g.lss g.ab g.p off) := by
    intro off; rw [join_secs L, asm_secs L]
  simp only [GptCrash.read, GptCrash.readBackup, flatReaderGF, toDiskG, e]
  rfl

theorem partRead_fast_eq {M : Type} {g : Geo} {size : Nat} (G : g.OK size) (crc : Bytes → Nat) (mv : Bytes → Option M) (d : Dev) :
    partRead (flatReaderGF crc g) mv (toDiskG d g) = partRead (flatReaderG crc g) mv (toDiskG d g) := by
  unfold partRead
  rw [read_fast_eq G crc d]

end Diskfs.GptCrash
