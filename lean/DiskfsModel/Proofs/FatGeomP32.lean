/-
  FAT32 geometry, parametric in the cluster-size table (see Proofs/FatGeomP.lean), in the sector
  size and cluster size themselves, and in the number `k` of FAT entries the sectors-per-FAT formula
  provides beyond one per cluster (`mkGeom32K`: 0 in fat32.Create as found, 2 after the repair): the
  arithmetic is done once, about variables.  What it needs of the row a size lands on is `rowNoWrap`
  (the uint16 sectors-per-FAT cannot wrap for the sizes the row serves); that the cluster size is a
  power of two plays no role in `Geom.WF`.
-/
import DiskfsModel.Proofs.FatGeomP
import DiskfsModel.Proofs.Arith
namespace Diskfs.Fat

/-- A FAT of `spf` sectors of `b` bytes has a 4-byte entry for each of the `D / spc` clusters and
    `k` more, if `spf` was sized for `x ≥ D + 2 * spf` sectors: a cluster costs `b * spc` bytes of
    data and 4 bytes in each of the two FATs, whence the divisor `b * spc + 8`. -/
theorem fat32_entries {b spc x spf D k : Nat} (hspc : 0 < spc)
    (h : 4 * x + 4 * (k * spc) ≤ spf * (b * spc + 8)) (hD : D + 2 * spf ≤ x) :
    D / spc + k ≤ spf * b / 4 := by
  rw [Nat.le_div_iff_mul_le (by decide)]
  apply Nat.le_of_mul_le_mul_right _ hspc
  have h1 := Nat.div_mul_le_self D spc
  rw [Nat.mul_add, ← Nat.mul_assoc spf] at h
  rw [Nat.mul_right_comm, Nat.add_mul]
  omega

/-- what the checks of fat32.Create behind the sectors-per-FAT computation establish, for any
    `spf` sized for `k` entries beyond the clusters: all of `Geom.WF` but the two reserved FAT entries,
    of which there are `k` -/
theorem geom32_of_checks {b spc size spf k : Nat} (hb : 0 < b) (hspc : 0 < spc)
    (hts : size / b < 4294967296)
    (hspf : 4 * (size / b - 32) + 4 * (k * spc) ≤ spf * (b * spc + 8))
    (c1 : ¬ u32 (size / b) ≤ 32 + 2 * spf)
    (c2 : ¬ u32 ((u32 (size / b) - 32 - 2 * spf) / spc) = 0) :
    let g : Geom := ⟨.f32, b, spc, 32, spf, 0, u32 (size / b)⟩
    g.clusters + k ≤ g.fatEntries ∧ (g.clusters + 2 ≤ g.fatEntries → g.WF size) := by
  rw [u32_of_lt hts] at c1 c2 ⊢
  have hrs : (0 * 32 + b - 1) / b = 0 := Nat.div_eq_of_lt (by omega)
  have hcl : Geom.clusters ⟨.f32, b, spc, 32, spf, 0, size / b⟩ = (size / b - 32 - 2 * spf) / spc := by
    simp only [Geom.clusters, Geom.dataSectors, Geom.rootSectors, hrs, Nat.sub_zero]
  refine ⟨?_, Geom.wf_of_clusters hb rfl (hcl ▸ Nat.pos_of_ne_zero fun h0 => c2 (by rw [h0]; rfl))⟩
  rw [hcl]
  show _ ≤ spf * b / 4
  exact fat32_entries hspc hspf (by omega)

/-- fat32.Create with `k` FAT entries provided for beyond one per cluster: the source as found has
    `k = 0`, the repaired one `k = 2` (the two reserved entries) -/
def mkGeom32K (k : Nat) (tbl : List (Nat × Nat)) (size blocksize : Nat) : Option Geom :=
  if blocksize ≠ 512 ∧ blocksize ≠ 4096 ∧ blocksize > 0 then none
  else
    let bs := if blocksize = 0 then 512 else blocksize
    if size > fat32MaxSize then none
    else if size < 32 * bs then none
    else
      let clusterBytes := sizeTableLookup tbl size
      let spc0 := u8 (clusterBytes / bs)
      let spc := if spc0 = 0 then 1 else spc0
      let ts := u32 (size / bs)
      let denom := u32 (u32 bs * spc + 8)
      let spf := u16 (sub32 (u32 (u32 (u32 (4 * sub32 ts 32) + u32 (4 * k * spc)) + denom)) 1 / denom)
      if ts ≤ 32 + 2 * spf then none
      else
        let ds := ts - 32 - 2 * spf
        let cc := u32 (ds / spc)
        if cc = 0 then none
        else if ds * bs < 32 * KB then none
        else some ⟨.f32, bs, spc, 32, spf, 0, ts⟩

theorem mkGeom32Fixed_eq_K : mkGeom32Fixed = mkGeom32K 2 := rfl

theorem mkGeom32_eq_K : mkGeom32 = mkGeom32K 0 := by
  funext tbl size bs
  have (x s : Nat) : u32 (u32 x + u32 (4 * 0 * s)) = u32 x := by simp [u32]
  unfold mkGeom32 mkGeom32K
  simp only [this]

/-- FAT32 row `(bound, clusterBytes)`: at both sector sizes the sectors-per-FAT value sized for `k`
    entries beyond the clusters fits its uint16 for the largest size the row serves below `cap` -/
def rowNoWrap (k : Nat) (cap : Nat → Nat) (r : Nat × Nat) : Bool :=
  [512, 4096].all fun bs =>
    let spc0 := r.2 / bs % 256
    let spc := if spc0 = 0 then 1 else spc0
    let d := bs * spc + 8
    let top := if r.1 = 0 then cap bs else min (r.1 - 1) (cap bs)
    decide (4 * (top / bs - 32) + 4 * k * spc + d - 1 < 65536 * d)

theorem row32Ok_eq : row32Ok = rowNoWrap 2 fat32Cap := rfl

/-- sectors per cluster as fat32.Create derives them from the table's cluster size: a non-zero byte -/
theorem spc32_range (cb b : Nat) :
    0 < (if u8 (cb / b) = 0 then 1 else u8 (cb / b)) ∧ (if u8 (cb / b) = 0 then 1 else u8 (cb / b)) < 256 := by
  unfold u8; split <;> omega

/-- fat32.Create's sectors-per-FAT value `uint16((n + d - 1) / d)` holds the `n` bytes it was sized
    for when no conversion wraps; `e` = 4 bytes for each FAT entry beyond the clusters (at most 2 entries for
    each of at most 256 sectors per cluster: 2048); 536993822 sectors are the largest size the as-found
    formula is claimed for (274940837375 bytes) in 512-byte sectors: 4 * ts + e + d stays below 2^32 -/
theorem spf32_holds {b spc ts e : Nat} (hb : b ≤ 4096) (hspc : spc < 256) (h32 : 32 ≤ ts)
    (hts : ts ≤ 536993822) (he : e ≤ 2048)
    (hnw : 4 * (ts - 32) + e + (b * spc + 8) - 1 < 65536 * (b * spc + 8)) :
    4 * (ts - 32) + e ≤
      u16 (sub32 (u32 (u32 (u32 (4 * sub32 (u32 ts) 32) + u32 e) + u32 (u32 b * spc + 8))) 1 /
        u32 (u32 b * spc + 8)) * (b * spc + 8) := by
  have hbs : b * spc ≤ 4096 * 256 := Nat.mul_le_mul hb (Nat.le_of_lt hspc)
  rw [u32_of_lt (x := b) (by omega), u32_of_lt (x := b * spc + 8) (by omega),
    u32_of_lt (x := e) (by omega), u32_of_lt (x := ts) (by omega),
    sub32_of_le h32 (by omega), u32_of_lt (x := 4 * (ts - 32)) (by omega),
    u32_of_lt (x := 4 * (ts - 32) + e) (by omega), u32_of_lt (by omega),
    sub32_of_le (by omega) (by omega), u16_of_lt ((Nat.div_lt_iff_lt_mul (by omega)).2 hnw)]
  exact (ceil_bounds _ _ (by omega)).1

/-- fat32.Create's geometry for every table whose rows meet `rowNoWrap k cap`, up to size `cap`:
    the FAT has `k` entries beyond the clusters, and with two the geometry is well formed -/
theorem mkGeom32K_wf {k : Nat} {cap : Nat → Nat} {tbl : List (Nat × Nat)} (hk : k ≤ 2)
    (hcap : ∀ b ∈ [512, 4096], cap b < 536993823 * b)
    (hT : ClusterTableWF clusterBytesAllowed tbl = true) (hR : tbl.all (rowNoWrap k cap) = true)
    {size bs : Nat} {g : Geom} (hmax : size ≤ fat32MaxSize → size ≤ cap (if bs = 0 then 512 else bs))
    (h : mkGeom32K k tbl size bs = some g) :
    g.clusters + k ≤ g.fatEntries ∧ (g.clusters + 2 ≤ g.fatEntries → g.WF size) ∧ g.kind = .f32 := by
  obtain ⟨r, hr, hl, hrow, -⟩ := lookup_row _ tbl size hT
  have hnw := List.all_eq_true.1 (List.all_eq_true.1 hR r hr)
  unfold mkGeom32K at h
  simp only [ite_none_eq_some, Option.some.injEq] at h
  obtain ⟨hbs, hhi, hlo, c1, c2, -, rfl⟩ := h
  replace hmax := hmax (Nat.not_lt.1 hhi)
  rw [hl] at c1 c2 ⊢
  generalize hb : (if bs = 0 then 512 else bs) = b at hmax hlo c1 c2 ⊢
  obtain ⟨hs0, hs1⟩ := spc32_range r.2 b
  generalize hspc : (if u8 (r.2 / b) = 0 then 1 else u8 (r.2 / b)) = spc at hs0 hs1 c1 c2 ⊢
  have hb' : b ∈ [512, 4096] := by split at hb <;> simp <;> omega
  have hc := hcap b hb'
  -- the row's bound at this sector size: the uint16 does not wrap
  replace hnw := hnw b hb'
  unfold u8 at hspc
  simp only [hspc, decide_eq_true_eq] at hnw
  have hdiv : size / b ≤ (if r.1 = 0 then cap b else min (r.1 - 1) (cap b)) / b :=
    Nat.div_le_div_right (by split <;> omega)
  have hx : b ≤ 4096 ∧ 0 < b ∧ 32 ≤ size / b ∧ size / b ≤ 536993822 := by
    simp only [List.mem_cons, List.not_mem_nil, or_false] at hb'
    rcases hb' with rfl | rfl <;> omega
  have he : 4 * k * spc ≤ 8 * 256 := Nat.mul_le_mul (by omega) (Nat.le_of_lt hs1)
  have hceil := spf32_holds hx.1 hs1 hx.2.2.1 hx.2.2.2 he (by omega)
  generalize u16 _ = spf at c1 c2 hceil ⊢
  rw [Nat.mul_assoc 4 k spc] at hceil
  obtain ⟨h1, h2⟩ := geom32_of_checks (k := k) hx.2.1 hs0 (by omega) hceil c1 c2
  exact ⟨h1, h2, rfl⟩

-- not used by the proofs in this file
set_option hygiene false in
macro "geom32p_block" B:num : tactic => `(tactic| (
  have hT0 : size / $B < 4294967296 := by omega
  rw [u32_of_lt hT0] at c1 c2 c3 ⊢
  have hT1 : $B * (size / $B) ≤ size := by omega
  have hT2 : size < $B * (size / $B) + $B := by omega
  have hT3 : 32 ≤ size / $B := by omega
  have hT6 : size / $B ≤ top / $B := Nat.div_le_div_right hle
  generalize size / $B = ts at *
  generalize top / $B = tt at *
  simp only [u8, Nat.reduceDiv, Nat.reduceMod, Nat.reduceEqDiff, ↓reduceIte] at c1 c2 c3 ⊢
  simp only [Nat.reduceDiv, Nat.reduceMod, Nat.reduceEqDiff, ↓reduceIte, Nat.reduceMul, Nat.reduceAdd] at hnw
  generalize hd : u32 (u32 _ * _ + 8) = d at c1 c2 c3 ⊢
  simp only [u32, Nat.reduceMod, Nat.reduceMul, Nat.reduceAdd] at hd
  generalize he : u32 (8 * _) = e at c1 c2 c3 ⊢
  simp only [u32, Nat.reduceMod, Nat.reduceMul] at he
  rw [sub32_of_le hT3 (by omega)] at c1 c2 c3 ⊢
  rw [spf32fix_eq d (ts - 32) e (by omega) (by omega) (by omega) (by omega) (by omega)] at c1 c2 c3 ⊢
  subst hd
  subst he
  simp only [u32] at c2
  simp only [KB] at c3
  refine ⟨⟨?_, ?_, ?_, ?_, ?_, ?_⟩, ?_⟩ <;>
    (try simp only [Geom.rootSectors, Geom.dataSectors, Geom.clusters, Geom.fatEntries, Geom.dataStart]) <;>
    first | trivial | omega ))

theorem mkGeom32Fixed_wf_tbl (tbl : List (Nat × Nat)) (hT : ClusterTableWF32 tbl = true)
    (size bs : Nat) (g : Geom) (hmax : size ≤ 274940771839 ∨ bs = 4096)
    (h : mkGeom32Fixed tbl size bs = some g) :
    g.WF size ∧ g.kind = .f32 := by
  unfold ClusterTableWF32 at hT
  rw [Bool.and_eq_true] at hT
  obtain ⟨h1, h2, h3⟩ := mkGeom32K_wf (k := 2) (by decide) (by decide) hT.1 (row32Ok_eq ▸ hT.2)
    (fun _ => by unfold fat32Cap; split <;> split <;> omega) (mkGeom32Fixed_eq_K ▸ h)
  exact ⟨h2 h1, h3⟩

end Diskfs.Fat
