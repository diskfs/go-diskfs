/-
  The ext4 link-count / used-directories bookkeeping (Model/Ext4/Links.lean): under their guards `mkEntry` and
  `rmEntry` keep `LinkInv`.  Both proofs first say how the two counts of the invariant (`subdirs`, `dirsIn`) move:
  the old entries are counted as before, the new one is added / the removed one, which occurs once in `live`, is
  taken out (`countP_filter_ne`); the four clauses then follow by cases on the kind of the entry.
-/
import DiskfsModel.Model.Ext4.Links
namespace Diskfs.Ext4.Links

theorem countP_filter_ne (q : Nat → Bool) (k : Nat) (l : List Nat) (hnd : l.Nodup) (hk : k ∈ l) :
    (l.filter (· != k)).countP q + (if q k then 1 else 0) = l.countP q := by
  rw [← hnd.erase_eq_filter, (List.perm_cons_erase hk).countP_eq q, List.countP_cons]

theorem mem_filter_ne {l : List Nat} {k n : Nat} : n ∈ l.filter (· != k) ↔ n ∈ l ∧ n ≠ k := by
  simp [List.mem_filter]

@[simp] theorem upd_same (f : Nat → Nat) (k v : Nat) : upd f k v k = v := by simp [upd]
theorem upd_ne (f : Nat → Nat) (k v i : Nat) (h : i ≠ k) : upd f k v i = f i := by simp [upd, h]
@[simp] theorem updB_same (f : Nat → Bool) (k : Nat) (v : Bool) : updB f k v k = v := by simp [updB]
theorem updB_ne (f : Nat → Bool) (k : Nat) (v : Bool) (i : Nat) (h : i ≠ k) : updB f k v i = f i := by simp [updB, h]

theorem mkEntry_inv (s : LState) (p k : Nat) (dir : Bool) (h : LinkInv s) (hg : mkGuard s p k) :
    LinkInv (mkEntry s p k dir) := by
  obtain ⟨hp, hpd, hk⟩ := hg
  have hpk : p ≠ k := fun e => hk (e ▸ hp)
  have hne : ∀ n ∈ s.live, n ≠ k := fun n hn e => hk (e ▸ hn)
  have eIsDir : ∀ n, n ≠ k → (mkEntry s p k dir).isDir n = s.isDir n := fun n hn => updB_ne _ _ _ _ hn
  have eIsDirK : (mkEntry s p k dir).isDir k = dir := updB_same _ _ _
  have eParent : ∀ n, n ≠ k → (mkEntry s p k dir).parent n = s.parent n := fun n hn => upd_ne _ _ _ _ hn
  have eParentK : (mkEntry s p k dir).parent k = p := upd_same _ _ _
  have eLinks : (mkEntry s p k dir).links =
      if dir then upd (upd s.links p (s.links p + 1)) k 2 else upd s.links k 1 := rfl
  have eUsed : (mkEntry s p k dir).usedDirs =
      if dir then upd s.usedDirs (groupOf s k) (s.usedDirs (groupOf s k) + 1) else s.usedDirs := rfl
  -- the counts after the call: the old entries are counted as before, then the new one
  have hsub : ∀ d, d ≠ k → subdirs (mkEntry s p k dir) d = subdirs s d + (if dir && p == d then 1 else 0) := by
    intro d hd
    show (k :: s.live).countP _ = s.live.countP _ + _
    rw [List.countP_cons]
    congr 1
    · exact List.countP_congr fun n hn => by rw [eIsDir n (hne n hn), eParent n (hne n hn)]
    · rw [eIsDirK, eParentK]; simp [Ne.symm hd]
  have hsubk : subdirs (mkEntry s p k dir) k = 0 := by
    show (k :: s.live).countP _ = _
    rw [List.countP_cons, List.countP_eq_zero.2]
    · simp
    · intro n hn
      have : s.parent n ≠ k := fun e => hk (e ▸ (h.parentLive n hn).1)
      simp [eParent n (hne n hn), this]
  have hdirs : ∀ g, dirsIn (mkEntry s p k dir) g = dirsIn s g + (if dir && groupOf s k == g then 1 else 0) := by
    intro g
    show (k :: s.live).countP _ = s.live.countP _ + _
    rw [List.countP_cons]
    congr 1
    · exact List.countP_congr fun n hn => by rw [eIsDir n (hne n hn)]; rfl
    · rw [eIsDirK]; rfl
  refine ⟨List.nodup_cons.2 ⟨hk, h.nodup⟩, ?_, ?_, ?_, ?_⟩
  · intro n hn
    show (mkEntry s p k dir).parent n ∈ k :: s.live ∧ _
    rcases List.mem_cons.1 hn with rfl | hn'
    · rw [eParentK, eIsDir p hpk]
      exact ⟨List.mem_cons_of_mem _ hp, hpd⟩
    · have h1 := h.parentLive n hn'
      have h2 : s.parent n ≠ k := fun e => hk (e ▸ h1.1)
      rw [eParent n (hne n hn'), eIsDir _ h2]
      exact ⟨List.mem_cons_of_mem _ h1.1, h1.2⟩
  · intro d hd hdir
    rcases List.mem_cons.1 hd with rfl | hd''
    · rw [eIsDirK] at hdir
      subst hdir
      simp [hsubk, eLinks]
    · have hdk := hne d hd''
      rw [eIsDir d hdk] at hdir
      have hl := h.dirLinks d hd'' hdir
      -- `d` gains a link exactly when it gains a sub-directory
      rw [hsub d hdk, eLinks]
      by_cases hpd' : p = d
      · subst hpd'
        cases dir <;> simp [upd, hdk, hl] <;> omega
      · cases dir <;> simp [upd, hdk, hpd', Ne.symm hpd', hl]
  · intro n hn hfile
    rcases List.mem_cons.1 hn with rfl | hn''
    · rw [eIsDirK] at hfile
      subst hfile
      simp [eLinks]
    · have hnk := hne n hn''
      rw [eIsDir n hnk] at hfile
      have hnp : n ≠ p := fun e => by rw [e, hpd] at hfile; cases hfile
      rw [eLinks]
      cases dir <;> simp [upd, hnk, hnp, h.fileLinks n hn'' hfile]
  · intro g
    rw [hdirs g, eUsed]
    by_cases hgk : groupOf s k = g
    · subst hgk
      cases dir <;> simp [upd, h.used]
    · cases dir <;> simp [upd, hgk, Ne.symm hgk, h.used]

theorem rmEntry_inv (s : LState) (k : Nat) (h : LinkInv s) (hg : rmGuard s k) : LinkInv (rmEntry s k) := by
  -- the middle conjunct, `parent k ≠ k`, is Remove's own refusal of the root; the invariant does not need it
  obtain ⟨hk, _, hleaf⟩ := hg
  obtain ⟨hp, hpd⟩ := h.parentLive k hk
  have eLinks : (rmEntry s k).links =
      if s.isDir k && decide (s.links (s.parent k) > 0) then upd s.links (s.parent k) (s.links (s.parent k) - 1)
      else s.links := rfl
  have eUsed : (rmEntry s k).usedDirs =
      if s.isDir k then upd s.usedDirs (groupOf s k) (s.usedDirs (groupOf s k) - 1) else s.usedDirs := rfl
  have hsub : ∀ d, d ≠ k → subdirs (rmEntry s k) d + (if s.isDir k && s.parent k == d then 1 else 0) = subdirs s d := by
    intro d hd
    have := countP_filter_ne (fun n => s.isDir n && s.parent n == d && n != d) k s.live h.nodup hk
    have hkd : (k != d) = true := by simp [Ne.symm hd]
    rw [hkd, Bool.and_true] at this
    exact this
  have hdirs : ∀ g, dirsIn (rmEntry s k) g + (if s.isDir k && groupOf s k == g then 1 else 0) = dirsIn s g := by
    intro g
    exact countP_filter_ne (fun n => s.isDir n && groupOf s n == g) k s.live h.nodup hk
  -- the parent is a directory: it has at least two links
  have hpos : s.links (s.parent k) > 0 := by
    have := h.dirLinks _ hp hpd
    omega
  refine ⟨h.nodup.filter _, ?_, ?_, ?_, ?_⟩
  · intro n hn
    obtain ⟨hn1, hn2⟩ := mem_filter_ne.1 hn
    have h1 := h.parentLive n hn1
    exact ⟨mem_filter_ne.2 ⟨h1.1, hleaf n hn1 hn2⟩, h1.2⟩
  · intro d hd hdir
    obtain ⟨hd1, hd2⟩ := mem_filter_ne.1 hd
    have hl := h.dirLinks d hd1 hdir
    have hs := hsub d hd2
    rw [eLinks]
    by_cases hdp : s.parent k = d
    · subst hdp
      cases hkd : s.isDir k <;> simp [hkd, upd, hpos] at hs ⊢ <;> omega
    · cases hkd : s.isDir k <;> simp [hkd, upd, hpos, hdp, Ne.symm hdp] at hs ⊢ <;> omega
  · intro n hn hfile
    have hfile' : s.isDir n = false := hfile
    have hl := h.fileLinks n (mem_filter_ne.1 hn).1 hfile'
    have hnp : n ≠ s.parent k := fun e => by rw [e, hpd] at hfile'; cases hfile'
    rw [eLinks]
    split
    · rw [upd_ne _ _ _ _ hnp]; exact hl
    · exact hl
  · intro g
    have hd := hdirs g
    rw [eUsed]
    by_cases hgk : groupOf s k = g
    · subst hgk
      cases hkd : s.isDir k <;> simp [hkd, upd, h.used] at hd ⊢ <;> omega
    · cases hkd : s.isDir k <;> simp [hkd, upd, h.used, hgk, Ne.symm hgk] at hd ⊢ <;> omega

end Diskfs.Ext4.Links
