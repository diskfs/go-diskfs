/-
  Inode addressing of the ext4 reader (Model/Ext4/InodeLoc.lean): the layout of a 64-byte group descriptor as a
  record of little-endian fields and the table of such descriptors, joining the halves of a split number, and
  where `inodeLoc` reads a valid inode number (`inodeLoc_valid`).
-/
import DiskfsModel.Model.Ext4.InodeLoc
import DiskfsModel.Proofs.Ext4Reader
import DiskfsModel.Proofs.Arith
namespace Diskfs.Ext4.Reader

/-- the on-disk layout of a 64-byte group descriptor (struct ext4_group_desc): low halves in the first
    32 bytes, high halves behind; `csum` and `rsv` are the checksum and reserved words -/
def gdFields (v : GdInfo) (csum rsv : Nat) : List (Nat × Nat) :=
  [ (4, v.blockBitmap), (4, v.inodeBitmap), (4, v.inodeTable), (2, v.freeBlocks), (2, v.freeInodes),
    (2, v.usedDirs), (2, v.flags), (4, v.exclBitmap), (2, v.blockBitmapCsum), (2, v.inodeBitmapCsum),
    (2, v.unusedInodes), (2, csum),
    (4, v.blockBitmap / 4294967296), (4, v.inodeBitmap / 4294967296), (4, v.inodeTable / 4294967296),
    (2, v.freeBlocks / 65536), (2, v.freeInodes / 65536), (2, v.usedDirs / 65536),
    (2, v.unusedInodes / 65536), (4, v.exclBitmap / 4294967296), (2, v.blockBitmapCsum / 65536),
    (2, v.inodeBitmapCsum / 65536), (4, rsv) ]

def gdEncode (v : GdInfo) (csum rsv : Nat) : Bytes := encFields (gdFields v csum rsv)

theorem gdEncode_length (v : GdInfo) (csum rsv : Nat) : (gdEncode v csum rsv).length = 64 := by
  simp [gdEncode, encFields_length, gdFields]

/-- values a 64-byte descriptor can hold -/
def GdWF64 (v : GdInfo) : Prop :=
  v.blockBitmap < 18446744073709551616 ∧ v.inodeBitmap < 18446744073709551616 ∧
  v.inodeTable < 18446744073709551616 ∧ v.exclBitmap < 18446744073709551616 ∧
  v.freeBlocks < 4294967296 ∧ v.freeInodes < 4294967296 ∧ v.usedDirs < 4294967296 ∧
  v.unusedInodes < 4294967296 ∧ v.blockBitmapCsum < 4294967296 ∧ v.inodeBitmapCsum < 4294967296 ∧
  v.flags < 65536

/-- the low halves: what a 32-byte descriptor holds, and what a reader that ignores the high halves sees -/
def gdLow (v : GdInfo) : GdInfo :=
  { blockBitmap := v.blockBitmap % 4294967296, inodeBitmap := v.inodeBitmap % 4294967296,
    inodeTable := v.inodeTable % 4294967296, freeBlocks := v.freeBlocks % 65536,
    freeInodes := v.freeInodes % 65536, usedDirs := v.usedDirs % 65536,
    unusedInodes := v.unusedInodes % 65536, exclBitmap := v.exclBitmap % 4294967296,
    blockBitmapCsum := v.blockBitmapCsum % 65536, inodeBitmapCsum := v.inodeBitmapCsum % 65536,
    flags := v.flags % 65536 }

theorem compose32_halves (n : Nat) (h : n < 18446744073709551616) :
    compose32 (n % 4294967296) (n / 4294967296 % 4294967296) = n :=
  halves_join n 4294967296 4294967296 h

theorem compose16_halves (n : Nat) (h : n < 4294967296) : compose16 (n % 65536) (n / 65536 % 65536) = n :=
  halves_join n 65536 65536 h

theorem gdEncode_words (v : GdInfo) (csum rsv : Nat) (tail : Bytes) :
    HoldsAt (gdEncode v csum rsv ++ tail) 0 (gdFields v csum rsv) :=
  holdsAt_enc (gdFields v csum rsv) [] tail

/-- the on-disk table of 64-byte descriptors -/
def gdtEncode (vs : List (GdInfo × Nat × Nat)) : Bytes := vs.flatMap fun p => gdEncode p.1 p.2.1 p.2.2

theorem gdtEncode_length (vs : List (GdInfo × Nat × Nat)) : (gdtEncode vs).length = 64 * vs.length := by
  rw [gdtEncode, List.flatMap_def, map_flatten_length _ 64 fun p => gdEncode_length ..]

theorem gdtEncode_slice (vs : List (GdInfo × Nat × Nat)) (i : Nat) (h : i < vs.length) :
    slice (gdtEncode vs) (i * 64) (i * 64 + 64) = gdEncode vs[i].1 vs[i].2.1 vs[i].2.2 := by
  rw [slice, Nat.add_sub_cancel_left, Nat.mul_comm, gdtEncode, List.flatMap_def]
  exact map_flatten_get _ 64 (fun p => gdEncode_length ..) vs i h

theorem slot_end_le (i n s : Nat) (h : i < n) : i * s + s ≤ n * s := by
  have := Nat.mul_le_mul_right s (Nat.succ_le_of_lt h)
  rwa [Nat.succ_mul] at this

/-- descriptors well formed for a geometry: one table of `inodesPerGroup*inodeSize` bytes per group,
    ending below 2^63 bytes (int64 offsets), at most 2^32 bytes long, tables of different groups disjoint -/
def TablesWF (g : InoGeo) (tables : List Nat) : Prop :=
  0 < g.inodesPerGroup ∧ 0 < g.inodeSize ∧ g.inodesPerGroup * g.inodeSize ≤ 4294967296 ∧
  (∀ i, i < tables.length →
    tables.getD i 0 * g.blockSize + g.inodesPerGroup * g.inodeSize ≤ 9223372036854775808) ∧
  (∀ i j, i < j → j < tables.length →
    tables.getD i 0 * g.blockSize + g.inodesPerGroup * g.inodeSize ≤ tables.getD j 0 * g.blockSize ∨
    tables.getD j 0 * g.blockSize + g.inodesPerGroup * g.inodeSize ≤ tables.getD i 0 * g.blockSize)

theorem inodeLoc_valid (g : InoGeo) (tables : List Nat) (h : TablesWF g tables) (n : Nat)
    (h1 : 1 ≤ n) (h2 : n ≤ tables.length * g.inodesPerGroup) :
    (n - 1) / g.inodesPerGroup < tables.length ∧
    inodeLoc g tables n = some (tables.getD ((n - 1) / g.inodesPerGroup) 0 * g.blockSize +
      (n - 1) % g.inodesPerGroup * g.inodeSize, g.inodeSize) ∧
    (n - 1) % g.inodesPerGroup * g.inodeSize + g.inodeSize ≤ g.inodesPerGroup * g.inodeSize := by
  obtain ⟨hipg, hisz, h32, h64, _⟩ := h
  have hbg : (n - 1) / g.inodesPerGroup < tables.length := by
    rw [Nat.div_lt_iff_lt_mul hipg]; omega
  have hidx : (n - 1) % g.inodesPerGroup < g.inodesPerGroup := Nat.mod_lt _ hipg
  have hin := slot_end_le _ _ g.inodeSize hidx
  refine ⟨hbg, ?_, hin⟩
  unfold inodeLoc
  rw [if_neg (by omega)]
  simp only []
  rw [if_neg (by omega)]
  have h63 := h64 _ hbg
  rw [Nat.mod_eq_of_lt (a := _ * g.blockSize) (by omega), Nat.mod_eq_of_lt (a := _ * g.inodeSize) (by omega),
    Nat.mod_eq_of_lt (by omega)]

end Diskfs.Ext4.Reader
