/-
  C09 for the layout this library writes for a fresh table on 512- or 4096-byte sectors (16 KiB array at
  LBA 2, backup header at the last LBA with its array right before it), as the instance `stdGeo` of the
  any-geometry development: the record view `toDisk` is `viewOf` with `16384 / lss` array sectors, the
  reader `flatReader` is `readerOf` with the sectors concatenated, `write` of a fresh table is `writeUp` of
  the table `initTableUp` makes of it, and the collision premise on concatenated sectors (`mixBytes`) is
  the bytewise one (`mixArr`).
-/
import DiskfsModel.Proofs.GptCrashAtomic
namespace Diskfs.GptCrash
open Diskfs Diskfs.Gpt

/-- byte offset of the backup array / the backup header on a device of `size` bytes -/
def oBA (size lss : Nat) : Nat := (size / lss - 1 - 16384 / lss) * lss
def oBH (size lss : Nat) : Nat := (size / lss - 1) * lss

def toDisk (d : Dev) (size lss : Nat) : Disk Bytes (16384 / lss) :=
  { mbr := readAt d 0 lss, ph := readAt d lss lss,
    pa := fun i => readAt d (2 * lss + i.val * lss) lss,
    ba := fun i => readAt d (oBA size lss + i.val * lss) lss,
    bh := readAt d (oBH size lss) lss }

/-- the record-level reader built from the model's real decoders: `readHeader` (signature, revision,
    size, header CRC) plus the geometry the library writes — primary array at LBA 2, backup header saying
    it lives at the last LBA with its array right before it, 128 entries of 128 bytes —, the CRC of the
    16 KiB array, and `decodeArr` for the partition list -/
def flatReader (crc : Bytes → Nat) (size lss : Nat) : Reader Bytes (List Part) (16384 / lss) :=
  { hdrP := fun s => match readHeader crc s with
      | .ok h => if h.arrLBA = 2 ∧ h.count = 128 ∧ h.entSize = 128 then some h.arrCrc else none
      | _ => none,
    hdrB := fun s => match readHeader crc s with
      | .ok h => if h.myLBA = size / lss - 1 ∧ h.arrLBA = size / lss - 1 - 16384 / lss ∧ h.count = 128 ∧ h.entSize = 128
                 then some h.arrCrc else none
      | _ => none,
    crc := fun a => crc (join a),
    parts := fun a => decodeArr (join a) lss }

/-- geometry premise: a sector at LBA 1 that readGPTHeader accepts describes the array this library writes -/
def PStd (crc : Bytes → Nat) (d : Dev) (lss : Nat) : Prop :=
  ∀ h, readHeader crc (readAt d lss lss) = .ok h → h.arrLBA = 2 ∧ h.count = 128 ∧ h.entSize = 128

/-- …and one at the last LBA that says it lives there describes the backup array this library writes -/
def BStd (crc : Bytes → Nat) (d : Dev) (size lss : Nat) : Prop :=
  ∀ h, readHeader crc (readAt d (oBH size lss) lss) = .ok h → h.myLBA = size / lss - 1 →
    h.arrLBA = size / lss - 1 - 16384 / lss ∧ h.count = 128 ∧ h.entSize = 128

/-- the geometry of a fresh table on a device of `size` bytes.  With it `flatReader crc size lss` is
    `readerOf crc (stdGeo size lss) join`, and `PStd`, `BStd`, `OldOkFlat` are `PStdG`, `BStdG`,
    `OldOkFlatG`, all by unfolding.  The definitions of this file are written out, not defined through the general
    ones, because the statements of Props/C09 about this layout are written in them; what follows bridges each to
    its general form (`toDisk_eq`, `sectors_eq`, `mixBytes_eq`, `oldOk_std`, `lay_std` from `Layout`, `std_ok`). -/
def stdGeo (size lss : Nat) : Geo := ⟨lss, 128, 2, size / lss - 1 - 16384 / lss, size / lss - 1⟩

theorem stdGeo_ab (size lss : Nat) : (stdGeo size lss).ab = 16384 := by
  -- `128 * 128` first: the kernel evaluates closed numerals only
  show 128 * 128 = 16384
  rfl

theorem nsec_mul (lss : Nat) (hl : lss = 512 ∨ lss = 4096) : 16384 / lss * lss = 16384 := by
  rcases hl with rfl | rfl <;> rfl

/-! ### layout: the five regions, in order, disjoint, inside the disk -/

structure Layout (size lss : Nat) : Prop where
  h512 : 512 ≤ lss
  hn : 16384 / lss * lss = 16384
  e1 : 2 * lss + 16384 ≤ oBA size lss
  e2 : oBA size lss + 16384 = oBH size lss

/-- the minimum disk size is what makes the five regions pairwise disjoint -/
theorem layout_of (size lss : Nat) (hl : lss = 512 ∨ lss = 4096) (hmin : (2 * (16384 / lss) + 3) * lss ≤ size) :
    Layout size lss := by
  rcases hl with rfl | rfl <;> exact ⟨by omega, by omega, by unfold oBA; omega, by unfold oBA oBH; omega⟩

theorem lay_std {size lss : Nat} (L : Layout size lss) : Lay (stdGeo size lss) (16384 / lss) := by
  have h512 := L.h512; have hn := L.hn; have e1 := L.e1; have e2 := L.e2
  unfold oBA oBH at *
  refine ⟨h512, ?_, ?_, ?_, ?_, ?_⟩ <;> simp only [stdGeo, Geo.ab] <;> omega

theorem std_ok (size lss : Nat) (hl : lss = 512 ∨ lss = 4096) (hmin : (2 * (16384 / lss) + 3) * lss ≤ size)
    (hsz : size < two63) : (stdGeo size lss).OK size ∧ 16384 / lss = (stdGeo size lss).p := by
  have hq : 2 * (16384 / lss) + 3 ≤ size / lss := (Nat.le_div_iff_mul_le (by omega)).2 hmin
  have hp : 16384 / lss = (128 * 128 + lss - 1) / lss := by rcases hl with rfl | rfl <;> rfl
  refine ⟨⟨show 512 ≤ lss by omega, show 1 ≤ 128 by omega, ?_, Nat.le_refl 2, ?_, ?_, rfl, hsz⟩, hp⟩
  · show 128 * 128 ≤ 67108864; omega
  · show 2 + (128 * 128 + lss - 1) / lss ≤ size / lss - 1 - 16384 / lss; omega
  · show size / lss - 1 - 16384 / lss + (128 * 128 + lss - 1) / lss ≤ size / lss - 1; omega

/-- the sectors of a 16 KiB array -/
def sectors (lss : Nat) (a : Bytes) : Fin (16384 / lss) → Bytes := fun i => slice a (i.val * lss) (i.val * lss + lss)

theorem secLen_std {size lss : Nat} (L : Layout size lss) (i : Fin (16384 / lss)) : secLen lss (128 * 128) i.val = lss := by
  have := (sec_in (lay_std L) i).2.2.2
  have hn := L.hn
  unfold secLen
  show min lss (128 * 128 - i.val * lss) = lss
  have : i.val * lss + lss ≤ 16384 / lss * lss := this
  omega

theorem secs_std {size lss : Nat} (L : Layout size lss) (d : Dev) (off : Nat) :
    (fun i : Fin (16384 / lss) => readAt d (off + i.val * lss) lss) = secs d lss (128 * 128) (16384 / lss) off :=
  funext fun i => by rw [secs, secLen_std L]

theorem toDisk_eq {size lss : Nat} (L : Layout size lss) (d : Dev) :
    toDisk d size lss = viewOf d (stdGeo size lss) (16384 / lss) :=
  disk_ext _ _ rfl rfl (secs_std L d _) (secs_std L d _) rfl

/-- 16 KiB read sector by sector, wherever they lie: no minimum device size is needed, any `Layout` with
    this sector size will do -/
theorem join_std (d : Dev) (lss off : Nat) (hl : lss = 512 ∨ lss = 4096) :
    join (fun i : Fin (16384 / lss) => readAt d (off + i.val * lss) lss) = readAt d off 16384 := by
  have L := layout_of _ lss hl (Nat.le_refl ((2 * (16384 / lss) + 3) * lss))
  rw [secs_std L]
  exact (join_secs (lay_std L) d off).trans (congrArg _ (stdGeo_ab _ lss))

theorem toDisk_pa_join (d : Dev) (size lss : Nat) (hl : lss = 512 ∨ lss = 4096) :
    join (toDisk d size lss).pa = readAt d (2 * lss) 16384 :=
  join_std d lss _ hl

theorem toDisk_ba_join (d : Dev) (size lss : Nat) (hl : lss = 512 ∨ lss = 4096) :
    join (toDisk d size lss).ba = readAt d (oBA size lss) 16384 :=
  join_std d lss _ hl

theorem sectors_eq {size lss : Nat} (L : Layout size lss) (a : Bytes) :
    sectors lss a = sectorsG (stdGeo size lss).lss (stdGeo size lss).ab (16384 / lss) a := by
  funext i
  show _ = slice a _ (_ + secLen lss (128 * 128) i.val)
  rw [secLen_std L]
  rfl

section fields
variable {size lss : Nat}

theorem toDisk_write_ba (L : Layout size lss) (D : Dev) (a : Bytes) (ha : a.length = 16384) :
    toDisk (applyWr D ⟨oBA size lss, a⟩) size lss = { toDisk D size lss with ba := sectors lss a } := by
  simp only [toDisk_eq L, sectors_eq L]
  exact view_write_ba (lay_std L) D a (ha.trans (stdGeo_ab size lss).symm)

theorem toDisk_write_pa (L : Layout size lss) (D : Dev) (a : Bytes) (ha : a.length = 16384) :
    toDisk (applyWr D ⟨2 * lss, a⟩) size lss = { toDisk D size lss with pa := sectors lss a } := by
  simp only [toDisk_eq L, sectors_eq L]
  exact view_write_pa (lay_std L) D a (ha.trans (stdGeo_ab size lss).symm)

theorem toDisk_write_bh (L : Layout size lss) (D : Dev) (b : Bytes) (hb : b.length = lss) :
    toDisk (applyWr D ⟨oBH size lss, b⟩) size lss = { toDisk D size lss with bh := b } := by
  simp only [toDisk_eq L]
  exact view_write_bh (lay_std L) D b hb

theorem toDisk_write_ph (L : Layout size lss) (D : Dev) (b : Bytes) (hb : b.length = lss) :
    toDisk (applyWr D ⟨lss, b⟩) size lss = { toDisk D size lss with ph := b } := by
  simp only [toDisk_eq L]
  exact view_write_ph (lay_std L) D b hb

theorem toDisk_write_pm (L : Layout size lss) (D : Dev) (pm : Bytes) (hpm : pm.length = 66) :
    toDisk (applyWr D ⟨446, pm⟩) size lss =
      { toDisk D size lss with mbr := readAt (applyWr D ⟨446, pm⟩) 0 lss } := by
  simp only [toDisk_eq L]
  exact view_write_pm (lay_std L) D pm hpm

theorem toDisk_torn_ba (L : Layout size lss) (D : Dev) (a : Bytes) (ha : a.length = 16384) (keep : Nat → Bool) :
    toDisk (applyWrs D (tornPieces lss ⟨oBA size lss, a⟩ keep)) size lss =
      { toDisk D size lss with ba := mix (fun i => keep i.val) (sectors lss a) (toDisk D size lss).ba } := by
  simp only [toDisk_eq L, sectors_eq L]
  exact view_torn_ba (lay_std L) D a (ha.trans (stdGeo_ab size lss).symm) keep

theorem toDisk_torn_pa (L : Layout size lss) (D : Dev) (a : Bytes) (ha : a.length = 16384) (keep : Nat → Bool) :
    toDisk (applyWrs D (tornPieces lss ⟨2 * lss, a⟩ keep)) size lss =
      { toDisk D size lss with pa := mix (fun i => keep i.val) (sectors lss a) (toDisk D size lss).pa } := by
  simp only [toDisk_eq L, sectors_eq L]
  exact view_torn_pa (lay_std L) D a (ha.trans (stdGeo_ab size lss).symm) keep

end fields

/-- the 16 KiB array whose sector `i` is `new`'s where `keep i` and `old`'s elsewhere -/
def mixBytes (lss : Nat) (keep : Nat → Bool) (new old : Bytes) : Bytes :=
  (List.range (16384 / lss)).flatMap fun i =>
    if keep i then slice new (i * lss) (i * lss + lss) else slice old (i * lss) (i * lss + lss)

/-- explicit premise (CRC32 is not collision free): no sector-wise mixture of the old and the new entry
    array has the old array's CRC unless it IS the old or the new array.  Evaluated with the real CRC32
    on every generated pair by the correspondence run. -/
def NoCrcCollisionFlat (crc : Bytes → Nat) (lss : Nat) (old new : Bytes) : Prop :=
  ∀ keep : Nat → Bool, crc (mixBytes lss keep new old) = crc old →
    mixBytes lss keep new old = old ∨ mixBytes lss keep new old = new

/-- the old device carries a valid primary GPT of the geometry this library writes: the sector at LBA 1
    passes readGPTHeader, names an array of 128 × 128 bytes at LBA 2, and records that array's CRC -/
def OldOkFlat (crc : Bytes → Nat) (d0 : Dev) (lss : Nat) : Prop :=
  ∃ h, readHeader crc (readAt d0 lss lss) = .ok h ∧ h.arrLBA = 2 ∧ h.count = 128 ∧ h.entSize = 128 ∧
    h.arrCrc = crc (readAt d0 (2 * lss) 16384)

theorem oldOk_std (crc : Bytes → Nat) (d : Dev) (size lss : Nat) :
    OldOkFlat crc d lss ↔ OldOkFlatG crc d (stdGeo size lss) := by
  -- `128 * 128` first: the kernel evaluates closed numerals only
  show (∃ h : Hdr, _ ∧ _ ∧ _ ∧ _ ∧ h.arrCrc = crc (readAt d (2 * lss) (128 * 128))) ↔ _
  exact Iff.rfl

theorem mixBytes_eq {size lss : Nat} (L : Layout size lss) (keep : Nat → Bool) (new old : Bytes)
    (h1 : new.length = 16384) (h2 : old.length = 16384) : mixBytes lss keep new old = mixArr lss keep new old := by
  -- `mixBytes` joins the sector-wise mixture of the two arrays: `cat_mix`, with the arrays taken as devices
  have hd : ∀ b : Bytes, b.length = 16384 → readAt (fun j => b.getD j 0) 0 (stdGeo size lss).ab = b := fun b hb => by
    rw [stdGeo_ab, ← hb, readAt_list b 0 _ (by omega), List.drop_zero, List.take_length]
  have e := cat_mix (lay_std L) join (fun d off => join_secs (lay_std L) d off)
    (fun j => old.getD j 0) (fun j => new.getD j 0) 0 keep
  rw [secs_eq (lay_std L) _ 0 new (hd new h1), secs_eq (lay_std L) _ 0 old (hd old h2), hd new h1, hd old h2,
    ← sectors_eq L, ← sectors_eq L] at e
  refine Eq.trans ?_ e
  rw [mixBytes, join, List.flatMap_def, List.flatMap_def]
  refine congrArg _ (List.map_congr_left fun i hi => ?_)
  rw [dif_pos (List.mem_range.1 hi), mix]
  cases keep i <;> rfl

theorem fresh_std (c : Cfg) (crc : Bytes → Nat) (t0 : Table) (size : Nat) (hf : Fresh t0)
    (hl : t0.lss = 512 ∨ t0.lss = 4096) (hg : t0.guid.length = 16) (hsz : size < two63)
    (hmin : (2 * (16384 / t0.lss) + 3) * t0.lss ≤ size) :
    ∃ T : Table, GeomWF T size ∧ T.pmbr = t0.pmbr ∧ T.lss = t0.lss ∧ arrBytes T = 16384 ∧ geoOf T = stdGeo size t0.lss ∧
      writeUp c crc T size = write c crc t0 size := by
  have hmin' : (2 * ((16384 + t0.lss - 1) / t0.lss) + 3) * t0.lss ≤ size := by
    rcases hl with h | h <;> rw [h] at hmin ⊢ <;> omega
  obtain ⟨hgw, _, _, hpm, hlT, hac⟩ := initTableUp_geom t0 size hf (by rcases hl with h | h <;> omega) hg hsz hmin'
  refine ⟨initTableUp t0 size, hgw, hpm, hlT, by unfold arrBytes; rw [hac], ?_, ?_⟩
  · unfold geoOf stdGeo
    rw [partSectorsUp_eq _ _ hgw, hgw.sh]
    unfold arrBytes
    rw [hac, hlT]
    rcases hl with h | h <;> simp [h]
  · rw [← writeUp_fresh c crc t0 size hf, writeUp_eq_write c crc t0 size hf hl]

theorem read_refines (c : Cfg) (crc : Bytes → Nat) (d : Dev) (size lss : Nat) (hl : lss = 512 ∨ lss = 4096)
    (hmin : (2 * (16384 / lss) + 3) * lss ≤ size) (hsz : size < two63)
    (hP : PStd crc d lss) (hB : BStd crc d size lss) :
    outOf (Gpt.read c crc d size lss).1 = GptCrash.read (flatReader crc size lss) (toDisk d size lss) := by
  have L := layout_of size lss hl hmin
  obtain ⟨G, hp⟩ := std_ok size lss hl hmin hsz
  rw [toDisk_eq L]
  exact read_view c crc d G hp join (join_secs (lay_std L) d) hP hB

theorem partread_refines (c : Cfg) (hab : c.arrayBounded = true) (crc : Bytes → Nat) (d : Dev) (size lss : Nat)
    (hl : lss = 512 ∨ lss = 4096) (hmin : (2 * (16384 / lss) + 3) * lss ≤ size) (hsz : size < two63)
    (hP : PStd crc d lss) (hB : BStd crc d size lss) :
    outP (PartTable.read c crc d size lss).1 =
      partRead (flatReader crc size lss) mbrViewFlat (toDisk d size lss) := by
  have L := layout_of size lss hl hmin
  obtain ⟨G, hp⟩ := std_ok size lss hl hmin hsz
  rw [toDisk_eq L]
  exact partread_view c hab crc d G hp join (join_secs (lay_std L) d) hP hB

theorem write_crash_setup (c : Cfg) (hpl : c.pmbrLast = true) (crc : Bytes → Nat) (hcrc : ∀ b, crc b < two32)
    (d0 : Dev) (t0 : Table) (size : Nat) (ws : List Wr) (t : Table)
    (hf : Fresh t0) (hl : t0.lss = 512 ∨ t0.lss = 4096) (hg : t0.guid.length = 16) (hsz : size < two63)
    (hmin : (2 * (16384 / t0.lss) + 3) * t0.lss ≤ size) (hpm : t0.pmbr = true)
    (hw : write c crc t0 size = .ok (ws, t)) (k : Nat) (keep : Nat → Bool) :
    NewOk (flatReader crc size t0.lss) (toDisk (applyWrs d0 ws) size t0.lss) ∧
    PStd crc (applyWrs d0 ws) t0.lss ∧ BStd crc (applyWrs d0 ws) size t0.lss ∧
    OldOkFlat crc (applyWrs d0 ws) t0.lss ∧
    Crash false (toDisk d0 size t0.lss) (toDisk (applyWrs d0 ws) size t0.lss)
      (toDisk (crashDev d0 t0.lss ws k keep) size t0.lss) := by
  obtain ⟨T, hgw, hpmT, hlT, _, hgeo, hwT⟩ := fresh_std c crc t0 size hf hl hg hsz hmin
  have L := layout_of size t0.lss hl hmin
  have key := write_crash_view c hpl crc hcrc d0 T size ws t hgw (hpmT.trans hpm) (hwT.trans hw)
    (p := 16384 / t0.lss) (by rw [hgeo]; exact (std_ok size t0.lss hl hmin hsz).2) join
    (by rw [hgeo]; exact fun d off => join_secs (lay_std L) d off) k keep
  rw [hgeo, ← oldOk_std] at key
  rw [toDisk_eq L, toDisk_eq L, toDisk_eq L]
  exact key

theorem crash_atomic_flat (c : Cfg) (hpl : c.pmbrLast = true) (crc : Bytes → Nat) (hcrc : ∀ b, crc b < two32)
    (d0 : Dev) (t0 : Table) (size : Nat) (ws : List Wr) (t : Table)
    (hf : Fresh t0) (hl : t0.lss = 512 ∨ t0.lss = 4096) (hg : t0.guid.length = 16) (hsz : size < two63)
    (hmin : (2 * (16384 / t0.lss) + 3) * t0.lss ≤ size) (hpm : t0.pmbr = true)
    (hw : write c crc t0 size = .ok (ws, t))
    (hOld : OldOkFlat crc d0 t0.lss) (hOldB : BStd crc d0 size t0.lss)
    (hColl : NoCrcCollisionFlat crc t0.lss (readAt d0 (2 * t0.lss) 16384) (readAt (applyWrs d0 ws) (2 * t0.lss) 16384))
    (k : Nat) (keep : Nat → Bool) :
    ∃ po pn, outOf (Gpt.read c crc d0 size t0.lss).1 = .ok po false ∧
      outOf (Gpt.read c crc (applyWrs d0 ws) size t0.lss).1 = .ok pn false ∧
      ((outOf (Gpt.read c crc (crashDev d0 t0.lss ws k keep) size t0.lss).1).parts? = some po ∨
       (outOf (Gpt.read c crc (crashDev d0 t0.lss ws k keep) size t0.lss).1).parts? = some pn) := by
  obtain ⟨T, hgw, hpmT, hlT, hab, hgeo, hwT⟩ := fresh_std c crc t0 size hf hl hg hsz hmin
  have L : Layout size T.lss := hlT ▸ layout_of size t0.lss hl hmin
  rw [← hlT] at hColl ⊢
  refine crash_atomic_flatG c hpl crc hcrc d0 T size ws t hgw (hpmT.trans hpm) (hwT.trans hw)
    (by rw [hgeo]; exact (oldOk_std crc d0 size t0.lss).1 hOld) (by rw [hgeo]; exact hOldB) ?_ k keep
  rw [hab]
  intro keep' hc
  rw [← mixBytes_eq L keep' _ _ (by simp) (by simp)] at hc ⊢
  exact hColl keep' hc

/-- first-ever write on the flat model: if neither the sector at LBA 1 nor the sector at the last LBA of
    `d0` passes readGPTHeader (blank disk, MBR disk, garbage), every crash state reads as an error — as
    `d0` itself did — or as exactly the partition list of the completed write -/
theorem blank_old_flat (c : Cfg) (hpl : c.pmbrLast = true) (crc : Bytes → Nat) (hcrc : ∀ b, crc b < two32)
    (d0 : Dev) (t0 : Table) (size : Nat) (ws : List Wr) (t : Table)
    (hf : Fresh t0) (hl : t0.lss = 512 ∨ t0.lss = 4096) (hg : t0.guid.length = 16) (hsz : size < two63)
    (hmin : (2 * (16384 / t0.lss) + 3) * t0.lss ≤ size) (hpm : t0.pmbr = true)
    (hw : write c crc t0 size = .ok (ws, t))
    (hNoP : ∀ h, readHeader crc (readAt d0 t0.lss t0.lss) ≠ .ok h)
    (hNoB : ∀ h, readHeader crc (readAt d0 (oBH size t0.lss) t0.lss) ≠ .ok h)
    (k : Nat) (keep : Nat → Bool) :
    ∃ pn, outOf (Gpt.read c crc d0 size t0.lss).1 = .err ∧
      outOf (Gpt.read c crc (applyWrs d0 ws) size t0.lss).1 = .ok pn false ∧
      (outOf (Gpt.read c crc (crashDev d0 t0.lss ws k keep) size t0.lss).1 = .err ∨
       (outOf (Gpt.read c crc (crashDev d0 t0.lss ws k keep) size t0.lss).1).parts? = some pn) := by
  obtain ⟨T, hgw, hpmT, hlT, _, hgeo, hwT⟩ := fresh_std c crc t0 size hf hl hg hsz hmin
  have hNoB' : ∀ h, readHeader crc (readAt d0 ((geoOf T).hB * (geoOf T).lss) (geoOf T).lss) ≠ .ok h := by
    rw [hgeo]; exact hNoB
  rw [← hlT] at hNoP ⊢
  exact blank_old_flatG c hpl crc hcrc d0 T size ws t hgw (hpmT.trans hpm) (hwT.trans hw) hNoP hNoB' k keep

/-- FIRST-EVER WRITE, SEEN THROUGH partition.Read, ON THE FLAT MODEL (repaired order: protective MBR last).
    `d0` has no valid GPT header at LBA 1 or at the last LBA (blank disk, MBR-partitioned disk, garbage).  For
    every crash state of the repaired Write, partition.Read (gpt.Read, then mbr.Read of sector 0) returns
    exactly what it returned on `d0` — no table, or the old MBR table — or exactly the new GPT's partitions -/
theorem first_write_atomic_flat (c : Cfg) (hpl : c.pmbrLast = true) (hab : c.arrayBounded = true)
    (crc : Bytes → Nat) (hcrc : ∀ b, crc b < two32)
    (d0 : Dev) (t0 : Table) (size : Nat) (ws : List Wr) (t : Table)
    (hf : Fresh t0) (hl : t0.lss = 512 ∨ t0.lss = 4096) (hg : t0.guid.length = 16) (hsz : size < two63)
    (hmin : (2 * (16384 / t0.lss) + 3) * t0.lss ≤ size) (hpm : t0.pmbr = true)
    (hw : write c crc t0 size = .ok (ws, t))
    (hNoP : ∀ h, readHeader crc (readAt d0 t0.lss t0.lss) ≠ .ok h)
    (hNoB : ∀ h, readHeader crc (readAt d0 (oBH size t0.lss) t0.lss) ≠ .ok h)
    (k : Nat) (keep : Nat → Bool) :
    ∃ pn, outP (PartTable.read c crc (applyWrs d0 ws) size t0.lss).1 = .gpt pn ∧
      (outP (PartTable.read c crc (crashDev d0 t0.lss ws k keep) size t0.lss).1 =
          outP (PartTable.read c crc d0 size t0.lss).1 ∨
       outP (PartTable.read c crc (crashDev d0 t0.lss ws k keep) size t0.lss).1 = .gpt pn) := by
  obtain ⟨T, hgw, hpmT, hlT, _, hgeo, hwT⟩ := fresh_std c crc t0 size hf hl hg hsz hmin
  have hNoB' : ∀ h, readHeader crc (readAt d0 ((geoOf T).hB * (geoOf T).lss) (geoOf T).lss) ≠ .ok h := by
    rw [hgeo]; exact hNoB
  rw [← hlT] at hNoP ⊢
  exact first_write_atomic_flatG c hpl hab crc hcrc d0 T size ws t hgw (hpmT.trans hpm) (hwT.trans hw) hNoP hNoB' k keep

end Diskfs.GptCrash
