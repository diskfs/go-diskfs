/-
  The FAT cluster-chain model (Model/Fat/Chain.lean) against the cluster-map invariant `Inv`:
  walk / allocateSpace / freeChain keep it and account for every free cluster.  The table changes
  by four moves on owner lists (`new_core` a new chain, `join_core` joining two, `cut_core` cutting
  one, `free_core` releasing one); the branches of allocateSpace are compositions of them
  (`grow_core` = new + join, `shrink_core` = cut + release), and the free-space counts are read off
  `inv_freeCount`.  Core Lean only.
-/
import DiskfsModel.Model.Fat.Fs
import DiskfsModel.Proofs.Lists
import DiskfsModel.Proofs.Arith
namespace Diskfs.Fat

theorem CMap.set_eq (m : CMap) (c v : Nat) : (m.set c v) c = v := by
  simp [CMap.set]

theorem CMap.set_ne (m : CMap) {c i : Nat} (v : Nat) (h : i ≠ c) : (m.set c v) i = m i := by
  simp [CMap.set, h]

theorem CMap.set_same (m : CMap) (c v : Nat) (h : m c = v) : m.set c v = m := by
  funext i
  by_cases hi : i = c
  · rw [hi, CMap.set_eq, h]
  · rw [CMap.set_ne m v hi]

theorem CMap.set_comm (m : CMap) {a c : Nat} (h : a ≠ c) (v w : Nat) :
    (m.set a v).set c w = (m.set c w).set a v := by
  funext i
  unfold CMap.set
  by_cases hc : i = c
  · rw [if_pos hc, if_neg (by omega), if_pos hc]
  · rw [if_neg hc, if_neg hc]

theorem isEOC_zero (k : Kind) : k.isEOC 0 = false := by
  cases k <;> simp [Kind.isEOC]

theorem isEOC_eoc (k : Kind) : k.isEOC k.eoc = true := by
  cases k <;> simp [Kind.isEOC, Kind.eoc]

theorem eoc_ne_zero (k : Kind) : k.eoc ≠ 0 := by
  cases k <;> simp [Kind.eoc]

theorem chainOk_concat {k lim m} : ∀ {l : List Nat}, ChainOk k lim m l → ∃ p a, l = p ++ [a]
  | [], h => h.elim
  | a :: l, _ => ⟨_, _, (List.dropLast_concat_getLast (List.cons_ne_nil a l)).symm⟩

theorem chainOk_entry {k lim m} : ∀ {l : List Nat}, ChainOk k lim m l →
    ∀ c ∈ l, 2 ≤ c ∧ c < lim ∧ m c ≠ 0
  | [], h, _, _ => h.elim
  | [a], h, c, hc => by
    obtain rfl := List.mem_singleton.1 hc
    refine ⟨h.1, h.2.1, fun h0 => ?_⟩
    have := h.2.2
    rw [h0, isEOC_zero] at this
    cases this
  | a :: b :: rest, h, c, hc => by
    rcases List.mem_cons.1 hc with rfl | hc
    · have hb := (chainOk_entry h.2.2.2 b List.mem_cons_self).1
      have := h.2.2.1
      exact ⟨h.1, h.2.1, by omega⟩
    · exact chainOk_entry h.2.2.2 c hc

theorem chainOk_mem {k lim m} {l : List Nat} (h : ChainOk k lim m l) (c : Nat) (hc : c ∈ l) :
    2 ≤ c ∧ c < lim :=
  ⟨(chainOk_entry h c hc).1, (chainOk_entry h c hc).2.1⟩

theorem chainOk_ne_zero {k lim m} {l : List Nat} (h : ChainOk k lim m l) (c : Nat) (hc : c ∈ l) :
    m c ≠ 0 :=
  (chainOk_entry h c hc).2.2

theorem chainOk_congr {k lim m m'} : ∀ {l : List Nat}, ChainOk k lim m l →
    (∀ c ∈ l, m' c = m c) → ChainOk k lim m' l
  | [], h, _ => h.elim
  | [a], h, hag => by
    refine ⟨h.1, h.2.1, ?_⟩
    rw [hag a (List.mem_singleton.2 rfl)]
    exact h.2.2
  | a :: b :: rest, h, hag => by
    refine ⟨h.1, h.2.1, ?_, ?_⟩
    · rw [hag a List.mem_cons_self]
      exact h.2.2.1
    · exact chainOk_congr h.2.2.2 (fun c hc => hag c (List.mem_cons_of_mem _ hc))

theorem walkAux_complete {k lim max m} (hlim : LimOk k lim) (hmax : lim ≤ max) :
    ∀ (rest : List Nat) (a fuel : Nat) (acc : List Nat), ChainOk k lim m (a :: rest) →
      (a :: rest).length ≤ fuel → walkAux k max m fuel a acc = .ok (acc ++ a :: rest)
  | [], a, fuel, acc, h, hf => by
    cases fuel with
    | zero => simp at hf
    | succ f =>
      simp only [walkAux]
      rw [if_pos h.2.2]
  | b :: rest, a, fuel, acc, h, hf => by
    cases fuel with
    | zero => simp at hf
    | succ f =>
      have hb := chainOk_mem h.2.2.2 b List.mem_cons_self
      have hab : m a = b := h.2.2.1
      have h1 : k.isEOC (m a) = false := by rw [hab]; exact hlim b hb.2
      have h2 : ¬ m a > max := by rw [hab]; omega
      have h3 : ¬ a < 2 := by have := h.1; omega
      simp only [walkAux]
      rw [h1]
      simp only [Bool.false_eq_true, if_false, if_neg h2, if_neg h3]
      rw [hab, walkAux_complete hlim hmax rest b f (acc ++ [a]) h.2.2.2
        (by simp only [List.length_cons] at hf ⊢; omega)]
      simp

theorem walk_complete {k lim max m fuel} {l : List Nat} (hlim : LimOk k lim) (hmax : lim ≤ max)
    (h : ChainOk k lim m l) (hf : l.length ≤ fuel) :
    walk k max m fuel (l.headD 0) = .ok l := by
  cases l with
  | nil => exact h.elim
  | cons a rest =>
    have ha := chainOk_mem h a List.mem_cons_self
    have h0 := chainOk_ne_zero h a List.mem_cons_self
    have hn : ¬ (a > max ∨ m a = 0) := by intro hh; rcases hh with hh | hh <;> omega
    show walk k max m fuel a = _
    rw [walk, if_neg hn]
    simpa using walkAux_complete hlim hmax rest a fuel [] h hf

theorem mem_range2 {lim c : Nat} : c ∈ List.range' 2 (lim - 2) ↔ 2 ≤ c ∧ c < lim := by
  rw [List.mem_range'_1]; omega

theorem firstFit_spec (lim : Nat) : PickSpec lim (firstFit lim) where
  free := by
    intro m n c hc
    have hc' := List.mem_of_mem_take hc
    rw [List.mem_filter] at hc'
    have := mem_range2.1 hc'.1
    exact ⟨this.1, this.2, by simpa using hc'.2⟩
  nodup := by
    intro m n
    exact ((List.nodup_range' (step := 1)).sublist List.filter_sublist).sublist (List.take_sublist _ _)
  len_le := by
    intro m n
    exact List.length_take_le _ _
  complete := by
    intro m n h
    unfold firstFit at h
    unfold freeCount
    rw [List.length_take] at h
    omega

theorem alloc_refused_unchanged {k max bpc pick fuel m size previous}
    (h : (allocateSpace k max bpc pick fuel m size previous).res = none) :
    (allocateSpace k max bpc pick fuel m size previous).m = m := by
  revert h
  unfold allocateSpace
  generalize size / bpc + (if size % bpc > 0 then 1 else 0) = count
  by_cases h1 : previous > max
  · rw [if_pos h1]; exact fun _ => rfl
  rw [if_neg h1]
  generalize (if previous ≥ 2 then walk k max m fuel previous else WalkRes.ok []) = wr
  cases wr with
  | err => exact fun _ => rfl
  | diverge => exact fun _ => rfl
  | ok clusters =>
    dsimp only
    by_cases h2 : count = clusters.length
    · rw [if_pos h2]; exact fun h => nomatch h
    rw [if_neg h2]
    by_cases h3 : count > clusters.length
    · rw [if_pos h3]
      by_cases h4 : (pick m (count - clusters.length)).length < count - clusters.length
      · rw [if_pos h4]; exact fun _ => rfl
      · rw [if_neg h4]; exact fun h => nomatch h
    · rw [if_neg h3]
      by_cases h4 : count - 1 > max ∨ clusters.getD (count - 1) 0 > max
      · rw [if_pos h4]; exact fun _ => rfl
      · rw [if_neg h4]; exact fun h => nomatch h

theorem linkChain_notin {k} : ∀ (l : List Nat) (m : CMap) (c : Nat), c ∉ l → linkChain k m l c = m c
  | [], _, _, _ => rfl
  | [a], m, c, h => by
    simp only [linkChain]
    exact CMap.set_ne m _ (fun hc => h (by simp [hc]))
  | a :: b :: rest, m, c, h => by
    simp only [linkChain]
    rw [linkChain_notin (b :: rest) _ c (fun hc => h (List.mem_cons_of_mem _ hc))]
    exact CMap.set_ne m _ (fun hc => h (by simp [hc]))

theorem linkChain_chainOk {k lim} : ∀ (l : List Nat) (m : CMap), l ≠ [] → l.Nodup →
    (∀ c ∈ l, 2 ≤ c ∧ c < lim) → ChainOk k lim (linkChain k m l) l
  | [], _, h, _, _ => (h rfl).elim
  | [a], m, _, _, hr => by
    have := hr a (List.mem_singleton.2 rfl)
    refine ⟨this.1, this.2, ?_⟩
    simp only [linkChain, CMap.set_eq, isEOC_eoc]
  | a :: b :: rest, m, _, hnd, hr => by
    have ha := hr a List.mem_cons_self
    have hnd' := List.nodup_cons.1 hnd
    refine ⟨ha.1, ha.2, ?_, ?_⟩
    · simp only [linkChain]
      rw [linkChain_notin (b :: rest) _ a hnd'.1, CMap.set_eq]
    · simp only [linkChain]
      exact linkChain_chainOk (b :: rest) _ (by simp) hnd'.2
        (fun c hc => hr c (List.mem_cons_of_mem _ hc))

theorem linkChain_set_comm {k} {c v : Nat} : ∀ (l : List Nat) (m : CMap), c ∉ l →
    linkChain k (m.set c v) l = (linkChain k m l).set c v
  | [], _, _ => rfl
  | [a], m, h => CMap.set_comm m (fun e => h (by simp [e])) v k.eoc
  | a :: b :: rest, m, h => by
    simp only [linkChain]
    rw [CMap.set_comm m (fun e => h (by simp [e])),
      linkChain_set_comm (b :: rest) _ (fun hc => h (List.mem_cons_of_mem _ hc))]

theorem freeAll_cons (m : CMap) (a : Nat) (l : List Nat) :
    freeAll m (a :: l) = freeAll (m.set a 0) l := rfl

theorem freeAll_apply : ∀ (l : List Nat) (m : CMap) (c : Nat), freeAll m l c = if c ∈ l then 0 else m c
  | [], _, _ => rfl
  | a :: l, m, c => by
    rw [freeAll_cons, freeAll_apply l, CMap.set]
    by_cases hl : c ∈ l
    · rw [if_pos hl, if_pos (List.mem_cons_of_mem _ hl)]
    · by_cases ha : c = a
      · rw [if_neg hl, if_pos ha, if_pos (ha ▸ List.mem_cons_self)]
      · rw [if_neg hl, if_neg ha, if_neg (by simp [ha, hl])]

theorem inv_flat {k lim m owners} (h : Inv k lim m owners) {c : Nat} (hc : c ∈ owners.flatten) :
    2 ≤ c ∧ c < lim ∧ m c ≠ 0 := by
  obtain ⟨o, ho, hco⟩ := List.mem_flatten.1 hc
  exact chainOk_entry (h.chains o ho) c hco

theorem chains_frame {k lim m m'} {others : List (List Nat)}
    (h : ∀ o ∈ others, ChainOk k lim m o) (hag : ∀ c ∈ others.flatten, m' c = m c) :
    ∀ o ∈ others, ChainOk k lim m' o :=
  fun o ho => chainOk_congr (h o ho) (fun c hc => hag c (List.mem_flatten.2 ⟨o, ho, hc⟩))

theorem inv_head {k lim m l others} (h : Inv k lim m (l :: others)) :
    ChainOk k lim m l ∧ l.Nodup ∧ ∀ c ∈ l, c ∉ others.flatten := by
  have := h.nodup
  rw [List.flatten_cons, List.nodup_append] at this
  exact ⟨h.chains l List.mem_cons_self, this.1, fun c hc hco => this.2.2 c hc c hco rfl⟩

/-- the used entries of the data area are exactly the owners' clusters, so the free ones are the
    rest: all free-space accounting below is read off this -/
theorem inv_freeCount {k lim m owners} (h : Inv k lim m owners) :
    freeCount lim m + owners.flatten.length = lim - 2 := by
  have hp : ((List.range' 2 (lim - 2)).filter fun i => !decide (m i = 0)).Perm owners.flatten := by
    rw [List.perm_ext_iff_of_nodup ((List.nodup_range' (step := 1)).sublist List.filter_sublist) h.nodup]
    intro c
    rw [List.mem_filter, mem_range2]
    constructor
    · rintro ⟨⟨h2, hl⟩, hc⟩; exact (h.used_iff c h2 hl).1 (by simpa using hc)
    · intro hc
      have := inv_flat h hc
      exact ⟨⟨this.1, this.2.1⟩, by simpa using this.2.2⟩
  have := List.length_eq_countP_add_countP (fun i => decide (m i = 0)) (l := List.range' 2 (lim - 2))
  rw [List.countP_eq_length_filter, List.countP_eq_length_filter, List.length_range'] at this
  unfold freeCount
  rw [← hp.length_eq]
  simpa using this.symm

theorem freeCount_cons {k lim m m' l owners} (h : Inv k lim m owners) (h' : Inv k lim m' (l :: owners)) :
    freeCount lim m' + l.length = freeCount lim m := by
  have h1 := inv_freeCount h
  have h2 := inv_freeCount h'
  rw [List.flatten_cons, List.length_append] at h2
  omega

theorem freeCount_head {k lim m m' l l' others} (h : Inv k lim m (l :: others))
    (h' : Inv k lim m' (l' :: others)) : freeCount lim m' + l'.length = freeCount lim m + l.length := by
  have h1 := inv_freeCount h
  have h2 := inv_freeCount h'
  rw [List.flatten_cons, List.length_append] at h1 h2
  omega

theorem chain_length_le {k lim m l others} (h : Inv k lim m (l :: others)) : l.length ≤ lim - 2 := by
  have := inv_freeCount h
  rw [List.flatten_cons, List.length_append] at this
  omega

/-- the same clusters grouped into other owner lists, under a table with the same zero entries: only
    the chains have to be shown again (what joining and cutting share) -/
theorem inv_regroup {k lim m m'} {owners owners' : List (List Nat)} (h : Inv k lim m owners)
    (hp : owners'.flatten.Perm owners.flatten) (hz : ∀ c, m' c = 0 ↔ m c = 0)
    (hch : ∀ o ∈ owners', ChainOk k lim m' o) : Inv k lim m' owners' :=
  ⟨hch, hp.nodup_iff.2 h.nodup, fun c h2 hl => by rw [Ne, hz, hp.mem_iff]; exact h.used_iff c h2 hl⟩

theorem inv_perm {k lim m} {owners owners' : List (List Nat)} (hp : List.Perm owners owners')
    (h : Inv k lim m owners) : Inv k lim m owners' :=
  inv_regroup h hp.symm.flatten (fun _ => Iff.rfl) (fun o ho => h.chains o (hp.mem_iff.2 ho))

/-- free clusters linked into a chain are one more owner -/
theorem new_core {k lim m owners} {alloc : List Nat} (h : Inv k lim m owners) (hne : alloc ≠ [])
    (hnd : alloc.Nodup) (hfree : ∀ c ∈ alloc, 2 ≤ c ∧ c < lim ∧ m c = 0) :
    Inv k lim (linkChain k m alloc) (alloc :: owners) := by
  have hck : ChainOk k lim (linkChain k m alloc) alloc :=
    linkChain_chainOk alloc m hne hnd (fun c hc => ⟨(hfree c hc).1, (hfree c hc).2.1⟩)
  have hdisj : ∀ c ∈ owners.flatten, c ∉ alloc :=
    fun c hc hca => (inv_flat h hc).2.2 (hfree c hca).2.2
  refine ⟨?_, ?_, ?_⟩
  · intro o ho
    rcases List.mem_cons.1 ho with rfl | ho
    · exact hck
    · exact chains_frame h.chains (fun c hc => linkChain_notin alloc m c (hdisj c hc)) o ho
  · rw [List.flatten_cons, List.nodup_append]
    exact ⟨hnd, h.nodup, fun a ha b hb hab => hdisj b hb (hab ▸ ha)⟩
  · intro c h2 hl
    rw [List.flatten_cons, List.mem_append]
    by_cases hca : c ∈ alloc
    · exact ⟨fun _ => Or.inl hca, fun _ => chainOk_ne_zero hck c hca⟩
    · rw [linkChain_notin alloc m c hca, h.used_iff c h2 hl]
      exact ⟨Or.inr, fun h => h.resolve_left hca⟩

theorem chainOk_suffix {k lim m} {a : Nat} {q : List Nat} :
    ∀ (p : List Nat), ChainOk k lim m (p ++ a :: q) → ChainOk k lim m (a :: q)
  | [], h => h
  | [_], h => h.2.2.2
  | _ :: y :: p, h => chainOk_suffix (y :: p) h.2.2.2

theorem chainOk_splice {k lim m m'} {a : Nat} {q q' : List Nat} (h' : ChainOk k lim m' (a :: q')) :
    ∀ (p : List Nat), ChainOk k lim m (p ++ a :: q) → (∀ c ∈ p, m' c = m c) →
      ChainOk k lim m' (p ++ a :: q')
  | [], _, _ => h'
  | [x], h, hag => ⟨h.1, h.2.1, (hag x (by simp)).trans h.2.2.1, h'⟩
  | x :: y :: p, h, hag => ⟨h.1, h.2.1, (hag x (by simp)).trans h.2.2.1,
      chainOk_splice h' (y :: p) h.2.2.2 fun c hc => hag c (List.mem_cons_of_mem _ hc)⟩

/-- the last cluster of one owned chain pointed at the first of another: one owner holds both -/
theorem join_core {k lim m p others} {a b : Nat} {r : List Nat}
    (h : Inv k lim m ((b :: r) :: (p ++ [a]) :: others)) :
    Inv k lim (m.set a b) ((p ++ [a] ++ b :: r) :: others) := by
  obtain ⟨hbr, _, _⟩ := inv_head h
  obtain ⟨hl, hlnd, hdl⟩ := inv_head (inv_perm (List.Perm.swap ..) h)
  have ha : a ∈ p ++ [a] := by simp
  have hother : ∀ c, c ∈ p ∨ c ∈ b :: r ++ others.flatten → (m.set a b) c = m c := by
    refine fun c hc => CMap.set_ne m b ?_
    rintro rfl
    rcases hc with hc | hc
    · exact (List.nodup_append.1 hlnd).2.2 c hc c (by simp) rfl
    · exact hdl c ha (by rwa [List.flatten_cons])
  refine inv_regroup h ?_ ?_ ?_
  · rw [List.flatten_cons, List.flatten_cons, List.flatten_cons, ← List.append_assoc (b :: r)]
    exact List.perm_append_comm.append_right _
  · intro c
    by_cases hc : c = a
    · have := chainOk_ne_zero hl a ha
      have := (chainOk_mem hbr b List.mem_cons_self).1
      rw [hc, CMap.set_eq]; omega
    · rw [CMap.set_ne m b hc]
  · intro o ho
    rcases List.mem_cons.1 ho with rfl | ho'
    · rw [List.append_assoc]
      exact chainOk_splice (q' := b :: r)
        ⟨(chainOk_mem hl a ha).1, (chainOk_mem hl a ha).2, CMap.set_eq ..,
          chainOk_congr hbr fun c hc => hother c (.inr (List.mem_append_left _ hc))⟩
        p hl fun c hc => hother c (.inl hc)
    · exact chainOk_congr (h.chains o (by simp [ho'])) fun c hc =>
        hother c (.inr (List.mem_append_right _ (List.mem_flatten.2 ⟨o, ho', hc⟩)))

theorem grow_core {k lim m p others} {a b : Nat} {r : List Nat} (h : Inv k lim m ((p ++ [a]) :: others))
    (hnd : (b :: r).Nodup) (hfree : ∀ c ∈ b :: r, 2 ≤ c ∧ c < lim ∧ m c = 0) :
    Inv k lim (linkChain k (m.set a b) (b :: r)) ((p ++ [a] ++ b :: r) :: others) := by
  have hlast : a ∉ b :: r := fun hc =>
    chainOk_ne_zero (inv_head h).1 a (by simp) (hfree a hc).2.2
  rw [linkChain_set_comm _ _ hlast]
  exact join_core (new_core h (by simp) hnd hfree)

/-- marking a cluster `a` of a chain end-of-chain cuts off what follows it as a chain of its own:
    the invariant holds for every grouping of the same clusters into the kept part, the part cut
    off (if there is one) and the other owners -/
theorem cut_core {k lim m p others} {a : Nat} {q : List Nat} (h : Inv k lim m ((p ++ a :: q) :: others))
    {owners' : List (List Nat)} (hp : owners'.flatten.Perm ((p ++ a :: q) :: others).flatten)
    (hch : ∀ o ∈ owners', o = p ++ [a] ∨ (o = q ∧ q ≠ []) ∨ o ∈ others) :
    Inv k lim (m.set a k.eoc) owners' := by
  obtain ⟨hl, hlnd, hdl⟩ := inv_head h
  obtain ⟨_, haq, hpq⟩ := List.nodup_append.1 hlnd
  have ha : a ∈ p ++ a :: q := by simp
  have hother : ∀ c, c ∈ p ∨ c ∈ q ∨ c ∈ others.flatten → (m.set a k.eoc) c = m c := by
    refine fun c hc => CMap.set_ne m _ ?_
    rintro rfl
    rcases hc with hc | hc | hc
    · exact hpq c hc c List.mem_cons_self rfl
    · exact (List.nodup_cons.1 haq).1 hc
    · exact hdl c ha hc
  refine inv_regroup h hp ?_ ?_
  · intro c
    by_cases hc : c = a
    · have := chainOk_ne_zero hl a ha
      have := eoc_ne_zero k
      rw [hc, CMap.set_eq]; omega
    · rw [CMap.set_ne m _ hc]
  · intro o ho
    rcases hch o ho with rfl | ⟨rfl, hq⟩ | hoo
    · exact chainOk_splice (q' := [])
        ⟨(chainOk_mem hl a ha).1, (chainOk_mem hl a ha).2, by rw [CMap.set_eq]; exact isEOC_eoc k⟩
        p hl fun c hc => hother c (.inl hc)
    · obtain ⟨b, q, rfl⟩ := List.exists_cons_of_ne_nil hq
      exact chainOk_congr (chainOk_suffix (p ++ [a]) (by rwa [List.append_assoc]))
        fun c hc => hother c (.inr (.inl hc))
    · exact chainOk_congr (h.chains o (List.mem_cons_of_mem _ hoo)) fun c hc =>
        hother c (.inr (.inr (List.mem_flatten.2 ⟨o, hoo, hc⟩)))

/-- the entries of an owned chain set to zero: the owner is gone, its clusters are free -/
theorem free_core {k lim m l others} (h : Inv k lim m (l :: others)) :
    Inv k lim (freeAll m l) others := by
  obtain ⟨_, _, hdl⟩ := inv_head h
  refine ⟨?_, (List.nodup_append.1 (List.flatten_cons ▸ h.nodup)).2.1, ?_⟩
  · exact chains_frame (fun o ho => h.chains o (List.mem_cons_of_mem _ ho))
      (fun c hc => by rw [freeAll_apply, if_neg fun hcl => hdl c hcl hc])
  · intro c h2 hlt
    rw [freeAll_apply]
    by_cases hcl : c ∈ l
    · rw [if_pos hcl]
      exact ⟨fun h0 => absurd rfl h0, fun hh => absurd hh (hdl c hcl)⟩
    · rw [if_neg hcl, h.used_iff c h2 hlt, List.flatten_cons, List.mem_append]
      exact ⟨fun hh => hh.resolve_left hcl, Or.inr⟩

theorem shrink_core {k lim m p others} {a : Nat} {q : List Nat} (h : Inv k lim m ((p ++ a :: q) :: others)) :
    Inv k lim (freeAll (m.set a k.eoc) q) ((p ++ [a]) :: others) := by
  cases q with
  | nil => exact cut_core h (.refl _) fun o ho => (List.mem_cons.1 ho).imp_right Or.inr
  | cons b q =>
    refine free_core (cut_core h ?_ ?_)
    · rw [List.flatten_cons, List.flatten_cons, List.flatten_cons, ← List.append_assoc,
        List.append_cons p a (b :: q)]
      exact List.perm_append_comm.append_right _
    · intro o ho
      simp only [List.mem_cons] at ho
      rcases ho with rfl | rfl | ho
      · exact Or.inr (Or.inl ⟨rfl, by simp⟩)
      · exact Or.inl rfl
      · exact Or.inr (Or.inr ho)

/-- the cluster count `allocateSpace` computes from `size`: `clusterCount bpc size` of Model/Fat/Fs.lean with
    the arguments the other way round, the spelling `alloc_same_size` is stated in -/
def cnt (size bpc : Nat) : Nat := size / bpc + (if size % bpc > 0 then 1 else 0)

theorem clusterCount_pos {size bpc : Nat} (hb : 0 < bpc) (hs : 0 < size) : 0 < clusterCount bpc size :=
  Nat.lt_of_not_le fun h => by have := (divUp_le_iff size bpc 0 hb).1 h; omega

/-- `allocateSpace` once the walk from `previous` has answered `clusters`: same count, grow, shrink -/
theorem alloc_eq {k max bpc pick fuel m size previous} {clusters : List Nat}
    (h1 : ¬ previous > max)
    (hw : (if previous ≥ 2 then walk k max m fuel previous else WalkRes.ok []) = .ok clusters) :
    allocateSpace k max bpc pick fuel m size previous =
      if clusterCount bpc size = clusters.length then ⟨m, some clusters, false⟩
      else if clusterCount bpc size > clusters.length then
        if (pick m (clusterCount bpc size - clusters.length)).length < clusterCount bpc size - clusters.length then
          ⟨m, none, false⟩
        else
          ⟨linkChain k
            (if (if previous ≥ 2 then clusters.getLastD previous else previous) > 0 then
              m.set (if previous ≥ 2 then clusters.getLastD previous else previous)
                ((pick m (clusterCount bpc size - clusters.length)).headD 0)
             else m)
            (pick m (clusterCount bpc size - clusters.length)),
           some (clusters ++ pick m (clusterCount bpc size - clusters.length)), true⟩
      else if clusterCount bpc size - 1 > max ∨ clusters.getD (clusterCount bpc size - 1) 0 > max then
        ⟨m, none, false⟩
      else
        ⟨freeAll (m.set (clusters.getD (clusterCount bpc size - 1) 0) k.eoc)
          (clusters.drop (clusterCount bpc size - 1 + 1)), some clusters, true⟩ := by
  unfold allocateSpace clusterCount
  rw [if_neg h1]
  simp only [hw]

theorem alloc_new_eq {k max bpc pick fuel m size} (hb : 0 < bpc) (hs : 0 < size) :
    allocateSpace k max bpc pick fuel m size 0 =
      if (pick m (clusterCount bpc size)).length < clusterCount bpc size then ⟨m, none, false⟩
      else ⟨linkChain k m (pick m (clusterCount bpc size)), some (pick m (clusterCount bpc size)), true⟩ := by
  have hpos := clusterCount_pos hb hs
  rw [alloc_eq (clusters := []) (by omega) (by simp)]
  have h1 : ¬ clusterCount bpc size = ([] : List Nat).length := by simp; omega
  have h2 : clusterCount bpc size > ([] : List Nat).length := by simpa using hpos
  rw [if_neg h1, if_pos h2]
  simp

theorem alloc_new_core {k lim max bpc pick fuel m size owners} {l' : List Nat}
    (h : Inv k lim m owners) (hp : PickSpec lim pick) (hb : 0 < bpc) (hs : 0 < size)
    (hres : (allocateSpace k max bpc pick fuel m size 0).res = some l') :
    Inv k lim (allocateSpace k max bpc pick fuel m size 0).m (l' :: owners) ∧
      l'.length = clusterCount bpc size ∧
      freeCount lim (allocateSpace k max bpc pick fuel m size 0).m + l'.length = freeCount lim m := by
  have hpos := clusterCount_pos hb hs
  rw [alloc_new_eq hb hs] at hres ⊢
  split at hres
  · cases hres
  · rename_i hlen
    rw [if_neg hlen]
    simp only [Option.some.injEq] at hres
    subst hres
    have hle := hp.len_le m (clusterCount bpc size)
    have hne : pick m (clusterCount bpc size) ≠ [] := fun h0 => by rw [h0] at hlen; exact hlen hpos
    have := new_core (k := k) h hne (hp.nodup m _) (hp.free m _)
    exact ⟨this, by omega, freeCount_cons h this⟩

theorem alloc_new_inv {k lim max bpc pick fuel m size owners} {l' : List Nat}
    (h : Inv k lim m owners) (hp : PickSpec lim pick) (hb : 0 < bpc) (hs : 0 < size)
    (hres : (allocateSpace k max bpc pick fuel m size 0).res = some l') :
    Inv k lim (allocateSpace k max bpc pick fuel m size 0).m (l' :: owners) ∧
      l'.length = clusterCount bpc size :=
  have := alloc_new_core h hp hb hs hres
  ⟨this.1, this.2.1⟩

theorem free_after_new {k lim max bpc pick fuel m size owners} {l' : List Nat}
    (h : Inv k lim m owners) (hp : PickSpec lim pick) (_hlim : LimOk k lim) (_hmax : lim ≤ max)
    (hb : 0 < bpc) (hs : 0 < size)
    (hres : (allocateSpace k max bpc pick fuel m size 0).res = some l') :
    freeCount lim (allocateSpace k max bpc pick fuel m size 0).m + l'.length = freeCount lim m :=
  (alloc_new_core h hp hb hs hres).2.2

theorem pick_le_free {lim pick} (hp : PickSpec lim pick) (m : CMap) (n : Nat) :
    (pick m n).length ≤ freeCount lim m := by
  refine (hp.nodup m n).length_le_of_subset fun x hx => ?_
  have := hp.free m n x hx
  rw [List.mem_filter]
  exact ⟨mem_range2.2 ⟨this.1, this.2.1⟩, by simp [this.2.2]⟩

theorem alloc_fails_iff {k lim max bpc pick fuel m size owners}
    (_h : Inv k lim m owners) (hp : PickSpec lim pick) (_hlim : LimOk k lim) (_hmax : lim ≤ max)
    (hb : 0 < bpc) (hs : 0 < size) :
    (allocateSpace k max bpc pick fuel m size 0).res = none ↔
      freeCount lim m < clusterCount bpc size := by
  rw [alloc_new_eq hb hs]
  constructor
  · intro hres
    split at hres
    · rename_i hlen; exact hp.complete m _ hlen
    · cases hres
  · intro hlt
    have := pick_le_free hp m (clusterCount bpc size)
    rw [if_pos (by omega)]

/-- what `allocateSpace` sees when handed the first cluster of an owned chain -/
theorem prev_walk {k lim max m fuel} {l : List Nat} (hlim : LimOk k lim) (hmax : lim ≤ max)
    (hl : ChainOk k lim m l) (hf : l.length ≤ fuel) :
    ¬ l.headD 0 > max ∧ 2 ≤ l.headD 0 ∧
      (if l.headD 0 ≥ 2 then walk k max m fuel (l.headD 0) else WalkRes.ok []) = .ok l := by
  have hw := walk_complete hlim hmax hl hf
  cases l with
  | nil => exact hl.elim
  | cons a rest =>
    have ha := chainOk_mem hl a List.mem_cons_self
    have hh : (a :: rest).headD 0 = a := rfl
    refine ⟨by rw [hh]; omega, by rw [hh]; exact ha.1, ?_⟩
    rw [if_pos (show (a :: rest).headD 0 ≥ 2 from ha.1)]; exact hw

theorem alloc_grow_inv {k lim max bpc pick fuel m size l others} {l' : List Nat}
    (h : Inv k lim m (l :: others)) (hp : PickSpec lim pick) (hlim : LimOk k lim)
    (hmax : lim ≤ max) (hf : l.length ≤ fuel) :
    l.length ≤ clusterCount bpc size →
    (allocateSpace k max bpc pick fuel m size (l.headD 0)).res = some l' →
    Inv k lim (allocateSpace k max bpc pick fuel m size (l.headD 0)).m (l' :: others) ∧
      l'.length = clusterCount bpc size ∧ l'.take l.length = l := by
  intro hcount hres
  have hl : ChainOk k lim m l := h.chains l List.mem_cons_self
  obtain ⟨hp1, hp2, hwk⟩ := prev_walk (fuel := fuel) hlim hmax hl hf
  rw [alloc_eq hp1 hwk] at hres ⊢
  by_cases he : clusterCount bpc size = l.length
  · rw [if_pos he] at hres ⊢
    simp only [Option.some.injEq] at hres
    subst hres
    exact ⟨h, he.symm, List.take_length⟩
  · have hgt : clusterCount bpc size > l.length := by omega
    rw [if_neg he, if_pos hgt] at hres ⊢
    split at hres
    · cases hres
    · rename_i hlen
      rw [if_neg hlen]
      simp only [Option.some.injEq] at hres
      subst hres
      have hle := hp.len_le m (clusterCount bpc size - l.length)
      generalize hA : pick m (clusterCount bpc size - l.length) = alloc at hlen hle
      have hnd : alloc.Nodup := hA ▸ hp.nodup m _
      have hfree : ∀ c ∈ alloc, 2 ≤ c ∧ c < lim ∧ m c = 0 := hA ▸ hp.free m _
      cases alloc with
      | nil => simp at hlen; omega
      | cons b r =>
        obtain ⟨p, a, rfl⟩ := chainOk_concat hl
        have ha2 := (chainOk_mem hl a (by simp)).1
        simp only [if_pos hp2, List.getLastD_concat, List.headD_cons]
        rw [if_pos (by omega)]
        exact ⟨grow_core h hnd hfree, by rw [List.length_append (as := p ++ [a])]; omega, List.take_left⟩

theorem free_after_grow {k lim max bpc pick fuel m size l others} {l' : List Nat}
    (h : Inv k lim m (l :: others)) (hp : PickSpec lim pick) (hlim : LimOk k lim)
    (hmax : lim ≤ max) (_hb : 0 < bpc) (hf : l.length ≤ fuel)
    (hcount : l.length ≤ size / bpc + (if size % bpc > 0 then 1 else 0))
    (hres : (allocateSpace k max bpc pick fuel m size (l.headD 0)).res = some l') :
    freeCount lim (allocateSpace k max bpc pick fuel m size (l.headD 0)).m
      + (l'.length - l.length) = freeCount lim m := by
  have hcount : l.length ≤ clusterCount bpc size := hcount
  obtain ⟨hinv, hlen, _⟩ := alloc_grow_inv h hp hlim hmax hf hcount hres
  have := freeCount_head h hinv
  omega

theorem alloc_shrink_inv {k lim max bpc pick fuel m size l others}
    (h : Inv k lim m (l :: others)) (hlim : LimOk k lim)
    (hmax : lim ≤ max) (_hb : 0 < bpc) (hf : l.length ≤ fuel) :
    clusterCount bpc size < l.length →
    let r := allocateSpace k max bpc pick fuel m size (l.headD 0)
    r.res = some l ∧ Inv k lim r.m (l.take (Nat.max (clusterCount bpc size) 1) :: others) := by
  intro hcount
  have hl : ChainOk k lim m l := h.chains l List.mem_cons_self
  obtain ⟨hp1, _, hwk⟩ := prev_walk (fuel := fuel) hlim hmax hl hf
  have hmx : Nat.max (clusterCount bpc size) 1 = clusterCount bpc size - 1 + 1 := by
    show Max.max (clusterCount bpc size) 1 = _; omega
  have hlen := chain_length_le h
  have hlt : clusterCount bpc size - 1 < l.length := by omega
  have hget := getD_eq_of_lt l _ 0 hlt
  have hcr := chainOk_mem hl _ (List.getElem_mem hlt)
  rw [alloc_eq hp1 hwk, if_neg (by omega), if_neg (by omega), hget,
    if_neg (by intro hh; rcases hh with hh | hh <;> omega), hmx, List.take_succ_eq_append_getElem hlt]
  exact ⟨rfl, shrink_core (by rwa [List.getElem_cons_drop, List.take_append_drop])⟩

theorem freeChain_eq {k lim max m fuel l others} (h : Inv k lim m (l :: others))
    (hlim : LimOk k lim) (hmax : lim ≤ max) (hf : l.length ≤ fuel) :
    freeChain k max fuel m (l.headD 0) = (freeAll m l, true) := by
  have hl : ChainOk k lim m l := h.chains l List.mem_cons_self
  obtain ⟨_, hp2, _⟩ := prev_walk (fuel := fuel) hlim hmax hl hf
  unfold freeChain
  rw [if_neg (by omega), walk_complete hlim hmax hl hf]

theorem freeChain_inv {k lim max m fuel l others} (h : Inv k lim m (l :: others))
    (hlim : LimOk k lim) (hmax : lim ≤ max) (hf : l.length ≤ fuel) :
    (freeChain k max fuel m (l.headD 0)).2 = true ∧
      Inv k lim (freeChain k max fuel m (l.headD 0)).1 others := by
  rw [freeChain_eq h hlim hmax hf]
  exact ⟨rfl, free_core h⟩

theorem free_after_freeChain {k lim max m fuel l others} (h : Inv k lim m (l :: others))
    (hlim : LimOk k lim) (hmax : lim ≤ max) (hf : l.length ≤ fuel) :
    freeCount lim (freeChain k max fuel m (l.headD 0)).1 = freeCount lim m + l.length :=
  (freeCount_cons (freeChain_inv h hlim hmax hf).2 h).symm

/-! ### space released by remove can be used again without limit -/

/-- create a file of `size` bytes, then remove it (repaired remove: the chain is released) -/
def cycle (k : Kind) (max bpc : Nat) (pick : CMap → Nat → List Nat) (fuel : Nat) (m : CMap)
    (size : Nat) : CMap :=
  match (allocateSpace k max bpc pick fuel m size 0).res with
  | some l' => (freeChain k max fuel (allocateSpace k max bpc pick fuel m size 0).m (l'.headD 0)).1
  | none => m

/-- `n` create/remove cycles -/
def cycles (k : Kind) (max bpc : Nat) (pick : CMap → Nat → List Nat) (fuel size : Nat) :
    Nat → CMap → CMap
  | 0, m => m
  | n + 1, m => cycles k max bpc pick fuel size n (cycle k max bpc pick fuel m size)

theorem cycle_step {k lim max bpc pick fuel m size owners}
    (h : Inv k lim m owners) (hp : PickSpec lim pick) (hlim : LimOk k lim) (hmax : lim ≤ max)
    (hb : 0 < bpc) (hs : 0 < size)
    (hfuel : clusterCount bpc size ≤ fuel) (hfree : clusterCount bpc size ≤ freeCount lim m) :
    (allocateSpace k max bpc pick fuel m size 0).res ≠ none ∧
      Inv k lim (cycle k max bpc pick fuel m size) owners ∧
      freeCount lim (cycle k max bpc pick fuel m size) = freeCount lim m := by
  have hok : (allocateSpace k max bpc pick fuel m size 0).res ≠ none := by
    intro hn
    have := (alloc_fails_iff (fuel := fuel) h hp hlim hmax hb hs).1 hn
    omega
  refine ⟨hok, ?_⟩
  cases hres : (allocateSpace k max bpc pick fuel m size 0).res with
  | none => exact absurd hres hok
  | some l' =>
    obtain ⟨hinv, hlen, hcnt⟩ := alloc_new_core h hp hb hs hres
    have hf : l'.length ≤ fuel := by rw [hlen]; exact hfuel
    have h1 := freeChain_inv hinv hlim hmax hf
    have h2 := free_after_freeChain hinv hlim hmax hf
    simp only [cycle, hres]
    exact ⟨h1.2, by omega⟩

theorem refill_unbounded {k lim max bpc pick fuel size owners}
    (hp : PickSpec lim pick) (hlim : LimOk k lim) (hmax : lim ≤ max)
    (hb : 0 < bpc) (hs : 0 < size)
    (hfuel : size / bpc + (if size % bpc > 0 then 1 else 0) ≤ fuel) :
    ∀ (n : Nat) (m : CMap), Inv k lim m owners →
      size / bpc + (if size % bpc > 0 then 1 else 0) ≤ freeCount lim m →
      Inv k lim (cycles k max bpc pick fuel size n m) owners ∧
      freeCount lim (cycles k max bpc pick fuel size n m) = freeCount lim m ∧
      (allocateSpace k max bpc pick fuel (cycles k max bpc pick fuel size n m) size 0).res ≠ none
  | 0, m, h, hfree => ⟨h, rfl, (cycle_step h hp hlim hmax hb hs hfuel hfree).1⟩
  | n + 1, m, h, hfree => by
    obtain ⟨_, hinv, hcnt⟩ := cycle_step h hp hlim hmax hb hs hfuel hfree
    have := refill_unbounded hp hlim hmax hb hs hfuel n _ hinv (by rw [hcnt]; exact hfree)
    simp only [cycles]
    exact ⟨this.1, by rw [this.2.1, hcnt], this.2.2⟩

theorem chainOkB_iff {k lim m} : ∀ (l : List Nat), chainOkB k lim m l = true ↔ ChainOk k lim m l
  | [] => by simp [chainOkB, ChainOk]
  | [a] => by simp [chainOkB, ChainOk, and_assoc]
  | a :: b :: rest => by
    have ih := chainOkB_iff (k := k) (lim := lim) (m := m) (b :: rest)
    simp only [chainOkB, ChainOk, Bool.and_eq_true, decide_eq_true_eq, ih, and_assoc]

theorem nodupB_iff : ∀ (l : List Nat), nodupB l = true ↔ l.Nodup
  | [] => by simp [nodupB]
  | a :: l => by
    have ih := nodupB_iff l
    simp only [nodupB, Bool.and_eq_true, Bool.not_eq_true', ih, List.nodup_cons]
    rw [← Bool.not_eq_true, List.contains_iff_mem]

theorem invB_iff {k lim m owners} : invB k lim m owners = true ↔ Inv k lim m owners := by
  unfold invB
  rw [Bool.and_eq_true, Bool.and_eq_true, List.all_eq_true, List.all_eq_true, nodupB_iff]
  have key : ∀ c, ((decide (m c ≠ 0) == owners.flatten.contains c) = true) ↔
      (m c ≠ 0 ↔ c ∈ owners.flatten) := by
    intro c
    rw [beq_iff_eq, Bool.eq_iff_iff, decide_eq_true_eq, List.contains_iff_mem]
  constructor
  · rintro ⟨⟨h1, h2⟩, h3⟩
    exact ⟨fun l hl => (chainOkB_iff l).1 (h1 l hl), h2,
      fun c hc2 hcl => (key c).1 (h3 c (mem_range2.2 ⟨hc2, hcl⟩))⟩
  · intro h
    exact ⟨⟨fun l hl => (chainOkB_iff l).2 (h.chains l hl), h.nodup⟩,
      fun c hc => (key c).2 (h.used_iff c (mem_range2.1 hc).1 (mem_range2.1 hc).2)⟩

/-! ### as found: removing an owner without releasing its chain breaks the invariant -/

/-- table: cluster 2 is a one-cluster file, 3 → 4 → EOC a two-cluster file -/
def exTable : CMap := CMap.ofList [0, 0, 0xFFF, 4, 0xFFF]

theorem ex_inv : Inv .f12 10 exTable [[2], [3, 4]] := invB_iff.1 (by decide)

/-- the as-found `Remove` drops the directory entry (owner `[3,4]`) but leaves the table alone:
    clusters 3 and 4 stay marked used with no owner — rejected (lost clusters) -/
theorem cex_remove_leak : ¬ invB .f12 10 exTable [[2]] = true := by decide

/-- the repaired remove releases the chain and the invariant holds again -/
theorem ex_remove_repaired :
    invB .f12 10 (freeChain .f12 10 10 exTable 3).1 [[2]] = true := by decide

/-! ### non-vacuity: the hypotheses of the allocation and release theorems hold together on a
  small FAT12 table -/

theorem ex_limOk : LimOk .f12 10 := by
  intro c hc
  simp only [Kind.isEOC, decide_eq_false_iff_not]
  omega

theorem ex_inv' : Inv .f12 10 exTable [[3, 4], [2]] := inv_perm (.swap ..) ex_inv

example : (allocateSpace .f12 10 512 (firstFit 10) 10 exTable 1024 0).res = some [5, 6] := by decide

example : Inv .f12 10 (allocateSpace .f12 10 512 (firstFit 10) 10 exTable 1024 0).m
    ([5, 6] :: [[2], [3, 4]]) :=
  (alloc_new_inv ex_inv (firstFit_spec 10) (by decide) (by decide) (by decide)).1

example : (allocateSpace .f12 10 512 (firstFit 10) 10 exTable 1536 ([3, 4].headD 0)).res
    = some [3, 4, 5] := by decide

example : Inv .f12 10 (allocateSpace .f12 10 512 (firstFit 10) 10 exTable 1536 ([3, 4].headD 0)).m
    ([3, 4, 5] :: [[2]]) :=
  (alloc_grow_inv ex_inv' (firstFit_spec 10) ex_limOk (by decide) (by decide) (by decide)
    (by decide)).1

example : Inv .f12 10 (allocateSpace .f12 10 512 (firstFit 10) 10 exTable 512 ([3, 4].headD 0)).m
    ([3] :: [[2]]) :=
  (alloc_shrink_inv (pick := firstFit 10) (size := 512) (bpc := 512) ex_inv' ex_limOk
    (by decide) (by decide) (by decide) (by decide)).2

example : freeCount 10 (allocateSpace .f12 10 512 (firstFit 10) 10 exTable 512 3).m = 6 ∧
    freeCount 10 exTable = 5 := by decide

example : Inv .f12 10 (freeChain .f12 10 10 exTable ([3, 4].headD 0)).1 [[2]] :=
  (freeChain_inv ex_inv' ex_limOk (by decide) (by decide)).2

example : (allocateSpace .f12 10 512 (firstFit 10) 10 exTable 5120 0).res = none := by decide

end Diskfs.Fat
