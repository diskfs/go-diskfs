/-
  Geometry at mkfs time, PARAMETRIC in the cluster-size tables.  The three `Create`s pick sectors per
  cluster (FAT12/16) or cluster bytes (FAT32) from a size → value table in the source, regenerated as
  parameter facts (Generated/Fat.lean).  `ClusterTableWF` is a decidable well-formedness predicate on
  such a table: rows `(exclusive size bound, value)`, last row `(0, default)`; bounds positive and
  strictly increasing; values non-decreasing and among the allowed powers of two (FAT12/16: 1…128
  sectors; FAT32: 512…32768 bytes); for FAT32 also, per row, that the 16-bit sectors-per-FAT field cannot
  wrap for the largest size the row serves (`row32Ok`).  The theorems hold for EVERY table satisfying
  the predicate, and `decide` discharges it for the regenerated tables (Proofs/FatGeomGen.lean): a
  harmless edit of a threshold re-proves itself, a harmful one fails `decide`.
-/
import DiskfsModel.Model.Fat.Geom
namespace Diskfs.Fat

theorem u32_of_lt {x : Nat} (h : x < 4294967296) : u32 x = x := by
  unfold u32; exact Nat.mod_eq_of_lt h
theorem u16_of_lt {x : Nat} (h : x < 65536) : u16 x = x := by
  unfold u16; exact Nat.mod_eq_of_lt h
theorem u8_of_lt {x : Nat} (h : x < 256) : u8 x = x := by
  unfold u8; exact Nat.mod_eq_of_lt h
theorem u16_lt (x : Nat) : u16 x < 65536 := by unfold u16; omega
theorem sub32_of_le {a b : Nat} (hb : b ≤ a) (ha : a < 4294967296) : sub32 a b = a - b := by
  unfold sub32; omega

theorem ite_none_eq_some {α : Type} {c : Prop} [Decidable c] {x : Option α} {g : α} :
    (if c then none else x) = some g ↔ ¬ c ∧ x = some g :=
  Option.ite_none_left_eq_some

/-- `Geom.WF` needs no more than a sector count that matches the range, one data cluster and a FAT
    entry for each: a data cluster leaves the metadata in front of it (`meta_fits`), and the clusters
    then end inside the range. -/
theorem Geom.wf_of_clusters {g : Geom} {size : Nat} (hb : 0 < g.bps) (hts : g.totalSectors = size / g.bps)
    (hc : 0 < g.clusters) (hf : g.clusters + 2 ≤ g.fatEntries) : g.WF size := by
  have h1 : g.totalSectors * g.bps ≤ size := hts ▸ Nat.div_mul_le_self ..
  have h3 : g.reserved + 2 * g.fatSectors + g.rootSectors < g.totalSectors := by
    have := Nat.div_pos_iff.1 hc
    unfold Geom.dataSectors at this
    omega
  refine ⟨h1, hts ▸ Nat.lt_div_mul_add hb, h3, hc, hf, Nat.le_trans ?_ h1⟩
  -- `clusters * spc` never exceeds the data sectors
  unfold Geom.dataStart Geom.clusters Geom.dataSectors
  rw [← Nat.add_mul]
  apply Nat.mul_le_mul_right
  have := Nat.div_mul_le_self (g.totalSectors - g.reserved - 2 * g.fatSectors - g.rootSectors) g.spc
  omega

/-- sectors per cluster a FAT12/16 table may assign -/
def spcAllowed : List Nat := [1, 2, 4, 8, 16, 32, 64, 128]
/-- cluster sizes in bytes a FAT32 table may assign -/
def clusterBytesAllowed : List Nat := [512, 1024, 2048, 4096, 8192, 16384, 32768]

def ClusterTableWF (allowed : List Nat) (t : List (Nat × Nat)) : Bool :=
  let vals := t.map (·.2)
  let bounds := (t.dropLast).map (·.1)
  (t.getLast?.map (·.1) == some 0) &&
  t.all (fun r => allowed.contains r.2) &&
  (bounds.zip (bounds.drop 1)).all (fun p => decide (p.1 < p.2)) &&
  (vals.zip (vals.drop 1)).all (fun p => decide (p.1 ≤ p.2)) &&
  bounds.all (fun b => decide (0 < b))

/-- largest size for which FAT32 `Create` is claimed well formed with sector size `bs`
    (512-byte sectors: the uint16 sectors-per-FAT wraps just above 256 GiB — finding
    fat32-geometry-narrow-integers; 4096-byte sectors: `Fat32MaxSize`) -/
def fat32Cap (bs : Nat) : Nat := if bs = 4096 then fat32MaxSize else 274940771839

/-- FAT32 row `(bound, clusterBytes)`: for both sector sizes, the sectors-per-FAT value of the
    largest size the row serves fits the uint16 it is stored in -/
def row32Ok (r : Nat × Nat) : Bool :=
  [512, 4096].all fun bs =>
    let spc0 := r.2 / bs % 256
    let spc := if spc0 = 0 then 1 else spc0
    let d := bs * spc + 8
    let top := if r.1 = 0 then fat32Cap bs else min (r.1 - 1) (fat32Cap bs)
    decide (4 * (top / bs - 32) + 8 * spc + d - 1 < 65536 * d)

def ClusterTableWF32 (t : List (Nat × Nat)) : Bool :=
  ClusterTableWF clusterBytesAllowed t && t.all row32Ok

theorem lookup_row (allowed : List Nat) (t : List (Nat × Nat)) (size : Nat) (h : ClusterTableWF allowed t = true) :
    ∃ r ∈ t, sizeTableLookup t size = r.2 ∧ (r.1 = 0 ∨ size < r.1) ∧ r.2 ∈ allowed := by
  unfold ClusterTableWF at h
  simp only [Bool.and_eq_true, List.all_eq_true, beq_iff_eq, List.contains_eq_mem, decide_eq_true_eq] at h
  obtain ⟨⟨⟨⟨hlast, hvals⟩, _⟩, _⟩, _⟩ := h
  unfold sizeTableLookup
  cases hf : t.find? (fun r => r.1 = 0 || decide (size < r.1)) with
  | some r =>
    have hm := List.mem_of_find?_eq_some hf
    have hp := List.find?_some hf
    simp only [Bool.or_eq_true, decide_eq_true_eq] at hp
    exact ⟨r, hm, rfl, hp, hvals r hm⟩
  | none =>
    exfalso
    rw [List.find?_eq_none] at hf
    cases hl : t.getLast? with
    | none => rw [hl] at hlast; simp at hlast
    | some x =>
      rw [hl] at hlast
      simp only [Option.map_some, Option.some.injEq] at hlast
      have := hf x (List.mem_of_getLast? hl)
      simp [hlast] at this

theorem lookup_spc_range {tbl : List (Nat × Nat)} (hT : ClusterTableWF spcAllowed tbl = true) (size : Nat) :
    1 ≤ sizeTableLookup tbl size ∧ sizeTableLookup tbl size ≤ 128 := by
  obtain ⟨r, -, hl, -, hv⟩ := lookup_row spcAllowed tbl size hT
  simp only [spcAllowed, List.mem_cons, List.not_mem_nil, or_false] at hv
  omega

end Diskfs.Fat
