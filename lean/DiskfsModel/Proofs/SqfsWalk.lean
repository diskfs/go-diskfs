/-
  What the two tree walkers have in common (`sqWalk` over metadata streams, `imgWalk` over an
  image; their theorems are `reader_walks_tree` and `image_walk_returns_tree` of Props/C07.lean):
  the shape of a walk over the children of a directory.
-/
import DiskfsModel.Model.Sqfs.Walk
namespace Diskfs.Sqfs

theorem map_dent_wf (t : STree) (hc : ∀ d, d < t.n → ∀ c ∈ t.kids d, c < t.n) (hw : ∀ c, c < t.n → (t.dent c).WF 0)
    (d : Nat) (hd : d < t.n) : ∀ e ∈ (t.kids d).map t.dent, e.WF 0 := by
  intro e he
  obtain ⟨c, hc', rfl⟩ := List.mem_map.1 he
  exact hw c (hc d hd c hc')

theorem walk_kids {α β : Type} (g : List α → Option (List β)) (step : α → List β) (l : List α) (h0 : g [] = some [])
    (hs : ∀ a ∈ l, ∀ as r, g as = some r → g (a :: as) = some (step a ++ r)) : g l = some (l.flatMap step) := by
  induction l with
  | nil => exact h0
  | cons a l ih =>
    exact hs a (List.mem_cons_self ..) l _ (ih fun b hb => hs b (List.mem_cons_of_mem _ hb))

/-- the recursive call of a walker, made for directories only -/
theorem walk_sub {β : Type} (b : Bool) (x : Option (List β)) (y : List β) (h : b = true → x = some y) :
    (if b then x else some []) = some (if b then y else []) := by
  cases b
  · rfl
  · simp [h rfl]

end Diskfs.Sqfs
