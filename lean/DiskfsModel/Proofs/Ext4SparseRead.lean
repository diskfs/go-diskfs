/-
  File.Read over a flat extent list with holes (Model/Ext4/SparseRead.lean).  The extent loop keeps the invariant
  `ReadInv` against the logical file taken as a byte oracle (`sparseLoop_spec`); the arithmetic of the loop body is
  set apart in `hole_arith` and `read_arith`, about variables.
-/
import DiskfsModel.Model.Ext4.SparseRead
import DiskfsModel.Proofs.Ext4Reader
namespace Diskfs.Ext4.Reader

/-! ### windows of a byte oracle (`window` is `readAt` for any oracle, by definition) -/

@[simp] theorem window_length (f : Nat → UInt8) (a k : Nat) : (window f a k).length = k :=
  readAt_length f a k

theorem window_getD (f : Nat → UInt8) (a k i : Nat) (h : i < k) : (window f a k).getD i 0 = f (a + i) :=
  readAt_getD f a k i h

theorem window_zero (f : Nat → UInt8) (a : Nat) : window f a 0 = [] := rfl

theorem window_add (f : Nat → UInt8) (a k1 k2 : Nat) :
    window f a (k1 + k2) = window f a k1 ++ window f (a + k1) k2 :=
  readAt_append f a k1 k2

theorem window_take (f : Nat → UInt8) (a k j : Nat) : (window f a k).take j = window f a (min j k) :=
  readAt_take f a k j

theorem min_add_clip (a b c : Nat) : min (a + b) c = min a c + min b (c - min a c) := by omega

/-- one Read of at most `chunk > 0` bytes at `off`: if it reaches the size it delivered the whole remainder,
    otherwise the remainder shrinks by what it delivered -/
theorem clip_step (size off chunk : Nat) (hc : 0 < chunk) :
    (size ≤ off + min chunk (size - off) → min chunk (size - off) = size - off) ∧
    (¬ size ≤ off + min chunk (size - off) → size - (off + min chunk (size - off)) < size - off ∧
      size - off = min chunk (size - off) + (size - (off + min chunk (size - off)))) := by omega

theorem SortedExts_count_pos : ∀ (l : List Extent), SortedExts l → ∀ e ∈ l, 0 < e.count
  | [], _, _, he => by simp at he
  | a :: as, h, e, he => by
    rcases List.mem_cons.1 he with rfl | h'
    · exact h.1
    · exact SortedExts_count_pos as h.2.2 e h'

theorem logicalByte_cons (dev : Dev) (bs : Nat) (hbs : 0 < bs) (e : Extent) (es : List Extent) (p : Nat) :
    logicalByte dev bs (e :: es) p =
      if e.fileBlock * bs ≤ p ∧ p < (e.fileBlock + e.count) * bs then dev (e.start * bs + (p - e.fileBlock * bs))
      else logicalByte dev bs es p := by
  unfold logicalByte
  by_cases h : e.fileBlock * bs ≤ p ∧ p < (e.fileBlock + e.count) * bs
  · have hq : e.fileBlock ≤ p / bs := (Nat.le_div_iff_mul_le hbs).2 h.1
    rw [if_pos h, leafLookup_cons_hit e es (p / bs) ⟨hq, (Nat.div_lt_iff_lt_mul hbs).2 h.2⟩]
    simp only
    congr 1
    have hdm := Nat.div_add_mod p bs
    have hle : e.fileBlock * bs ≤ (p / bs) * bs := Nat.mul_le_mul_right bs hq
    rw [Nat.add_mul, Nat.sub_mul, Nat.mul_comm bs] at *
    omega
  · rw [if_neg h, leafLookup_cons_miss e es _ (by rwa [Nat.le_div_iff_mul_le hbs, Nat.div_lt_iff_lt_mul hbs])]

theorem logicalByte_below (dev : Dev) (bs : Nat) (hbs : 0 < bs) (es : List Extent) (q p : Nat)
    (h : ∀ a ∈ es, q ≤ a.fileBlock) (hp : p < q * bs) : logicalByte dev bs es p = 0 := by
  unfold logicalByte
  rw [leafLookup_none_of_forall es (p / bs) fun a ha => by
    have := h a ha; have := (Nat.div_lt_iff_lt_mul hbs).2 hp; omega]

/-- the loop invariant of File.Read against a byte oracle `L`: the handle has advanced by the bytes delivered so
    far, at most `want`, and these are `L` from the starting offset on -/
def ReadInv (L : Nat → UInt8) (off0 want : Nat) (st : RdSt) : Prop :=
  st.off = off0 + st.got.length ∧ st.got = window L off0 st.got.length ∧ st.got.length ≤ want

theorem readInv_extend (L : Nat → UInt8) (off0 want : Nat) (st : RdSt) (k : Nat) (chunk : Bytes)
    (ios : List (Nat × Nat)) (h : ReadInv L off0 want st) (hc : chunk = window L st.off k)
    (hk : st.got.length + k ≤ want) : ReadInv L off0 want ⟨st.off + k, st.got ++ chunk, ios⟩ := by
  obtain ⟨h1, h2, h3⟩ := h
  subst hc
  refine ⟨?_, ?_, ?_⟩ <;> simp only [List.length_append, window_length]
  · omega
  · rw [window_add, ← h2, h1]
  · exact hk

/-- zero-filling the hole in front of an extent of `C` bytes at `F`: from offset `o` with `g` of `w` bytes
    delivered, `nz` bytes are filled (none without a hole); the offset stays in front of the end of the extent,
    and it reaches `F` unless the request is complete -/
theorem hole_arith (o F g w nz C : Nat) (hnz : nz = min (F - o) (w - g)) (hg : g ≤ w) (hC : 0 < C) (ho : o < F + C) :
    g + nz ≤ w ∧ (∀ i, i < nz → o + i < F) ∧ (¬ o < F → nz = 0) ∧ o + nz < F + C ∧
    (¬ (o < F ∧ g + nz ≥ w) → F ≤ o + nz) := by
  refine ⟨by omega, fun i hi => by omega, by omega, by omega, by omega⟩

/-- reading `k` bytes at offset `o` inside an extent of `C` bytes at `F` (device offset `S`): no negative length,
    the read stays on the device and inside the extent, and reaches its end unless the request is complete -/
theorem read_arith (o F C g w S devSize k : Nat) (hk : k = min (w - g) (C - (o - F))) (h1 : F ≤ o) (h2 : o < F + C)
    (hd : S + C ≤ devSize) (hg : g ≤ w) :
    ¬ o - F > C ∧ ¬ (S + (o - F) ≥ devSize ∨ S + (o - F) + k > devSize) ∧ g + k ≤ w ∧
    (∀ i, i < k → o + i < F + C ∧ S + (o - F) + i = S + (o + i - F)) ∧ (¬ g + k ≥ w → o + k = F + C) := by
  refine ⟨by omega, by omega, by omega, fun i hi => by omega, by omega⟩

/-- The oracle `L` stays the same through the induction: it need be the logical file of `rest` only from the current
    offset on. -/
theorem sparseLoop_spec (dev : Dev) (devSize bs off0 want : Nat) (hbs : 0 < bs) (L : Nat → UInt8) :
    ∀ (rest : List Extent) (st : RdSt), SortedExts rest → ExtsOnDev bs devSize rest →
      (∀ p, st.off ≤ p → L p = logicalByte dev bs rest p) →
      (∀ e ∈ rest, ¬ (e.fileBlock + e.count ≤ off0 / bs) → st.off < (e.fileBlock + e.count) * bs) →
      ReadInv L off0 want st →
      ∃ st', sparseLoop dev devSize bs (off0 / bs) want rest st = .done st' ∧ ReadInv L off0 want st' ∧
        (st'.got.length < want → ∀ p, st'.off ≤ p → L p = 0) := by
  intro rest
  induction rest with
  | nil => intro st _ _ hL _ hI; exact ⟨st, rfl, hI, fun _ p hp => hL p hp⟩
  | cons e es ih =>
    intro st hs hdev hL hQ hI
    obtain ⟨hcnt, hsep, hs'⟩ := hs
    have ⟨hoff, _, hlen⟩ := hI
    have hdev' : ExtsOnDev bs devSize es := fun a ha => hdev a (List.mem_cons_of_mem _ ha)
    have hedev := hdev e (List.mem_cons_self ..)
    rw [sparseLoop]
    by_cases hskip : e.fileBlock + e.count ≤ off0 / bs
    · -- skipped: it ends at or before the block the read starts in
      rw [if_pos hskip]
      refine ih st hs' hdev' (fun p hp => ?_) (fun a ha => hQ a (List.mem_cons_of_mem _ ha)) hI
      rw [hL p hp, logicalByte_cons dev bs hbs, if_neg (by have := (Nat.le_div_iff_mul_le hbs).1 hskip; omega)]
    · rw [if_neg hskip]
      extract_lets holeEnd nz st1 extentSize startPos toRead disk st2
      have hlt : st.off < holeEnd + extentSize := by
        have := hQ e (List.mem_cons_self ..) hskip
        rwa [Nat.add_mul] at this
      have hcb : 0 < extentSize := Nat.mul_pos hcnt hbs
      have hdv : e.start * bs + extentSize ≤ devSize := by rwa [Nat.add_mul] at hedev
      -- `L` around this extent: zero in front of it, the device inside, the rest of the list behind
      have Lhole : ∀ p, st.off ≤ p → p < holeEnd → L p = 0 := by
        intro p h1 h2
        rw [hL p h1, logicalByte_cons dev bs hbs, if_neg (by omega)]
        exact logicalByte_below dev bs hbs es _ p hsep (by rw [Nat.add_mul]; omega)
      have Lmap : ∀ p, st.off ≤ p → holeEnd ≤ p → p < holeEnd + extentSize →
          L p = dev (e.start * bs + (p - holeEnd)) := by
        intro p h0 h1 h2
        rw [hL p h0, logicalByte_cons dev bs hbs, if_pos ⟨h1, by rwa [Nat.add_mul]⟩]
      have Lnext : ∀ p, st.off ≤ p → holeEnd + extentSize ≤ p → L p = logicalByte dev bs es p := by
        intro p h0 h1
        rw [hL p h0, logicalByte_cons dev bs hbs, if_neg (by rw [Nat.add_mul]; omega)]
      have hnext : ∀ a ∈ es, holeEnd + extentSize < (a.fileBlock + a.count) * bs := by
        intro a ha
        have h1 := Nat.mul_le_mul_right bs (hsep a ha)
        have h2 := Nat.mul_pos (SortedExts_count_pos es hs' a ha) hbs
        rw [Nat.add_mul] at h1 ⊢
        omega
      -- the hole branch: without a hole in front `nz = 0` and nothing changes
      obtain ⟨z1, zi, z0, zhi, zlo⟩ := hole_arith st.off holeEnd st.got.length want nz extentSize rfl hlen hcb hlt
      have hst1 : st1 = ⟨st.off + nz, st.got ++ zeros nz, st.ios⟩ := by
        by_cases h : st.off < holeEnd
        · exact if_pos h
        · rw [show st1 = st from if_neg h, z0 h]
          simp [zeros]
      have hst2 : st2 = ⟨st1.off + toRead, st1.got ++ readAt dev disk toRead, st1.ios ++ [(disk, toRead)]⟩ := rfl
      have harith := read_arith st1.off holeEnd extentSize st1.got.length want (e.start * bs) devSize toRead rfl
      rw [show e.start * bs + (st1.off - holeEnd) = disk from rfl, show st1.off - holeEnd = startPos from rfl,
        hst1] at harith
      -- from here on the names of the loop body are opaque: `omega` would unfold them and split on every `min`
      -- and `-` of their values at each call
      clear_value st2 disk toRead startPos st1 nz extentSize holeEnd
      subst hst1
      have hI1 := readInv_extend L off0 want st nz _ st.ios hI
        (readAt_zeros fun i hi => Lhole _ (Nat.le_add_right ..) (zi i hi)).symm z1
      simp only [List.length_append, zeros_length] at harith ⊢
      by_cases hdone : st.off < holeEnd ∧ st.got.length + nz ≥ want
      · rw [if_pos hdone]
        exact ⟨_, rfl, hI1, fun h => absurd hdone.2 (by simpa using h)⟩
      rw [if_neg hdone]
      -- past the hole: the offset is inside the extent
      obtain ⟨r1, r2, r3, ri, r5⟩ := harith (zlo hdone) zhi hdv z1
      rw [if_neg r1, if_neg r2]
      subst hst2
      have h2len : (st.got ++ zeros nz ++ readAt dev disk toRead).length = st.got.length + nz + toRead := by
        simp only [List.length_append, zeros_length, readAt_length]
      have h2ge : st.off ≤ st.off + nz + toRead := Nat.le_trans (Nat.le_add_right _ nz) (Nat.le_add_right _ toRead)
      have hI2 := readInv_extend L off0 want _ toRead _ (st.ios ++ [(disk, toRead)]) hI1
        (readAt_ext fun i hi => by
          rw [Lmap (st.off + nz + i) (by omega) (Nat.le_trans (zlo hdone) (Nat.le_add_right ..)) (ri i hi).1,
            (ri i hi).2]) (by simpa using r3)
      rw [h2len]
      by_cases hfin : st.got.length + nz + toRead ≥ want
      · rw [if_pos hfin]
        exact ⟨_, rfl, hI2, fun h => by rw [h2len] at h; exact absurd hfin (Nat.not_le.2 h)⟩
      rw [if_neg hfin]
      -- the extent was read to its end
      exact ih _ hs' hdev' (fun p hp => Lnext p (Nat.le_trans h2ge hp) (r5 hfin ▸ hp))
        (fun a ha _ => r5 hfin ▸ hnext a ha) hI2

end Diskfs.Ext4.Reader
