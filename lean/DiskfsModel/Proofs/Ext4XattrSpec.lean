/-
  The SPEC reader's walk of an extended-attribute entry table (ImageSpec.xattrWalk) on an encoded table returns
  exactly the entries (`xattrWalk_enc`), and therefore what the mirror of parseXattrEntries returns
  (Props/C20.lean xattr_parse_roundtrip) when the names are distinct (`xattrWalk_table`).
-/
import DiskfsModel.Proofs.Ext4Xattr
import DiskfsModel.Model.Ext4.ImageSpec
namespace Diskfs.Ext4.Reader
open Diskfs.Ext4.Spec

theorem low_digits_zero (a b c : Nat) (h : a + 256 * (b + 256 * c) = 0) : a = 0 ∧ b = 0 := by omega

/-- what may follow the last entry for BOTH readers to stop there: fewer than four bytes, or four zero bytes
    (the terminator the format prescribes) -/
def TermZero (tail : Bytes) : Prop := tail.length < 4 ∨ ∃ t, tail = 0 :: 0 :: 0 :: 0 :: t

theorem termZero_termOK (tail : Bytes) (h : TermZero tail) : TermOK tail := by
  rcases h with h | ⟨t, rfl⟩
  · left; omega
  · right; constructor <;> rfl

theorem xattrWalk_enc (buf : Bytes) (base : Nat) :
    ∀ (xs : List XEnt) (pre tail : Bytes) (acc : List (Bytes × Bytes)) (fuel : Nat),
      buf = pre ++ encXTable xs ++ tail → pre.length % 4 = 0 →
      (∀ x ∈ xs, x.name.length < 256 ∧ x.idx < 256 ∧ ¬ (x.name.length = 0 ∧ x.idx = 0) ∧ x.offs < 65536 ∧
        x.size < 4294967296 ∧ (0 < x.size → base + x.offs + x.size ≤ buf.length)) →
      xs.length < fuel → TermZero tail →
      xattrWalk buf base buf.length fuel pre.length acc = .ok (acc.reverse ++ xs.map fun x =>
        (xattrPrefixSpec x.idx ++ x.name,
          if x.size > 0 then slice buf (base + x.offs) (base + x.offs + x.size) else [])) := by
  intro xs
  induction xs with
  | nil =>
    intro pre tail acc fuel hb _ _ hf ht
    cases fuel with
    | zero => simp at hf
    | succ f =>
      simp only [encXTable, List.append_nil] at hb
      rw [xattrWalk]
      rcases ht with ht | ⟨t, rfl⟩
      · rw [if_pos (Or.inl (by rw [hb, List.length_append]; omega))]
        simp
      · have : le32 buf pre.length = 0 := by
          rw [hb]
          have := le32_shift pre (0 :: 0 :: 0 :: 0 :: t) 0
          rw [Nat.add_zero] at this
          rw [this]
          simp [le32, slice, leDec]
        rw [if_pos (Or.inr this)]
        simp
  | cons x rest ih =>
    intro pre tail acc fuel hb hal hwf hf ht
    cases fuel with
    | zero => simp at hf
    | succ f =>
      obtain ⟨hnl, hidx, hnz, hoffs, hsize, hval⟩ := hwf x (List.mem_cons_self ..)
      obtain ⟨e0, e1, e2, e3, e4, e5, hin, hnext, hal2, hbuf⟩ := xent_read x rest pre tail hnl hidx hoffs hsize hal
      simp only [← hb] at e0 e1 e2 e3 e4 e5 hin hbuf
      have h16 : pre.length + 16 ≤ buf.length := Nat.le_trans (Nat.le_add_right ..) hin
      -- the first four bytes of the entry are not all zero
      have hnz32 : le32 buf pre.length ≠ 0 := by
        rw [le32_eq_u8s buf pre.length (Nat.le_trans (by omega) h16), e0, e1]
        exact fun h0 => hnz (low_digits_zero _ _ _ h0)
      rw [xattrWalk, if_neg (by intro h; rcases h with h | h; omega; exact hnz32 h), if_neg (Nat.not_lt.2 h16)]
      simp only [e0, e1, e2, e3, e4, e5]
      rw [if_neg (by omega), if_neg (by simp), if_neg (by intro ⟨h1, h2⟩; have := hval h1; omega), hnext,
        ih (pre ++ encXEnt x) tail _ f hbuf hal2 (fun y hy => hwf y (List.mem_cons_of_mem _ hy))
          (by simp at hf; omega) ht]
      simp

/-- in the terms of the mirror: the buffer from `base` on is the value buffer `V` of parseXattrEntries, and the two
    prefix tables name the indices alike -/
theorem xattrWalk_table (tbl : List (Nat × String)) (xs : List XEnt) (pre tail V : Bytes) (base : Nat)
    (hal : pre.length % 4 = 0) (hwf : ∀ x ∈ xs, XWF V x) (ht : TermZero tail)
    (hpre : ∀ x ∈ xs, xattrPrefix tbl x.idx = xattrPrefixSpec x.idx)
    (hV : ∀ lo hi, slice (pre ++ (encXTable xs ++ tail)) (base + lo) (base + hi) = slice V lo hi)
    (hlen : base + V.length ≤ (pre ++ (encXTable xs ++ tail)).length) :
    xattrWalk (pre ++ (encXTable xs ++ tail)) base (pre ++ (encXTable xs ++ tail)).length (xs.length + 1)
        pre.length [] =
      .ok (xs.map fun x =>
        (xattrPrefix tbl x.idx ++ x.name, if x.size > 0 then slice V x.offs (x.offs + x.size) else [])) := by
  rw [xattrWalk_enc _ base xs pre tail [] (xs.length + 1) (by simp) hal ?_ (by omega) ht]
  · simp only [List.reverse_nil, List.nil_append]
    congr 1
    apply List.map_congr_left
    intro x hx
    rw [hpre x hx, Nat.add_assoc, hV]
  · intro x hx
    obtain ⟨h1, h2, h3, h4, h5, h6⟩ := hwf x hx
    exact ⟨h1, h2, h3, h4, h5, fun hp => by have := h6 hp; omega⟩

end Diskfs.Ext4.Reader
