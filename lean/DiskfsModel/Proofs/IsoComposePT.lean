/-
  The path table `createPathTable` makes for a laid-out workspace tree is well formed (`PtWF`): the
  table order puts a directory behind its parent, and siblings have distinct identifiers, none of
  them the root's byte 0 or ".".
-/
import DiskfsModel.Proofs.IsoCompose
import DiskfsModel.Proofs.IsoPT
namespace Diskfs.Iso

/-- the path table order: every directory once, the root first, a directory after its parent
    (`sortFinalizeFileInfoPathTable` orders by depth first) -/
structure WTree.PtOK (w : WTree) (pt : List Nat) : Prop where
  nodup : pt.Nodup
  head : pt.head? = some 0
  dirs : ∀ d ∈ pt, d < w.n ∧ w.isDir d = true
  parent : ∀ d ∈ pt, d ≠ 0 → w.parent d ∈ pt ∧ pt.idxOf (w.parent d) < pt.idxOf d

section
variable (w : WTree) (order : Nat → List Nm) (fin : Nat → Nat → Nm) (loc : Nat → Nat) (pt : List Nat)

/-- the directory record number `i` of the table is about -/
def dirOf (i : Nat) : Nat := pt.getD (i - 1) 0

theorem ptRec_ptRecs (i : Nat) (h1 : 1 ≤ i) (hl : i ≤ pt.length) :
    ptRec (w.ptRecs fin loc pt) i =
      { name := w.ident fin (dirOf pt i), loc := loc (dirOf pt i), parent := pt.idxOf (w.parent (dirOf pt i)) + 1 } := by
  have hlt : i - 1 < pt.length := by omega
  simp only [ptRec, WTree.ptRecs, dirOf, List.getD_eq_getElem?_getD, List.getElem?_map, List.getElem?_eq_getElem hlt,
    Option.map_some, Option.getD_some]

theorem dirOf_mem (hn : pt.Nodup) (i : Nat) (h1 : 1 ≤ i) (hl : i ≤ pt.length) :
    dirOf pt i ∈ pt ∧ pt.idxOf (dirOf pt i) = i - 1 := by
  have hlt : i - 1 < pt.length := by omega
  have e : dirOf pt i = pt[i - 1] := by
    rw [dirOf, getD_eq_of_lt _ _ _ hlt]
  rw [e]
  exact ⟨List.getElem_mem hlt, hn.idxOf_getElem (i - 1) hlt⟩

theorem strBytes_ok_ne (s : Str) (hs : ∀ c ∈ s, okChar c = true) (x : UInt8) (hx : x = 0 ∨ x = 46) : strBytes s ≠ [x] := by
  intro h
  have e : s = [x.toNat] := by
    rw [← strBytes_toNat s fun c hc => Nat.lt_trans (okChar_ascii_ne_dot c (hs c hc)).1 (by decide), h]; rfl
  have := hs x.toNat (e ▸ List.mem_singleton_self _)
  rcases hx with rfl | rfl <;> exact absurd this (by decide)

theorem ident_ne (o : Order) (hok : w.OK o) (hr : w.Resolved order fin) (d : Nat) (hd : d < w.n) (h0 : d ≠ 0)
    (hdir : w.isDir d = true) (x : UInt8) (hx : x = 0 ∨ x = 46) : w.ident fin d ≠ [x] := by
  have hk := hok.inKids d hd h0
  have hv := (hr.spec (w.parent d) (hok.parLt d hd) hk.1).2.1 _ (List.idxOf_lt_length_of_mem hk.2)
  simp only [WTree.ident, h0, if_false, hdir, isoIdent, if_true]
  exact strBytes_ok_ne _ hv.2.2.1 x hx

theorem pt_dir_inj (o : Order) (hok : w.OK o) (hr : w.Resolved order fin) (hpt : w.PtOK pt) (d1 d2 : Nat)
    (h1 : d1 ∈ pt) (h2 : d2 ∈ pt) (hp : pt.idxOf (w.parent d1) = pt.idxOf (w.parent d2))
    (hn : w.ident fin d1 = w.ident fin d2) : d1 = d2 := by
  -- only the root is called [0]
  have root : ∀ a b, a ∈ pt → w.ident fin a = w.ident fin b → b = 0 → a = 0 := by
    intro a b ha e hb
    refine Classical.byContradiction fun h0 => ?_
    rw [hb] at e
    exact ident_ne w order fin o hok hr a (hpt.dirs a ha).1 h0 (hpt.dirs a ha).2 0 (Or.inl rfl) e
  by_cases z1 : d1 = 0
  · rw [z1, root d2 d1 h2 hn.symm z1]
  · have z2 : d2 ≠ 0 := fun z => z1 (root d1 d2 h1 hn z)
    have k1 := hok.inKids d1 (hpt.dirs d1 h1).1 z1
    have k2 := hok.inKids d2 (hpt.dirs d2 h2).1 z2
    have hpe : w.parent d1 = w.parent d2 := by
      rw [← getD_idxOf pt _ (hpt.parent d1 h1 z1).1, ← getD_idxOf pt _ (hpt.parent d2 h2 z2).1, hp]
    rw [← hpe] at k2
    refine Classical.byContradiction fun hne => ?_
    exact (ident_kids hok hr _ (hok.parLt d1 (hpt.dirs d1 h1).1) k1.1).2 _ k1.2 _ k2.2 hne hn

theorem ptRecs_wf (o : Order) (hok : w.OK o) (hr : w.Resolved order fin) (hpt : w.PtOK pt) :
    PtWF (w.ptRecs fin loc pt) := by
  have hlen : (w.ptRecs fin loc pt).length = pt.length := List.length_map ..
  have h0idx : pt.idxOf 0 = 0 := by
    cases hp : pt with
    | nil => have := hpt.head; rw [hp] at this; cases this
    | cons a r =>
      have := hpt.head
      rw [hp, List.head?_cons, Option.some.injEq] at this
      rw [this]
      exact List.idxOf_cons_self
  -- a record other than the first is about a directory other than the root
  have hkid : ∀ i, 2 ≤ i → i ≤ pt.length → dirOf pt i ∈ pt ∧ pt.idxOf (dirOf pt i) = i - 1 ∧ dirOf pt i ≠ 0 := by
    intro i h2 hl
    have hm := dirOf_mem pt hpt.nodup i (by omega) hl
    refine ⟨hm.1, hm.2, fun e => ?_⟩
    rw [e, h0idx] at hm
    omega
  refine ⟨?_, ?_, ?_⟩
  · intro i h2 hl
    rw [hlen] at hl
    rw [ptRec_ptRecs w fin loc pt i (by omega) hl]
    obtain ⟨hm, hi, hne⟩ := hkid i h2 hl
    have := (hpt.parent _ hm hne).2
    show 1 ≤ pt.idxOf _ + 1 ∧ pt.idxOf _ + 1 < i
    omega
  · intro i j hi hil hj hjl hpar hnm
    rw [hlen] at hil hjl
    rw [ptRec_ptRecs w fin loc pt i hi hil, ptRec_ptRecs w fin loc pt j hj hjl] at hpar hnm
    have hmi := dirOf_mem pt hpt.nodup i hi hil
    have hmj := dirOf_mem pt hpt.nodup j hj hjl
    have := congrArg (pt.idxOf ·) (pt_dir_inj w order fin pt o hok hr hpt _ _ hmi.1 hmj.1 (Nat.succ.inj hpar) hnm)
    simp only [hmi.2, hmj.2] at this
    omega
  · intro i h2 hl
    rw [hlen] at hl
    rw [ptRec_ptRecs w fin loc pt i (by omega) hl]
    obtain ⟨hm, _, hne⟩ := hkid i h2 hl
    exact ident_ne w order fin o hok hr _ (hpt.dirs _ hm).1 hne (hpt.dirs _ hm).2 46 (Or.inr rfl)

end

theorem ptRecs_recWF (w : WTree) (order : Nat → List Nm) (fin : Nat → Nat → Nm) (bs : Nat) (o : Order)
    (hbs : 0 < bs) (hok : w.OK o) (hr : w.Resolved order fin) (hpt : w.PtOK o.pt)
    (htot : w.total fin bs o < 2 ^ 32) (hcount : o.pt.length + 1 < 2 ^ 16)
    (hne : ∀ d ∈ o.pt, w.ident fin d ≠ []) :
    ∀ r ∈ w.ptRecs fin (w.loc fin bs o) o.pt, r.WF := by
  intro r hrm
  obtain ⟨d, hd, rfl⟩ := List.mem_map.1 hrm
  have hdn := (hpt.dirs d hd).1
  obtain ⟨b, _, hx⟩ := ent_in_mid (fin := fin) (bs := bs) hok d hdn
  have : o.pt.idxOf (w.parent d) ≤ o.pt.length := List.idxOf_le_length
  exact ⟨List.length_pos_iff.2 (hne d hd), Nat.lt_of_le_of_lt (ident_le hok hr d hdn) (by decide),
    Nat.lt_of_le_of_lt (loc_le_total hbs hok hx) htot, by show _ + 1 < _; omega⟩

end Diskfs.Iso
