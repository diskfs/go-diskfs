/-
  The length of the extent `encSuffix` lays out (`dirSize` exactly; between one byte and twice the
  longest record per record), and `parseExtent` reads the records back: it steps over a record by
  its length byte and over the zero fill to the next block boundary (`parse_encSuffix`).
-/
import DiskfsModel.Model.Iso.Extent
import DiskfsModel.Proofs.IsoLayout
namespace Diskfs.Iso

/-- the extent has exactly the bytes `calculateDirectorySize` counts -/
theorem encSuffix_length (bs : Nat) (rs : List Bytes) (pos : Nat) :
    pos + (encSuffix bs rs pos).length = dirSize bs (rs.map (·.length)) pos := by
  induction rs generalizing pos with
  | nil => rfl
  | cons r rs ih =>
    have := placeRec_ge bs pos r.length
    simp only [encSuffix, List.map_cons, dirSize, List.length_append, zeros_length, ← ih]
    omega

theorem encSuffix_length_ge (bs : Nat) (rs : List Bytes) (pos : Nat) (h : ∀ r ∈ rs, 0 < r.length) :
    rs.length ≤ (encSuffix bs rs pos).length := by
  induction rs generalizing pos with
  | nil => simp
  | cons r rs ih =>
    rw [List.forall_mem_cons] at h
    have := ih (placeRec bs pos r.length + r.length) h.2
    simp only [encSuffix, List.length_append, List.length_cons]
    omega

theorem encSuffix_length_le (bs : Nat) (hbs : 0 < bs) (k : Nat) (rs : List Bytes) (h : ∀ r ∈ rs, r.length ≤ k) (pos : Nat) :
    (encSuffix bs rs pos).length ≤ rs.length * (k + k) := by
  induction rs generalizing pos with
  | nil => exact Nat.zero_le _
  | cons r rest ih =>
    rw [List.forall_mem_cons] at h
    have := ih h.2 (placeRec bs pos r.length + r.length)
    have hp := placeRec_pad_le bs pos r.length hbs
    simp only [encSuffix, List.length_append, zeros_length, List.length_cons, Nat.succ_mul]
    omega

theorem parseExtent_read (bs f : Nat) (pre r y : Bytes) (h0 : 0 < r.length) (h3 : (r.getD 0 0).toNat = r.length) :
    parseExtent bs (f + 1) pre.length (pre ++ (r ++ y)) =
      r :: parseExtent bs f (pre ++ r).length ((pre ++ r) ++ y) := by
  have hlen : pre.length < (pre ++ (r ++ y)).length := by simp; omega
  have hget : (pre ++ (r ++ y)).getD pre.length 0 = r.getD 0 0 := by
    simp [List.getD_eq_getElem?_getD, List.getElem?_append_right, List.getElem?_append_left h0]
  rw [parseExtent, if_pos hlen, hget, h3, if_neg (by omega), List.drop_left, List.take_left, List.length_append,
    List.append_assoc]

theorem parseExtent_skip (bs f : Nat) (pre y : Bytes) (hg : 0 < bs - pre.length % bs) :
    parseExtent bs (f + 1) pre.length (pre ++ (zeros (bs - pre.length % bs) ++ y)) =
      parseExtent bs f (pre ++ zeros (bs - pre.length % bs)).length ((pre ++ zeros (bs - pre.length % bs)) ++ y) := by
  have hlen : pre.length < (pre ++ (zeros (bs - pre.length % bs) ++ y)).length := by simp; omega
  have hget : (pre ++ (zeros (bs - pre.length % bs) ++ y)).getD pre.length 0 = 0 := by
    obtain ⟨g', hg'⟩ : ∃ g', bs - pre.length % bs = g' + 1 := ⟨_, (Nat.succ_pred_eq_of_pos hg).symm⟩
    rw [hg']
    simp [zeros, List.replicate_succ, List.getD_eq_getElem?_getD]
  rw [parseExtent, if_pos hlen, hget, if_pos (show (0 : UInt8).toNat = 0 from rfl), List.length_append, zeros_length,
    List.append_assoc]

theorem parse_encSuffix (bs : Nat) (hbs : 0 < bs) (rs : List Bytes) (hr : ∀ r ∈ rs, RecOK bs r)
    (pre : Bytes) (fuel : Nat) (hf : 2 * rs.length < fuel) :
    parseExtent bs fuel pre.length (pre ++ encSuffix bs rs pre.length) = rs := by
  induction rs generalizing pre fuel with
  | nil =>
    cases fuel with
    | zero => omega
    | succ f => simp [parseExtent, encSuffix]
  | cons r rs ih =>
    rw [List.forall_mem_cons] at hr
    obtain ⟨⟨h0, _, _, h3⟩, hrs⟩ := hr
    rw [List.length_cons] at hf
    -- once the position is where the record was placed, the record is read and the rest follows
    have read : ∀ (pre' : Bytes) (f : Nat), 2 * rs.length < f →
        parseExtent bs (f + 1) pre'.length (pre' ++ (r ++ encSuffix bs rs (pre'.length + r.length))) = r :: rs := by
      intro pre' f hf'
      have := ih hrs (pre' ++ r) f hf'
      rw [List.length_append] at this
      rw [parseExtent_read bs f pre' r _ h0 h3, List.length_append, this]
    cases fuel with
    | zero => omega
    | succ f =>
      rcases placeRec_cases bs pre.length r.length with hp | hp
      · simp only [encSuffix, hp, Nat.sub_self, zeros, List.replicate_zero, List.nil_append]
        exact read pre f (by omega)
      · -- a zero length byte, then the record at the next block boundary
        have hgap : 0 < bs - pre.length % bs := by
          have := Nat.mod_lt pre.length hbs; omega
        cases f with
        | zero => omega
        | succ f =>
          have := read (pre ++ zeros (bs - pre.length % bs)) f (by omega)
          rw [List.length_append, zeros_length] at this
          simp only [encSuffix, hp, Nat.add_sub_cancel_left]
          rw [parseExtent_skip bs (f + 1) pre _ hgap, List.length_append, zeros_length]
          exact this

end Diskfs.Iso
