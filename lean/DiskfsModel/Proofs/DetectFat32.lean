/-
  For the full FAT32 probe theorem of Props/C12.lean: what the readers need of a geometry fat32.Create
  decided on (`Layout32OK`, `layout32_ok`, for tables meeting `Params.wf32`); what the bytes of the boot
  sector, the FSInfo sector and the two FAT copies are after fat32.Create's write list over arbitrary
  stale content; and what fat32.Read makes of them.
-/
import DiskfsModel.Model.DetectFat32
import DiskfsModel.Proofs.Detect
namespace Diskfs.Detect

theorem allBelow_iff (n : Nat) (p : Nat → Bool) : allBelow n p = true ↔ ∀ j, j < n → p j = true := by
  induction n with
  | zero => simp [allBelow]
  | succ n ih =>
    rw [allBelow, Nat.forall_lt_succ_right, ← ih]
    by_cases hp : p n = true <;> simp [hp]

/-- sectors per cluster as Create derives them from a cluster size in bytes -/
def spcFrom (cb bs : Nat) : Nat := if (cb / bs) % 256 = 0 then 1 else (cb / bs) % 256

/-- decidable well-formedness of the regenerated cluster-size table: every entry gives a
    sectors-per-cluster value CheckGeometry accepts, at both sector sizes -/
def Params.wf32 (P : Params) : Bool :=
  P.cb32.all (fun p => spcOk (spcFrom p.2 512) && spcOk (spcFrom p.2 4096)) &&
  spcOk (spcFrom P.cb32d 512) && spcOk (spcFrom P.cb32d 4096)

/-- what fat32.Read needs to know about a geometry fat32.Create decided on: the fields fit the widths they are
    written in, CheckGeometry's conditions, and the volume holds its 32 reserved sectors -/
structure Layout32OK (L : Layout32) (size : Nat) : Prop where
  bps_ok : L.bps = 512 ∨ L.bps = 4096
  spc_ok : spcOk L.spc = true
  spf_pos : 0 < L.spf
  spf_lt : L.spf < 65536
  total_lt : L.total < two32
  fits : 32 + 2 * L.spf < L.total
  total_size : L.total * L.bps ≤ size
  min_size : 32 * L.bps ≤ size

theorem lookup_spcFrom (P : Params) (h : P.wf32 = true) (size bs : Nat) (hbs : bs = 512 ∨ bs = 4096) :
    spcOk (spcFrom (lookupSpc P.cb32 P.cb32d size) bs) = true := by
  simp only [Params.wf32, Bool.and_eq_true, List.all_eq_true] at h
  unfold lookupSpc
  split
  · rename_i p hp
    have := h.1.1 p (List.mem_of_find?_eq_some hp)
    rcases hbs with rfl | rfl
    · exact this.1
    · exact this.2
  · rcases hbs with rfl | rfl
    · exact h.1.2
    · exact h.2

theorem layout32_ok (P : Params) (hP : P.wf32 = true) (size bs0 : Nat) (L : Layout32)
    (h : layout32 P size bs0 = some L) :
    Layout32OK L size ∧ size ≤ P.f32Max ∧ (bs0 = 0 ∨ bs0 = 512 ∨ bs0 = 4096) := by
  unfold layout32 at h
  simp only [Option.ite_none_left_eq_some, Option.some.injEq] at h
  obtain ⟨hb, hmax, hmin, hfit, -, -, hspf, rfl⟩ := h
  have hb' : bs0 = 0 ∨ bs0 = 512 ∨ bs0 = 4096 := by
    simpa only [Bool.not_eq_true', Bool.not_eq_false, Bool.or_eq_true, beq_iff_eq, or_assoc] using hb
  have hbps : (mkLayout32 P size bs0).bps = 512 ∨ (mkLayout32 P size bs0).bps = 4096 := by
    show (if bs0 = 0 then 512 else bs0) = 512 ∨ (if bs0 = 0 then 512 else bs0) = 4096
    split <;> omega
  refine ⟨⟨hbps, lookup_spcFrom P hP size _ hbps, by omega, Nat.mod_lt _ (by decide),
    Nat.mod_lt _ (by decide), by omega, ?_, by omega⟩, by omega, hb'⟩
  exact Nat.le_trans (Nat.mul_le_mul_right _ (Nat.mod_le _ _)) (Nat.div_mul_le_self ..)

section Writes
variable (stale : Dev) (L : Layout32) (serial : Nat) (label : List Nat) (fat rootDir : Bytes)

/-- both FAT copies are written with this payload -/
def fatPayload (L : Layout32) (fat : Bytes) : Bytes :=
  fat.take (L.spf * L.bps) ++ zeros (L.spf * L.bps - fat.length)

theorem fatPayload_length : (fatPayload L fat).length = L.spf * L.bps := by
  simp [fatPayload]; omega

/-- sector 0 is written twice; what stays is SetLabel's boot sector (write 7) -/
theorem create32_sector0 (i : Nat) (hi : i < L.bps) :
    applyWrs stale (createWrs32 L serial label fat rootDir) i = bootFat32 L serial label i := by
  rw [applyWrs_nth stale _ 7 _ rfl i (Nat.zero_le _) (by simpa [sectorBytes_length] using hi)]
  · exact sectorBytes_getD _ _ _ hi
  · simp [createWrs32, sectorBytes_length]
    omega

theorem create32_fsis (i : Nat) (hi : i < L.bps) :
    applyWrs stale (createWrs32 L serial label fat rootDir) (L.bps + i) = fsisFat32 i := by
  rw [applyWrs_nth stale _ 4 _ rfl (L.bps + i) (by simp) (by simpa [sectorBytes_length] using hi)]
  · simp only [Nat.add_sub_cancel_left]
    exact sectorBytes_getD _ _ _ hi
  · simp [createWrs32, sectorBytes_length]
    omega

theorem create32_fat1 (j : Nat) (hj : j < L.spf * L.bps) :
    applyWrs stale (createWrs32 L serial label fat rootDir) (32 * L.bps + j) = (fatPayload L fat).getD j 0 := by
  rw [applyWrs_nth stale _ 2 ⟨32 * L.bps, fatPayload L fat⟩ rfl (32 * L.bps + j) (by simp)
    (by simp only [fatPayload_length]; omega)]
  · simp only [Nat.add_sub_cancel_left]
  · simp [createWrs32, sectorBytes_length]
    omega

theorem create32_fat2 (j : Nat) (hj : j < L.spf * L.bps) :
    applyWrs stale (createWrs32 L serial label fat rootDir) (32 * L.bps + L.spf * L.bps + j) =
      (fatPayload L fat).getD j 0 := by
  rw [applyWrs_nth stale _ 3 ⟨32 * L.bps + L.spf * L.bps, fatPayload L fat⟩ rfl (32 * L.bps + L.spf * L.bps + j)
    (by simp) (by simp only [fatPayload_length]; omega)]
  · simp only [Nat.add_sub_cancel_left]
  · simp [createWrs32, sectorBytes_length]
    omega

end Writes

section OnBoot32
variable {L : Layout32} {serial : Nat} {label : List Nat} {rd : Dev}
variable (hrd : ∀ i, i < 512 → rd i = bootFat32 L serial label i)
include hrd

theorem boot32_u8 (i : Nat) (hi : i < 512) : u8 rd i = (bootFat32 L serial label i).toNat := by
  simp [u8, hrd i hi]

theorem boot32_consts :
    u16 rd 14 = 32 ∧ u8 rd 16 = 2 ∧ u16 rd 17 = 0 ∧ u16 rd 42 = 0 ∧ u16 rd 48 = 1 ∧ u8 rd 66 = 0x29 ∧
    bootSigOk rd = true ∧ u32 rd 0 ≠ 0x73717368 := by
  simp [u32, u16, bootSigOk, boot32_u8 hrd, bootFat32, strByte, oemName, byteOf_toNat]

theorem boot32_geom (hb : L.bps < 65536) (hc : L.spc < 256) (ht : L.total < two32) (hs : L.spf < 65536) :
    u16 rd 11 = L.bps ∧ u8 rd 13 = L.spc ∧ u32 rd 32 = L.total ∧ u32 rd 36 = L.spf := by
  have at_ (i : Nat) (hi : i < 512 := by decide) := hrd i hi
  -- sectors per FAT is a uint16 in a four-byte field: the upper half is written as zero
  exact ⟨u16_le (at_ 11) (at_ 12) hb, u8_le (at_ 13) hc, u32_le (at_ 32) (at_ 33) (at_ 34) (at_ 35) ht,
    by rw [u32, u16_le (at_ 36) (at_ 37) hs, u16_le (x := 0) (at_ 38) (at_ 39) (by decide)]; rfl⟩

end OnBoot32

theorem fsis_ok (rd : Dev) (off : Nat) (h : ∀ i, i < 512 → rd (off + i) = fsisFat32 i) : fsisOk rd off = true := by
  have e : ∀ i, i < 512 → u8 rd (off + i) = (fsisFat32 i).toNat := fun i hi => by simp [u8, h i hi]
  have e0 := e 0 (by omega)
  rw [Nat.add_zero] at e0
  simp [fsisOk, u32be, e0, e 1, e 2, e 3, e 484, e 485, e 486, e 487, e 508, e 509, e 510, e 511,
    Nat.add_assoc, fsisFat32]

section OnCreated
variable {L : Layout32} {serial : Nat} {label : List Nat} {rd : Dev} {size avail : Nat}
variable (ok : Layout32OK L size) (hav : size ≤ avail)
variable (hrd : ∀ i, i < 512 → rd i = bootFat32 L serial label i)
include ok hav hrd

/-- fat32.Read's header tests, geometry check and FSInfo test pass on a volume with Create's boot sector in
    sector 0 and its FSInfo sector in sector 1 -/
theorem fat32_hdr_on_created (P : Params) {bs : Nat} (hmax : size ≤ P.f32Max) (hbs : bs = 0 ∨ bs = 512 ∨ bs = 4096)
    (hfs : ∀ i, i < 512 → rd (L.bps + i) = fsisFat32 i) (deep : Verdict) :
    verdictFat32 P rd size avail bs deep = deep := by
  obtain ⟨hbps, hspc, hspf0, hspf, htot, hfit, hts, hmin⟩ := ok
  have hb : 512 ≤ L.bps ∧ L.bps ≤ 4096 := by omega
  obtain ⟨e_res, e_nf, -, e_ver, e_fsi, e_ext, e_sig, -⟩ := boot32_consts hrd
  obtain ⟨e_bps, e_spc, e_tot, e_spf⟩ := boot32_geom hrd (by omega) (spcOk_range _ hspc).2 htot hspf
  have hprod : L.spf * L.bps < 65536 * 4097 := Nat.mul_lt_mul'' hspf (by omega)
  have hfatpos : 512 ≤ L.spf * L.bps := Nat.le_trans hb.1 (Nat.le_mul_of_pos_left _ hspf0)
  have hfatsz : (L.spf * L.bps) % two32 = L.spf * L.bps := Nat.mod_eq_of_lt (by unfold two32; omega)
  have hvalid : validBps L.bps = true := by rcases hbps with h | h <;> simp [validBps, h]
  have hm : metaSectors L.bps 32 2 L.spf 0 = 32 + 2 * L.spf := by
    simp [metaSectors]
    exact Or.inr (by omega)
  have hgeo := checkGeometry_ok (total := L.total) (size := size) hbps hspc (by decide) hspf0 (hm ▸ hfit)
    (hm ▸ Nat.le_trans (Nat.mul_le_mul_right _ (Nat.le_of_lt hfit)) hts)
  have hfsis : fsisOk rd (1 * L.bps) = true := by
    rw [Nat.one_mul]; exact fsis_ok rd L.bps hfs
  have hb1 : (bs == 0 || bs == 512 || bs == 4096) = true := by rcases hbs with h | h | h <;> simp [h]
  have hsz2 : ¬ size < bs * 4 := by omega
  have hr0 : readOk avail 0 4096 = true := by simp [readOk]; omega
  have hr1 : readOk avail (1 * L.bps) 512 = true := by simp [readOk]; omega
  unfold verdictFat32
  simp only [e_bps, e_spc, e_res, e_nf, e_tot, e_spf, e_ver, e_fsi, e_ext, e_sig, hb1, hvalid, hgeo, hfsis, hr0, hr1,
    hfatsz, extSigOk]
  simp [Nat.not_lt.2 hmax, hsz2, Nat.not_lt.2 (Nat.le_trans (by decide : 8 ≤ 512) hfatpos)]

/-- fat32.Read's comparison of the two FAT copies succeeds when they hold the same bytes: both lie inside
    the volume, hence on the device -/
theorem fat32Deep_on_created
    (heq : ∀ j, j < L.spf * L.bps → rd (32 * L.bps + j) = rd (32 * L.bps + L.spf * L.bps + j)) :
    fat32Deep rd avail = .accept := by
  obtain ⟨hbps, hspc, -, hspf, htot, hfit, hts, -⟩ := ok
  obtain ⟨e_res, -⟩ := boot32_consts hrd
  obtain ⟨e_bps, -, -, e_spf⟩ := boot32_geom hrd (by omega) (spcOk_range _ hspc).2 htot hspf
  have hprod : L.spf * L.bps < 65536 * 4097 := Nat.mul_lt_mul'' hspf (by omega)
  have hmeta := Nat.mul_lt_mul_of_pos_right hfit (show 0 < L.bps by omega)
  rw [Nat.add_mul, Nat.mul_assoc] at hmeta
  unfold fat32Deep fatCopiesEqual
  simp only [e_bps, e_spf, e_res, Nat.mod_eq_of_lt (show L.spf * L.bps < two32 by unfold two32; omega)]
  rw [if_pos]
  rw [allBelow_iff]
  intro j hj
  have hjlt : j < L.spf * L.bps := Nat.lt_of_lt_of_le hj (Nat.div_mul_le_self _ _)
  simp only [fatBuf1, fatBuf2, if_pos (show 32 * L.bps + j < avail by omega),
    if_pos (show 32 * L.bps + L.spf * L.bps + j < avail by omega), heq j hjlt, beq_self_eq_true]

end OnCreated

end Diskfs.Detect
