/-
  The feature gate of ext4.Read as a decision table (Model/Ext4/FeatureGate.lean): a listed bit refuses; a table
  that covers every unsupported single-bit position refuses every word with a bit outside the supported set.
-/
import DiskfsModel.Model.Ext4.FeatureGate
namespace Diskfs.Ext4.Reader
open Diskfs.Generated

theorem gate_table_refuses (t : GateTbl) (word b : Nat) (hb : b ∈ t.refused) (hs : hasBit word b = true) :
    gateAcceptsT t word = false := by
  unfold gateAcceptsT
  have : t.refused.all (fun b => !hasBit word b) = false := by
    rw [List.all_eq_false]
    exact ⟨b, hb, by simp [hs]⟩
  simp [this]

/-- the clause a complete gate satisfies: if the table refuses every single-bit position outside the supported
    set, then an image whose INCOMPAT word has ANY bit outside the supported set is refused -/
theorem gate_refuses_outside_supported (t : GateTbl) (hcover : gateUncovered t = []) (word k : Nat) (hk : k < 32)
    (hbit : hasBit word (2 ^ k) = true) (hns : supportedIncompat.contains (2 ^ k) = false) :
    gateAcceptsT t word = false := by
  apply gate_table_refuses t word (2 ^ k) _ hbit
  unfold gateUncovered at hcover
  have := List.filter_eq_nil_iff.1 hcover k (List.mem_range.2 hk)
  simp only [hns, Bool.not_false, Bool.true_and, Bool.not_eq_true', Bool.not_eq_false] at this
  simpa using this

end Diskfs.Ext4.Reader
