/-
  What an accepted `Table.Write` went through (`write_ok_inv`), what `initTable` makes of a fresh table, that the primary
  array and header are readable once written (`primary_last`), loadEntries on an array that lies inside the device
  (`loadEntries_arr`), and the reader equations.
-/
import DiskfsModel.Proofs.GptArray
namespace Diskfs.Gpt

/-- a table as a caller constructs it (nothing initialised yet) -/
structure Fresh (t0 : Table) : Prop where
  init : t0.initialized = false
  ac : t0.arrCount = 0
  es : t0.entSize = 0
  ph : t0.primaryHeader = 0
  sh : t0.secondaryHeader = 0
  fd : t0.firstData = 0
  ld : t0.lastData = 0

theorem toI64_of_lt (n : Nat) (h : n < two63) : toI64 (n : Int) = (n : Int) := by
  simp only [toI64, two64, two63] at *
  omega

theorem toI64_mul_nat (a b : Nat) (h : a * b < two63) : toI64 ((a : Int) * (b : Int)) = ((a * b : Nat) : Int) := by
  rw [← Int.natCast_mul]
  exact toI64_of_lt _ h

theorem applyWrs_append2 (d : Dev) (pre : List Wr) (a b : Wr) :
    applyWrs d (pre ++ [a, b]) = applyWr (applyWr (applyWrs d pre) a) b := by
  simp [applyWrs, List.foldl_append]

/-- the primary array at LBA 2 and the primary header at LBA 1 are readable once written, whatever was written
    before them and whatever is written afterwards into bytes 446..511 only -/
theorem primary_last (d : Dev) (lss : Nat) (pre post : List Wr) (arr ph : Bytes) (h512 : 512 ≤ lss) (hph : ph.length = lss)
    (hpost : ∀ w ∈ post, w.off = 446 ∧ w.data.length = 66) :
    readAt (applyWrs d (pre ++ [⟨2 * lss, arr⟩, ⟨lss, ph⟩] ++ post)) lss lss = ph ∧
    readAt (applyWrs d (pre ++ [⟨2 * lss, arr⟩, ⟨lss, ph⟩] ++ post)) (2 * lss) arr.length = arr := by
  have hd : ∀ off len, lss ≤ off → ∀ w ∈ post, off + len ≤ w.off ∨ w.off + w.data.length ≤ off :=
    fun off len ho w hw => by have := hpost w hw; right; omega
  rw [applyWrs_append, applyWrs_append2]
  constructor
  · rw [readAt_applyWrs_disjoint _ post _ _ (hd _ _ (Nat.le_refl _))]
    have := readAt_applyWr_same (applyWr (applyWrs d pre) ⟨2 * lss, arr⟩) ⟨lss, ph⟩
    rwa [hph] at this
  · rw [readAt_applyWrs_disjoint _ post _ _ (hd _ _ (by omega)),
      readAt_applyWr_disjoint _ _ _ _ (by right; simp only [hph]; omega)]
    exact readAt_applyWr_same _ ⟨2 * lss, arr⟩

/-- the protective-MBR write, if the table asks for one -/
def pmWrs (c : Cfg) (ti : Table) : List Wr := if ti.pmbr then [⟨446, pmbrEnc c ti⟩] else []

/-- what an accepted `Write` went through, for the table `ti` it works on; none of the three int64 byte offsets
    is negative: they are the naturals `oBA`, `oBH`, `oPA` -/
theorem write_ok_inv (c : Cfg) (crc : Bytes → Nat) (t0 : Table) (size : Nat) (ws : List Wr) (t ti : Table)
    (hti : (if t0.initialized then t0 else initTable t0 size) = ti)
    (hw : write c crc t0 size = .ok (ws, t)) :
    (c.minDiskCheck = true → ti.primaryHeader + 2 * partSectors ti + 1 ≤ ti.secondaryHeader) ∧
    ∃ (arr : Bytes) (ps : List Part) (oBA oBH oPA : Nat), arrEnc c ti = .ok (arr, ps) ∧ t = { ti with parts := ps } ∧
      (oBA : Int) = toI64 ((ti.lss : Int) * toI64 (arraySector ti false)) ∧
      (oBH : Int) = toI64 (toI64 ti.secondaryHeader * (ti.lss : Int)) ∧
      (oPA : Int) = toI64 ((ti.lss : Int) * toI64 (arraySector ti true)) ∧
      ws = (if c.pmbrLast then
              [⟨oBA, arr⟩, ⟨oBH, hdrEnc crc ti false arr⟩, ⟨oPA, arr⟩, ⟨ti.lss, hdrEnc crc ti true arr⟩] ++ pmWrs c ti
            else pmWrs c ti ++
              [⟨oBA, arr⟩, ⟨oBH, hdrEnc crc ti false arr⟩, ⟨oPA, arr⟩, ⟨ti.lss, hdrEnc crc ti true arr⟩]) := by
  unfold write at hw
  simp only [hti] at hw
  by_cases hchk : (c.minDiskCheck && decide (ti.secondaryHeader < ti.primaryHeader + 2 * partSectors ti + 1)) = true
  · rw [if_pos hchk] at hw; cases hw
  rw [if_neg hchk] at hw
  refine ⟨fun hc => by simpa [hc] using hchk, ?_⟩
  cases harr : arrEnc c ti with
  | err e => rw [harr] at hw; cases hw
  | panic s => rw [harr] at hw; cases hw
  | ok ap =>
    obtain ⟨arr, ps⟩ := ap
    rw [harr] at hw
    simp only at hw
    by_cases hneg : toI64 ((ti.lss : Int) * toI64 (arraySector ti false)) < 0 ∨
        toI64 (toI64 ti.secondaryHeader * (ti.lss : Int)) < 0 ∨ toI64 ((ti.lss : Int) * toI64 (arraySector ti true)) < 0
    · rw [if_pos hneg] at hw; cases hw
    rw [if_neg hneg] at hw
    simp only [Res.ok.injEq, Prod.mk.injEq, Int.toNat_natCast] at hw
    exact ⟨arr, ps, _, _, _, rfl, hw.2.symm, Int.toNat_of_nonneg (by omega), Int.toNat_of_nonneg (by omega),
      Int.toNat_of_nonneg (by omega), hw.1.symm⟩

theorem initTable_fresh (t0 : Table) (size : Nat) (hf : Fresh t0) (hlss : t0.lss = 512 ∨ t0.lss = 4096) :
    (initTable t0 size).lss = t0.lss ∧ (initTable t0 size).primaryHeader = 1 ∧ (initTable t0 size).arrCount = 128 ∧
    (initTable t0 size).entSize = 128 ∧ (initTable t0 size).guid = t0.guid ∧ (initTable t0 size).parts = t0.parts ∧
    (initTable t0 size).secondaryHeader < two64 ∧ (initTable t0 size).firstData < two64 ∧
    (initTable t0 size).lastData < two64 := by
  unfold initTable
  rcases hlss with h | h
  all_goals
    simp only [hf.ac, hf.es, hf.ph, hf.sh, hf.fd, hf.ld, if_true, h]
    refine ⟨by simp, by simp, by simp, by simp, trivial, trivial, ?_, ?_, ?_⟩
    · simp only [u64sub, two64]; omega
    · simp only [u64, two64]; omega
    · simp only [u64sub, two64]; omega

theorem loadEntries_arr (c : Cfg) (crc : Bytes → Nat) (dev : Dev) (size lss L n : Nat) (tt : Table)
    (hlpos : 0 < lss) (h1 : tt.firstLBA = L) (h2 : tt.arrCount = n) (h3 : tt.entSize = 128)
    (hn : 1 ≤ n) (hmax : n * 128 ≤ 67108864) (hoff : L * lss < two63) (hfit : L * lss + n * 128 ≤ size) :
    (loadEntries c crc dev size tt lss).1 =
      if tt.arrCrc = crc (readAt dev (L * lss) (n * 128)) then
        .ok { tt with parts := decodeArr (readAt dev (L * lss) (n * 128)) lss }
      else .err true := by
  have hL : L ≤ L * lss := Nat.le_mul_of_pos_right _ hlpos
  have hst : toI64 (toI64 (L : Int) * (lss : Int)) = ((L * lss : Nat) : Int) := by
    rw [toI64_of_lt _ (by omega), toI64_mul_nat _ _ (by omega)]
  have hsz' : toI64 ((n : Int) * ((128 : Nat) : Int)) = ((n * 128 : Nat) : Int) :=
    toI64_mul_nat _ _ (by simp only [two63]; omega)
  unfold loadEntries
  simp only [h1, h2, h3, hst, hsz', Int.toNat_natCast]
  have hm1 : 1 ≤ n * 128 := by omega
  clear hst hsz'
  generalize L * lss = o at *
  generalize n * 128 = m at *
  have g1 : (c.arrayBounded && (decide ((o : Int) < 0) || decide ((m : Int) < 0) || decide ((m : Int) > maxArrayBytes) ||
      decide ((o : Int) + (m : Int) > (size : Int)))) = false := by
    have : (m : Int) ≤ maxArrayBytes := by simp only [maxArrayBytes]; omega
    simp only [Bool.and_eq_false_imp, Bool.or_eq_false_iff, decide_eq_false_iff_not]
    omega
  have g2 : ¬ ((m : Int) < 0 ∨ (m : Int) > maxAlloc) := by simp only [maxAlloc]; omega
  rw [g1, if_neg Bool.false_ne_true, if_neg g2, if_neg (by omega), if_neg (by omega)]
  by_cases hc : tt.arrCrc = crc (readAt dev o m)
  · simp [hc, readArr]
  · simp [hc]

end Diskfs.Gpt

namespace Diskfs.GptCrash
open Diskfs Diskfs.Gpt

-- the reader equations the crash development and the read-back theorem (Proofs/GptGeomWhole) share

theorem readPrimary_fst (c : Cfg) (crc : Bytes → Nat) (d : Dev) (size lss : Nat) (h2 : ¬ size < lss * 2) :
    (Gpt.readPrimary c crc d size lss).1 =
      match readHeader crc (readAt d lss lss) with
      | .ok h => (loadEntries c crc d size
          (tableOfHdr h lss (readPMBR ((readAt d 0 (lss * 2)).take lss) (pmbrSectors c h.altLBA))) lss).1
      | .err _ => .err true
      | .panic s => .panic s := by
  unfold Gpt.readPrimary
  simp only [h2, if_false]
  rw [sl_ok _ lss (lss * 2) _ (by omega) (by simp)]
  simp only
  rw [slice_readAt d 0 (lss * 2) lss (lss * 2) (by omega) (by omega)]
  have e : lss * 2 - lss = lss := by omega
  rw [e, Nat.zero_add]
  cases readHeader crc (readAt d lss lss) <;> rfl

theorem readBackup_fst' (c : Cfg) (crc : Bytes → Nat) (d : Dev) (size lss sec o : Nat)
    (hoff : toI64 ((sec : Int) * (lss : Int)) = ((o : Nat) : Int)) (hfit : o + lss ≤ size) :
    (Gpt.readBackup c crc d size lss sec).1 =
      match readHeader crc (readAt d o lss) with
      | .ok h =>
        if h.myLBA ≠ sec then .err false else
        match (loadEntries c crc d size (tableOfHdr { h with myLBA := h.altLBA, altLBA := h.myLBA } lss
            (if size < lss then false else readPMBR (readAt d 0 lss) (pmbrSectors c h.myLBA))) lss).1 with
        | .ok t => .ok t
        | .err _ => .err false
        | .panic s => .panic s
      | .err _ => .err false
      | .panic s => .panic s := by
  unfold Gpt.readBackup
  simp only [hoff]
  have c1 : ¬ (((o : Nat) : Int) < 0 ∨ ((o : Nat) : Int) + (lss : Int) > (size : Int)) := by omega
  rw [if_neg c1, Int.toNat_natCast]
  cases hrh : readHeader crc (readAt d o lss) with
  | panic s => rfl
  | err e => rfl
  | ok h =>
    simp only
    by_cases hm : h.myLBA = sec
    · simp only [hm, ne_eq, not_true_eq_false, if_false]
      generalize loadEntries c crc d size _ lss = le
      obtain ⟨r, al⟩ := le
      cases r <;> rfl
    · simp only [hm, ne_eq, not_false_eq_true, if_true]

theorem backupResult_fst (al : List Int) (x : Res Table × List Int) :
    (backupResult al x).1 =
      match x.1 with
      | .ok t => .ok { t with backup := true }
      | .err _ => .err false
      | .panic s => .panic s := by
  obtain ⟨r, a⟩ := x
  cases r <;> rfl

end Diskfs.GptCrash
