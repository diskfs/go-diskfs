/-
  The allocator the correspondence runs the extent-tree mirror with (`bmAlloc`, Model/Ext4/ExtTreeInv.lean: the fast
  path of allocateExtents over the block bitmaps): what a successful call does to the bitmaps (`bmAlloc_take`) and
  the group list after a run is marked. That it has the laws `AllocOK` follows in Props/C04.lean (`exttree_bmalloc_ok`).
-/
import DiskfsModel.Model.Ext4.ExtTreeInv
import DiskfsModel.Proofs.Ext4Own
namespace Diskfs.Ext4.ExtTree
open Diskfs Diskfs.Ext4

theorem zipIdx_map_get (gs : List Alloc.Bits) (f : Alloc.Bits → Alloc.Bits) (g j : Nat) :
    ((gs.zipIdx).map (fun x => if x.2 = g then f x.1 else x.1))[j]? =
      if j = g then gs[j]?.map f else gs[j]? := by
  simp only [List.getElem?_map, List.getElem?_zipIdx, Nat.zero_add]
  cases gs[j]? with
  | none => simp
  | some b =>
    by_cases h : j = g <;> simp [h]

theorem bmWF_get {bpg : Nat} {s : BmState} (h : bmWF bpg s = true) {g : Nat} {b : Alloc.Bits} (hg : s.groups[g]? = some b) :
    0 < bpg ∧ b.length ≤ bpg := by
  simp only [bmWF, Bool.and_eq_true, decide_eq_true_eq, List.all_eq_true] at h
  exact ⟨h.1, h.2 b (List.mem_of_getElem? hg)⟩

theorem bmAlloc_take {fdb bpg n b : Nat} {s s' : BmState} (h : (bmAlloc fdb bpg).take s n = some (b, s')) :
    ∃ g p bm, s.groups[g]? = some bm ∧ (∀ i, p ≤ i → i < p + n → bm[i]? = some false) ∧
      s'.groups = (s.groups.zipIdx).map (fun x => if x.2 = g then Alloc.setRun x.1 p n else x.1) ∧
      ∀ x, (b ≤ x ∧ x < b + n) ↔
        fdb ≤ x ∧ (x - fdb) / bpg = g ∧ p ≤ (x - fdb) % bpg ∧ (x - fdb) % bpg < p + n := by
  simp only [bmAlloc] at h
  split at h
  · cases h
  · rename_i hc
    split at h
    · cases h
    · cases hp : Alloc.fastPick s.groups n with
      | none => simp [hp] at h
      | some q =>
        obtain ⟨g, p⟩ := q
        simp only [hp, Option.some.injEq, Prod.mk.injEq] at h
        obtain ⟨rfl, rfl⟩ := h
        simp only [not_or, Bool.not_eq_true', Bool.not_eq_false] at hc
        obtain ⟨bm, hbm, hlen, hbits⟩ := Alloc.fastPick_spec s.groups n g p (by omega) hp
        obtain ⟨hb, hl⟩ := bmWF_get hc.2 hbm
        refine ⟨g, p, bm, hbm, hbits, rfl, fun x => ?_⟩
        have := Alloc.mem_runBlocks ⟨fdb, bpg, 1⟩ (g, p, n) (by simp only; omega) x
        simpa only [Alloc.runBlocks, List.mem_range'_1] using this

end Diskfs.Ext4.ExtTree
