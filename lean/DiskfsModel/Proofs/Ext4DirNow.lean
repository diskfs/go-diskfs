/-
  Directory blocks (Model/Ext4/DirNow.lean): on data whose rec_len chain tiles it (`Tiles`), the mirror of
  parseDirEntriesLinear's loop (as it is now) succeeds, and the rec_len walk of the SPEC reader passes over it
  collecting exactly its entries in use (`tiles_walk`; `tiles_block` for a whole block whose rest the walk passes over).
-/
import DiskfsModel.Model.Ext4.DirNow
import DiskfsModel.Proofs.Ext4Reader
namespace Diskfs.Ext4.Reader
open Diskfs.Ext4.Spec

/-- the rec_len chain of `r` tiles it: every record is at least 12 bytes, a multiple of 4, lies inside the
    data and covers its name; the records follow each other to the very end (the multiple of 4 is asked for by the
    SPEC walk only) -/
inductive Tiles : Bytes → Prop
  | nil : Tiles []
  | cons (r : Bytes) (h12 : 12 ≤ le16 r 4) (h4 : le16 r 4 % 4 = 0) (hlen : le16 r 4 ≤ r.length)
      (hname : 8 + u8 r 6 ≤ le16 r 4) (rest : Tiles (r.drop (le16 r 4))) : Tiles r

theorem parseEntriesNow_cons (r : Bytes) (f : Nat) (h12 : 12 ≤ le16 r 4) (hlen : le16 r 4 ≤ r.length)
    (hname : 8 + u8 r 6 ≤ le16 r 4) :
    parseEntriesNow (f + 1) r =
      match parseEntriesNow f (r.drop (le16 r 4)) with
      | .ok es => .ok (⟨le32 r 0, u8 r 7, slice r 8 (8 + u8 r 6)⟩ :: es)
      | .err => .err
      | .panic => .panic
      | .diverge => .diverge := by
  have hne : r.isEmpty = false := isEmpty_of_length_pos r (by omega)
  rw [parseEntriesNow]
  simp only [hne, (hasLen_iff r 12).2 (by omega), (hasLen_iff r _).2 hlen, Bool.false_eq_true, if_false,
    Bool.not_true, false_or]
  rw [if_neg (by omega)]
  rfl

/-- fuel: `12 * f` bytes allow `f` turns; a record of at least 12 bytes inside `n` bytes uses one of them -/
theorem fuel_step (n k f : Nat) (h12 : 12 ≤ k) (hk : k ≤ n) (h : n < 12 * f) :
    ∃ f', f = f' + 1 ∧ n - k < 12 * f' :=
  ⟨f - 1, by omega, by omega⟩

theorem liveEntries_cons (e : DirEnt) (es : List DirEnt) :
    liveEntries (e :: es) = if e.inode ≠ 0 then toDirent e :: liveEntries es else liveEntries es := by
  by_cases h : e.inode = 0 <;> simp [liveEntries, h]

theorem dirWalk_end (bs f pos : Nat) (rest : Bytes) (acc : List Dirent) (h : bs ≤ pos) :
    dirWalk bs (f + 1) rest pos acc = .ok acc.reverse := by
  rw [dirWalk, if_pos h]

theorem tiles_walk (bs : Nat) (s r : Bytes) (ht : Tiles r) :
    ∀ (f1 pos : Nat) (acc : List Dirent), r.length < 12 * f1 → pos + r.length ≤ bs →
    ∃ es, parseEntriesNow f1 r = .ok es ∧ 12 * es.length ≤ r.length ∧
      ∀ f2, dirWalk bs (es.length + f2) (r ++ s) pos acc =
        dirWalk bs f2 s (pos + r.length) ((liveEntries es).reverse ++ acc) := by
  induction ht with
  | nil =>
    intro f1 pos acc h1 hp
    obtain ⟨f1, rfl⟩ : ∃ k, f1 = k + 1 := ⟨f1 - 1, by omega⟩
    exact ⟨[], by simp [parseEntriesNow], by simp, by simp [liveEntries]⟩
  | cons r h12 h4 hlen hname rest ih =>
    intro f1 pos acc h1 hp
    obtain ⟨f1, rfl, h1'⟩ := fuel_step _ _ f1 h12 hlen h1
    have hdl : (r.drop (le16 r 4)).length = r.length - le16 r 4 := List.length_drop
    obtain ⟨es, hes, hn, hw⟩ := ih f1 (pos + le16 r 4)
      (if le32 r 0 ≠ 0 then ⟨le32 r 0, u8 r 7, slice r 8 (8 + u8 r 6)⟩ :: acc else acc)
      (hdl ▸ h1') (by omega)
    refine ⟨_, by rw [parseEntriesNow_cons r f1 h12 hlen hname, hes], by simp only [List.length_cons]; omega, ?_⟩
    intro f2
    rw [List.length_cons, Nat.add_right_comm, dirWalk, if_neg (by omega), if_neg (by omega)]
    simp only [le16_append_left r s 4 (by omega), le32_append_left r s 0 (by omega), u8_append_left r s 6 (by omega),
      u8_append_left r s 7 (by omega), slice_append_left r s 8 _ (Nat.le_trans hname hlen),
      List.drop_append_of_le_length hlen]
    rw [if_neg (by omega), if_neg (by omega), hw f2, liveEntries_cons, hdl, Nat.add_assoc,
      Nat.add_sub_cancel' hlen]
    by_cases hz : le32 r 0 = 0 <;> simp [hz, toDirent]

/-- a block made of tiling records `r` and a rest `s` that the SPEC walk passes in `j ≤ 2` turns collecting nothing
    (nothing at all, or the checksum tail): the mirror parses `r`, the walk of the block returns its entries in use -/
theorem tiles_block (bs : Nat) (r s : Bytes) (ht : Tiles r) (hl : r.length + s.length = bs) (j : Nat) (hj : j ≤ 2)
    (hs : ∀ f acc, dirWalk bs (f + j) s r.length acc = .ok acc.reverse) :
    ∃ es, parseEntriesNow (bs / 8 + 2) r = .ok es ∧ dirWalk bs (bs / 8 + 2) (r ++ s) 0 [] = .ok (liveEntries es) := by
  obtain ⟨es, h1, hn, h2⟩ := tiles_walk bs s r ht (bs / 8 + 2) 0 [] (by omega) (by omega)
  obtain ⟨k, hk⟩ : ∃ k, bs / 8 + 2 = es.length + (k + j) := ⟨bs / 8 + 2 - es.length - j, by omega⟩
  refine ⟨es, h1, ?_⟩
  rw [hk, h2, Nat.zero_add, hs]
  simp

end Diskfs.Ext4.Reader
