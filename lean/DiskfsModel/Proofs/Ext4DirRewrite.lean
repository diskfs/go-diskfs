/-
  Remove's write-back of the re-packed parent directory (Model/Ext4/DirPack.lean `rewriteDir`): with the padding
  of the repaired code the directory is again an image - the bodies `Directory.toBytes` packs followed by bodies of
  one unused entry - so it parses to exactly the remaining entries followed by unused ones.
-/
import DiskfsModel.Proofs.Ext4DirPack
namespace Diskfs.Ext4.DirPack

/-- `k` empty directory blocks: what Remove's padding loop appends -/
def emptyBlocks (bs : Nat) (csum : Bool) (tail : Bytes → Bytes) (k : Nat) : Bytes :=
  (List.replicate k (emptyBlock bs csum tail)).flatten

/-- the body of an empty block: one unused entry over the whole block -/
def empBody (bs : Nat) (csum : Bool) : List Rec := [(emp, blockLimit bs csum)]

theorem empBody_tiles (bs : Nat) (csum : Bool) (hbs : BsOK bs) : Tiles (blockLimit bs csum) (empBody bs csum) := by
  have := blockLimit_bounds bs csum hbs
  have hw : Rec.len (emp, blockLimit bs csum) = blockLimit bs csum := recLenOf_pos _ _ (by omega)
  simp only [Tiles, empBody, List.map_cons, List.map_nil, List.sum_cons, List.sum_nil, List.mem_singleton, forall_eq,
    RecOK, hw]
  simp [emp]; omega

theorem emptyBlocks_eq (bs : Nat) (csum : Bool) (tail : Bytes → Bytes) (hbs : BsOK bs) (k : Nat) :
    emptyBlocks bs csum tail k = image csum tail (List.replicate k (empBody bs csum)) := by
  have := blockLimit_bounds bs csum hbs
  simp only [emptyBlocks, emptyBlock, image, List.map_replicate, empBody, encRecs_cons, encRecs_nil, List.append_nil]
  rw [Nat.mod_eq_of_lt (by unfold blockLimit at this; omega)]
  rfl

theorem emptyBlocks_length (bs : Nat) (csum : Bool) (tail : Bytes → Bytes) (hbs : BsOK bs) (ht : TailOK csum tail)
    (k : Nat) : (emptyBlocks bs csum tail k).length = k * bs := by
  rw [emptyBlocks_eq bs csum tail hbs, image_length bs csum tail hbs ht _
    (fun b hb => (List.mem_replicate.1 hb).2 ▸ empBody_tiles bs csum hbs), List.length_replicate, Nat.mul_comm]

theorem emptyBlocks_succ (bs : Nat) (csum : Bool) (tail : Bytes → Bytes) (k : Nat) :
    emptyBlocks bs csum tail (k + 1) = emptyBlock bs csum tail ++ emptyBlocks bs csum tail k := by
  simp [emptyBlocks, List.replicate_succ]

theorem emptyBlocks_succ' (bs : Nat) (csum : Bool) (tail : Bytes → Bytes) (k : Nat) :
    emptyBlocks bs csum tail (k + 1) = emptyBlocks bs csum tail k ++ emptyBlock bs csum tail := by
  simp [emptyBlocks, List.replicate_succ']

theorem padDir_spec (bs : Nat) (csum : Bool) (tail : Bytes → Bytes) (hbs : BsOK bs) (ht : TailOK csum tail) (n : Nat) :
    ∀ (fuel j : Nat) (b : Bytes), b.length = j * bs → j ≤ n → n - j ≤ fuel →
      padDir bs csum tail fuel (n * bs) b = b ++ emptyBlocks bs csum tail (n - j) := by
  have hbpos : 0 < bs := by unfold BsOK at hbs; omega
  have h1 : (emptyBlock bs csum tail).length = bs := by
    have := emptyBlocks_length bs csum tail hbs ht 1
    simpa [emptyBlocks] using this
  intro fuel
  induction fuel with
  | zero =>
    intro j b hb hj hf
    have : n - j = 0 := by omega
    simp [padDir, this, emptyBlocks]
  | succ fuel ih =>
    intro j b hb hj hf
    by_cases hlt : j < n
    · have hl : b.length < n * bs := by rw [hb]; exact Nat.mul_lt_mul_of_pos_right hlt hbpos
      simp only [padDir, hl, if_true]
      rw [ih (j + 1) (b ++ emptyBlock bs csum tail)
        (by rw [List.length_append, hb, h1, Nat.add_mul]; omega) (by omega) (by omega)]
      have : n - j = (n - (j + 1)) + 1 := by omega
      rw [this, emptyBlocks_succ, List.append_assoc]
    · have : j = n := by omega
      subst this
      simp [padDir, hb, emptyBlocks]

theorem rewriteDir_spec (bs : Nat) (csum : Bool) (tail : Bytes → Bytes) (old : Bytes) (n : Nat) (es : List Entry)
    (hbs : BsOK bs) (ht : TailOK csum tail) (hes : es ≠ []) (hok : ∀ e ∈ es, EntryParseOK e)
    (hold : old.length = n * bs) (hfit : (pack bs csum tail es).length ≤ old.length) :
    ∃ k, rewriteDir true bs csum tail old es = pack bs csum tail es ++ emptyBlocks bs csum tail k ∧
      (rewriteDir true bs csum tail old es).length = old.length ∧
      parse bs csum tail (rewriteDir true bs csum tail old es) = some (es ++ List.replicate k emp) := by
  obtain ⟨bodies, h1, h2, h3⟩ := pack_image bs csum tail es hbs ht hes (fun e he => (hok e he).1)
  have hj := image_length bs csum tail hbs ht bodies h2
  rw [← h1, Nat.mul_comm] at hj
  have hbpos : 0 < bs := by unfold BsOK at hbs; omega
  have hjn : bodies.length ≤ n := by rw [hj, hold] at hfit; exact Nat.le_of_mul_le_mul_right hfit hbpos
  have hpad := padDir_spec bs csum tail hbs ht n old.length bodies.length _ hj hjn (by
    rw [hold]; have : n ≤ n * bs := Nat.le_mul_of_pos_right _ hbpos; omega)
  rw [← hold] at hpad
  have hl : (pack bs csum tail es ++ emptyBlocks bs csum tail (n - bodies.length)).length = old.length := by
    rw [List.length_append, hj, emptyBlocks_length bs csum tail hbs ht, hold, ← Nat.add_mul]; congr 1; omega
  have hres : rewriteDir true bs csum tail old es =
      pack bs csum tail es ++ emptyBlocks bs csum tail (n - bodies.length) := by
    simp only [rewriteDir, if_true]
    rw [hpad, List.drop_of_length_le (Nat.le_of_eq hl.symm), List.append_nil, List.take_of_length_le (Nat.le_of_eq hl)]
  refine ⟨n - bodies.length, hres, hres ▸ hl, ?_⟩
  -- the padded directory is the image of the packed bodies followed by empty ones
  rw [hres, h1, emptyBlocks_eq bs csum tail hbs, ← image_append, parse_image bs csum tail hbs ht]
  · simp [h3, empBody]
  · exact List.forall_mem_append.2 ⟨h2, fun b hb => (List.mem_replicate.1 hb).2 ▸ empBody_tiles bs csum hbs⟩
  · intro r hr
    rcases List.mem_append.1 (List.flatten_append ▸ hr) with hr | hr
    · have he := hok _ (h3 ▸ List.mem_map_of_mem hr)
      exact ⟨he.2, he.1.2.2⟩
    · obtain ⟨b, hb, hrb⟩ := List.mem_flatten.1 hr
      rw [(List.mem_replicate.1 hb).2] at hrb
      simp [List.mem_singleton.1 hrb, emp]

end Diskfs.Ext4.DirPack
