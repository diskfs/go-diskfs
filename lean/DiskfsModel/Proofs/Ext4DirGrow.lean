/-
  writeDirectory's growth / relocation step (Model/Ext4/DirGrow.lean) on the accounting machine: the
  (file block, disk block) pairs of an extent list, which mergeExtents' loop keeps and sorting permutes
  (`mergeExtents_blocks`); lists contiguous from a file block are sorted; what an accepted allocateExtents call leaves
  (`allocCall_spec`); and the branches of `writeDir` as an inductive predicate, one constructor per result kind
  with the calls that led there (`WriteDirRun`, `writeDir_run`), from which C05's theorems read off their cases.
  The two refusals inside the relocation are those of the code before fix b3817b1 (the blocks taken stay marked).
-/
import DiskfsModel.Model.Ext4.DirGrow
import DiskfsModel.Proofs.Ext4Alloc
import DiskfsModel.Proofs.Ext4FileIO
namespace Diskfs.Ext4.DirGrow
open Diskfs.Ext4 Diskfs.Ext4.Alloc

theorem run_length : ∀ (c fb st : Nat), (run fb st c).length = c := by
  intro c
  induction c with
  | zero => intro fb st; rfl
  | succ c ih => intro fb st; simp [run, ih]

theorem run_add (b : Nat) : ∀ (a fb st : Nat), run fb st (a + b) = run fb st a ++ run (fb + a) (st + a) b := by
  intro a
  induction a with
  | zero => intro fb st; simp [run]
  | succ a ih =>
    intro fb st
    have e : a + 1 + b = (a + b) + 1 := by omega
    rw [e]
    simp only [run, List.cons_append]
    rw [ih (fb + 1) (st + 1)]
    have e1 : fb + 1 + a = fb + (a + 1) := by omega
    have e2 : st + 1 + a = st + (a + 1) := by omega
    rw [e1, e2]

theorem blocksOf_cons (e : Extent) (es : List Extent) :
    blocksOf (e :: es) = run e.fileBlock e.start e.count ++ blocksOf es := by
  simp [blocksOf]

theorem blocksOf_append (a b : List Extent) : blocksOf (a ++ b) = blocksOf a ++ blocksOf b := by
  simp [blocksOf]

theorem blockCount_append (a b : List Extent) : blockCount (a ++ b) = blockCount a + blockCount b := by
  simp [blockCount]

theorem blocksOf_length : ∀ (es : List Extent), (blocksOf es).length = blockCount es := by
  intro es
  induction es with
  | nil => rfl
  | cons e es ih => simp [blocksOf_cons, blockCount_cons, run_length, ih]

theorem diskBlocks_length (es : List Extent) : (diskBlocks es).length = blockCount es := by
  simp [diskBlocks, blocksOf_length]

theorem diskBlocks_append (a b : List Extent) : diskBlocks (a ++ b) = diskBlocks a ++ diskBlocks b := by
  simp [diskBlocks, blocksOf_append]

theorem mergeLoop_blocks : ∀ (rest : List Extent) (cur : Extent), cur.count + blockCount rest < 65536 →
    blocksOf (mergeLoop cur rest) = blocksOf (cur :: rest) := by
  intro rest
  induction rest with
  | nil => intro cur _; rfl
  | cons next rest ih =>
    intro cur h
    rw [blockCount_cons] at h
    simp only [mergeLoop]
    split
    · rename_i hadj
      have hm : (cur.count + next.count) % 65536 = cur.count + next.count := Nat.mod_eq_of_lt (by omega)
      rw [ih _ (by simp only [hm]; omega)]
      simp only [blocksOf_cons, hm]
      rw [run_add, hadj.1, hadj.2, List.append_assoc]
    · simp only [blocksOf_cons, ih next (by omega)]

theorem insertE_perm (e : Extent) : ∀ xs, (insertE e xs).Perm (e :: xs)
  | [] => .refl _
  | x :: xs => by
    simp only [insertE]
    split
    · exact .refl _
    · exact ((insertE_perm e xs).cons x).trans (.swap e x xs)

theorem sortE_perm : ∀ es, (sortE es).Perm es
  | [] => .refl _
  | e :: es => (insertE_perm e (sortE es)).trans ((sortE_perm es).cons e)

/-- sorted by file block -/
def SortedFB (es : List Extent) : Prop := es.Pairwise fun a b => a.fileBlock ≤ b.fileBlock

theorem sortE_of_sorted : ∀ es, SortedFB es → sortE es = es
  | [], _ => rfl
  | e :: es, h => by
    have h' := List.pairwise_cons.1 h
    rw [sortE, sortE_of_sorted es h'.2]
    cases es with
    | nil => rfl
    | cons x xs => simp [insertE, h'.1 x (by simp)]

theorem blocksOf_perm {a b : List Extent} (p : a.Perm b) : (blocksOf a).Perm (blocksOf b) :=
  p.flatMap_right _

theorem blockCount_perm {a b : List Extent} (p : a.Perm b) : blockCount a = blockCount b := by
  rw [← blocksOf_length, ← blocksOf_length]; exact (blocksOf_perm p).length_eq

theorem mergeExtents_blocks (es : List Extent) (h : blockCount es < 65536) :
    blocksOf (mergeExtents es) = blocksOf (sortE es) := by
  unfold mergeExtents
  split
  · rename_i hl
    match es, hl with
    | [], _ => rfl
    | [a], _ => rfl
    | _ :: _ :: _, hl => simp at hl; omega
  · cases hs : sortE es with
    | nil => rfl
    | cons e rest =>
      have hc := blockCount_perm (sortE_perm es)
      rw [hs, blockCount_cons] at hc
      exact mergeLoop_blocks rest e (by omega)

theorem contigFrom_append : ∀ (a b : List Extent) (k : Nat),
    contigFrom k (a ++ b) ↔ contigFrom k a ∧ contigFrom (k + blockCount a) b := by
  intro a
  induction a with
  | nil => intro b k; simp [contigFrom, blockCount]
  | cons e a ih =>
    intro b k
    simp only [List.cons_append, contigFrom, ih, blockCount_cons, Nat.add_assoc, and_assoc]

theorem contigFrom_ge : ∀ (es : List Extent) (k : Nat), contigFrom k es → ∀ e ∈ es, k ≤ e.fileBlock := by
  intro es
  induction es with
  | nil => intro k _ e he; simp at he
  | cons x xs ih =>
    intro k h e he
    simp only [contigFrom] at h
    rcases List.mem_cons.1 he with he | he
    · subst he; omega
    · have := ih _ h.2 e he; omega

theorem contigFrom_sorted : ∀ (es : List Extent) (k : Nat), contigFrom k es → SortedFB es := by
  intro es
  induction es with
  | nil => intro _ _; exact List.Pairwise.nil
  | cons x xs ih =>
    intro k h
    simp only [contigFrom] at h
    refine List.pairwise_cons.2 ⟨?_, ih _ h.2⟩
    intro e he
    have := contigFrom_ge xs _ h.2 e he
    omega

theorem extentsOfRuns_contig (geo : Geom) : ∀ (rs : List Run) (fb : Nat), contigFrom fb (extentsOfRuns geo fb rs) := by
  intro rs
  induction rs with
  | nil => intro _; trivial
  | cons r rs ih => intro fb; exact ⟨rfl, ih _⟩

theorem extentsOfRuns_count (geo : Geom) : ∀ (rs : List Run) (fb : Nat),
    blockCount (extentsOfRuns geo fb rs) = (rs.map (·.2.2)).sum := by
  intro rs
  induction rs with
  | nil => intro _; rfl
  | cons r rs ih => intro fb; simp [extentsOfRuns, blockCount_cons, ih]

theorem extentsOfRuns_length (geo : Geom) : ∀ (rs : List Run) (fb : Nat), (extentsOfRuns geo fb rs).length = rs.length := by
  intro rs
  induction rs with
  | nil => intro _; rfl
  | cons r rs ih => intro fb; simp [extentsOfRuns, ih]

theorem allocCall_spec {geo : Geom} {pol : Acc → Nat → Option (List Run)} {s : Acc} {allocated n : Nat}
    {s1 : Acc} {ex : List Extent} (h : allocCall geo pol s allocated n = some (s1, ex)) :
    (AccInv s → AccInv s1) ∧ s1.sbFreeBlocks + n = s.sbFreeBlocks ∧ blockCount ex = n ∧ contigFrom allocated ex := by
  unfold allocCall at h
  split at h
  · rename_i rs s' hp hr
    cases h
    obtain ⟨rs', hrs, hle, _, hsum, rfl⟩ := allocExtents_ok hr
    obtain rfl : rs = rs' := by rw [hp] at hrs; exact Option.some.inj hrs
    refine ⟨fun hi => ?_, ?_, ?_, extentsOfRuns_contig geo rs allocated⟩
    · have := allocExtents_inv s n (pol s n) hi
      rwa [hr] at this
    · simp only [foldl_markRun_sb]; omega
    · rw [extentsOfRuns_count, hsum]
  · cases h

theorem allocCall_none_or (geo : Geom) (pol : Acc → Nat → Option (List Run)) (s : Acc) (allocated n : Nat) :
    allocCall geo pol s allocated n = none ∨ ∃ s1 ex, allocCall geo pol s allocated n = some (s1, ex) := by
  cases h : allocCall geo pol s allocated n with
  | none => exact Or.inl rfl
  | some p => exact Or.inr ⟨p.1, p.2, rfl⟩

/-- the ways a writeDirectory call can go, one per result kind, with what each leaves behind -/
inductive WriteDirRun (geo : Geom) (pol : Acc → Nat → Option (List Run)) (bs : Nat) (s : Acc) (old : List Extent)
    (nbytes : Nat) : Out → Prop
  | padded : requiredBlocks bs nbytes < blockCount old → WriteDirRun geo pol bs s old nbytes ⟨.padded, old, s, []⟩
  | inplace : requiredBlocks bs nbytes = blockCount old → WriteDirRun geo pol bs s old nbytes ⟨.inplace, old, s, []⟩
  | refusedExtra : blockCount old < requiredBlocks bs nbytes →
      allocCall geo pol s (blockCount old) (requiredBlocks bs nbytes - blockCount old) = none →
      WriteDirRun geo pol bs s old nbytes ⟨.refusedExtra, old, s, []⟩
  | grown (s1 : Acc) (extra : List Extent) : blockCount old < requiredBlocks bs nbytes →
      allocCall geo pol s (blockCount old) (requiredBlocks bs nbytes - blockCount old) = some (s1, extra) →
      (mergeExtents (old ++ extra)).length ≤ 4 →
      WriteDirRun geo pol bs s old nbytes ⟨.grown, mergeExtents (old ++ extra), s1, []⟩
  | refusedFresh (s1 : Acc) (extra : List Extent) : blockCount old < requiredBlocks bs nbytes →
      allocCall geo pol s (blockCount old) (requiredBlocks bs nbytes - blockCount old) = some (s1, extra) →
      4 < (mergeExtents (old ++ extra)).length →
      allocCall geo pol s1 0 (requiredBlocks bs nbytes) = none →
      WriteDirRun geo pol bs s old nbytes ⟨.refusedFresh, old, s1, diskBlocks extra⟩
  | refusedMany (s1 : Acc) (extra : List Extent) (s2 : Acc) (fresh : List Extent) :
      blockCount old < requiredBlocks bs nbytes →
      allocCall geo pol s (blockCount old) (requiredBlocks bs nbytes - blockCount old) = some (s1, extra) →
      4 < (mergeExtents (old ++ extra)).length →
      allocCall geo pol s1 0 (requiredBlocks bs nbytes) = some (s2, fresh) → 4 < fresh.length →
      WriteDirRun geo pol bs s old nbytes ⟨.refusedMany, old, s2, diskBlocks extra ++ diskBlocks fresh⟩
  | relocated (s1 : Acc) (extra : List Extent) (s2 : Acc) (fresh : List Extent) :
      blockCount old < requiredBlocks bs nbytes →
      allocCall geo pol s (blockCount old) (requiredBlocks bs nbytes - blockCount old) = some (s1, extra) →
      4 < (mergeExtents (old ++ extra)).length →
      allocCall geo pol s1 0 (requiredBlocks bs nbytes) = some (s2, fresh) → fresh.length ≤ 4 →
      blocksMarkedD geo s2 (diskBlocks (mergeExtents (old ++ extra))) = true →
      WriteDirRun geo pol bs s old nbytes
        ⟨.relocated, fresh, deallocBlocks true geo s2 (diskBlocks (mergeExtents (old ++ extra))), []⟩
  | guard (s1 : Acc) (extra : List Extent) (s2 : Acc) (fresh : List Extent) :
      allocCall geo pol s (blockCount old) (requiredBlocks bs nbytes - blockCount old) = some (s1, extra) →
      allocCall geo pol s1 0 (requiredBlocks bs nbytes) = some (s2, fresh) →
      WriteDirRun geo pol bs s old nbytes ⟨.guard, old, s2, []⟩

theorem writeDir_run (geo : Geom) (pol : Acc → Nat → Option (List Run)) (bs : Nat) (s : Acc) (old : List Extent)
    (nbytes : Nat) : WriteDirRun geo pol bs s old nbytes (writeDir geo pol bs s old nbytes) := by
  unfold writeDir
  simp only
  split
  · exact .padded ‹_›
  split
  · exact .inplace ‹_›
  have hlt : blockCount old < requiredBlocks bs nbytes := by omega
  split
  · exact .refusedExtra hlt ‹_›
  rename_i s1 extra h1
  split
  · exact .grown s1 extra hlt h1 ‹_›
  have hlen : 4 < (mergeExtents (old ++ extra)).length := by omega
  split
  · exact .refusedFresh s1 extra hlt h1 hlen ‹_›
  rename_i s2 fresh h2
  split
  · exact .refusedMany s1 extra s2 fresh hlt h1 hlen h2 ‹_›
  cases hm : blocksMarkedD geo s2 (diskBlocks (mergeExtents (old ++ extra)))
  · simp only [freeBlocksOp, hm, Bool.false_eq_true, if_false]
    exact .guard s1 extra s2 fresh h1 h2
  · simp only [freeBlocksOp, hm, if_true]
    exact .relocated s1 extra s2 fresh hlt h1 hlen h2 (by omega) hm

/-! ### witnesses and non-vacuity

  One group of 16 blocks (1 KiB geometry: block b is bit b-1).  The directory owns blocks 2, 4, 6, 8 (four extents),
  the blocks between them and block 9 belong to others, block 10 is free, blocks 11..16 are free (`xState false`)
  or in use (`xState true`: one free block in all). -/

def xGeo : Geom := ⟨1, 16, 8⟩
def xOld : List Extent := [⟨0, 2, 1⟩, ⟨1, 4, 1⟩, ⟨2, 6, 1⟩, ⟨3, 8, 1⟩]
def xBits (full : Bool) : Bits := [true, true, true, true, true, true, true, true, true, false] ++ List.replicate 6 full
def xState (full : Bool) : Acc :=
  ⟨[{ bbm := xBits full, ibm := [], freeBlocks := if full then 1 else 7, freeInodes := 0, usedDirs := 0 }],
   if full then 1 else 7, 0⟩

/-- finding ext4-dir-relocate-refused-leaks-blocks, on the code before fix b3817b1 (what `writeDir` mirrors): the
    directory needs a fifth block, the only free block (10) is not adjacent to its last one, so the fifth extent
    triggers the relocation; the fresh allocation of 5 blocks finds no room and writeDirectory returns the error -
    block 10 stays marked and out of the counters, the directory still lists its four old extents:
    `counters = bitmaps` holds, but the block has no owner. -/
theorem cex_ext4_dir_relocate_leak :
    AccInv (xState true) ∧ blocksMarkedD xGeo (xState true) (diskBlocks xOld) = true ∧
    (writeDir xGeo fastPol 1024 (xState true) xOld 5120).kind = .refusedFresh ∧
    (writeDir xGeo fastPol 1024 (xState true) xOld 5120).extents = xOld ∧
    (writeDir xGeo fastPol 1024 (xState true) xOld 5120).orphans = [10] ∧
    blockMarked xGeo (writeDir xGeo fastPol 1024 (xState true) xOld 5120).state 10 = true ∧
    blockMarked xGeo (xState true) 10 = false ∧
    (writeDir xGeo fastPol 1024 (xState true) xOld 5120).state.sbFreeBlocks = 0 ∧
    AccInv (writeDir xGeo fastPol 1024 (xState true) xOld 5120).state := by decide

/-- the same call with room behind block 10: relocated to blocks 11..15, blocks 2, 4, 6, 8 and 10 released -/
example : writeDir xGeo fastPol 1024 (xState false) xOld 5120 =
    ⟨.relocated, [⟨0, 11, 5⟩],
     ⟨[{ bbm := [true, false, true, false, true, false, true, false, true, false, true, true, true, true, true, false],
         ibm := [], freeBlocks := 6, freeInodes := 0, usedDirs := 0 }], 6, 0⟩, []⟩ := by decide
example : requiredBlocks 1024 5120 < 65536 ∧ (writeDir xGeo fastPol 1024 (xState false) xOld 5120).kind = .relocated := by decide

/-- growth: three extents and a fourth block that is not adjacent -/
example : writeDir xGeo fastPol 1024 (xState false) (xOld.take 3) 4096 =
    ⟨.grown, [⟨0, 2, 1⟩, ⟨1, 4, 1⟩, ⟨2, 6, 1⟩, ⟨3, 10, 1⟩],
     ⟨[{ bbm := xBits true |>.take 10 |>.set 9 true |> (· ++ List.replicate 6 false),
         ibm := [], freeBlocks := 6, freeInodes := 0, usedDirs := 0 }], 6, 0⟩, []⟩ := by decide
example : (writeDir xGeo fastPol 1024 (xState false) (xOld.take 3) 4096).kind = .grown ∧ contigFrom 0 (xOld.take 3) := by decide

/-- growth by an adjacent block: merged into the last extent -/
example : (writeDir xGeo fastPol 1024 (xState false) [⟨0, 8, 1⟩, ⟨1, 9, 1⟩] 3000).extents = [⟨0, 8, 3⟩] := by decide
example : (writeDir xGeo fastPol 1024 (xState false) xOld 4096).kind = .inplace ∧
    (writeDir xGeo fastPol 1024 (xState false) xOld 3000).kind = .padded ∧
    (writeDir xGeo fastPol 1024 (xState true) xOld 6000).kind = .refusedExtra := by decide

/-- a policy that answers the fresh request with five single blocks: refused after BOTH allocations -/
def manyPol (_ : Acc) (n : Nat) : Option (List Run) :=
  if n = 1 then some [(0, 9, 1)] else some [(0, 10, 1), (0, 11, 1), (0, 12, 1), (0, 13, 1), (0, 14, 1)]
example : (writeDir xGeo manyPol 1024 (xState false) xOld 5120).kind = .refusedMany ∧
    (writeDir xGeo manyPol 1024 (xState false) xOld 5120).orphans = [10, 11, 12, 13, 14, 15] ∧
    (writeDir xGeo manyPol 1024 (xState false) xOld 5120).state.sbFreeBlocks = 1 ∧
    AccInv (writeDir xGeo manyPol 1024 (xState false) xOld 5120).state := by decide

/-- mergeExtents: sorts by file block, merges only when file AND disk blocks are adjacent; the uint16 wrap -/
example : mergeExtents [⟨2, 12, 1⟩, ⟨0, 10, 2⟩, ⟨3, 20, 1⟩, ⟨4, 21, 2⟩] = [⟨0, 10, 3⟩, ⟨3, 20, 3⟩] := by decide
example : mergeExtents [⟨0, 10, 2⟩, ⟨3, 12, 1⟩] = [⟨0, 10, 2⟩, ⟨3, 12, 1⟩] ∧ blockCount [⟨0, 10, 2⟩, ⟨3, 12, 1⟩] < 65536 := by decide
example : mergeExtents [⟨0, 10, 40000⟩, ⟨40000, 40010, 40000⟩] = [⟨0, 10, 14464⟩] := by decide

end Diskfs.Ext4.DirGrow
