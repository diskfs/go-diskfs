/-
  The ext4 flat-extent write mapping (Model/Ext4/FileIO.lean): the repaired write loop puts the caller's bytes
  exactly where the extent list maps them, every WriteAt inside one extent, for every contiguous extent list,
  offset and buffer, and on a disk-disjoint list touches nothing outside the file's extents.
-/
import DiskfsModel.Proofs.Ext4FileIO
import DiskfsModel.Proofs.Arith
namespace Diskfs.Ext4

theorem splice_length (F : Bytes) (p : Nat) (d : Bytes) (h : p + d.length ≤ F.length) :
    (splice F p d).length = F.length := by
  simp [splice]; omega

theorem splice_append_right (A B : Bytes) (p : Nat) (d : Bytes) :
    splice (A ++ B) (A.length + p) d = A ++ splice B p d := by
  simp only [splice, List.take_append, List.drop_append]
  rw [List.take_of_length_le (Nat.le_add_right ..), List.drop_of_length_le (by omega : A.length ≤ A.length + p + d.length)]
  simp only [List.nil_append, List.append_assoc, Nat.add_sub_cancel_left]
  rw [Nat.add_assoc, Nat.add_sub_cancel_left]

/-- where the piece fits, `splice` is `put` of Proofs/Bytes (which cuts a piece that runs past the end) -/
theorem splice_eq_put {F : Bytes} {p : Nat} {d : Bytes} (h : p + d.length ≤ F.length) : splice F p d = put F p d :=
  (put_eq F p d h).symm

theorem splice_append_left (A B : Bytes) (p : Nat) (d : Bytes) (h : p + d.length ≤ A.length) :
    splice (A ++ B) p d = splice A p d ++ B := by
  rw [splice_eq_put (by rw [List.length_append]; omega), splice_eq_put h, put_append_left _ _ _ _ h]

theorem splice_nil (F : Bytes) (p : Nat) : splice F p [] = F := by
  simp [splice]

theorem splice_splice_adj (F : Bytes) (p : Nat) (d1 d2 : Bytes) (h : p ≤ F.length) :
    splice (splice F p d1) (p + d1.length) d2 = splice F p (d1 ++ d2) := by
  have hp : (F.take p).length = p := List.length_take_of_le h
  have h1 : (F.take p ++ d1).length = p + d1.length := by rw [List.length_append, hp]
  simp only [splice, List.length_append]
  rw [List.take_left' h1, ← h1, List.drop_append, List.drop_of_length_le (Nat.le_add_right ..), Nat.add_sub_cancel_left,
    List.drop_drop, h1, List.nil_append, Nat.add_assoc]
  simp only [List.append_assoc]

/-- what a reader of a file of `s` bytes sees at the written range afterwards -/
theorem splice_window (F : Bytes) (off : Nat) (b : Bytes) (s : Nat)
    (h : off + b.length ≤ F.length) (hs : off + b.length ≤ s) :
    (((splice F off b).take s).drop off).take b.length = b := by
  rw [take_drop_take _ _ _ _ hs, splice, List.append_assoc, List.drop_left' (by simp; omega), List.take_left' rfl]

theorem splice_window_before (G : Bytes) (off : Nat) (b : Bytes) (s a n : Nat)
    (h : off ≤ G.length) (hs : off ≤ s) (han : a + n ≤ off) :
    (((splice G off b).take s).drop a).take n = (((G.take off).drop a).take n) := by
  have h1 : (G.take off).length = off := List.length_take_of_le h
  rw [take_drop_take _ _ _ _ (by omega), splice, List.append_assoc, List.drop_append_of_le_length (by omega),
    List.take_append_of_le_length (by simp; omega)]

theorem readAt_applyWr_inside (dev : Dev) (a n sp : Nat) (d : Bytes) (h : sp + d.length ≤ n) :
    readAt (applyWr dev ⟨a + sp, d⟩) a n = splice (readAt dev a n) sp d := by
  rw [readAt_applyWr_put dev a n sp d h, splice_eq_put (by rw [readAt_length]; exact h)]

/-- device byte `i` lies in no extent of the list -/
def Outside (bs : Nat) (es : List Extent) (i : Nat) : Prop :=
  ∀ e ∈ es, i < e.start * bs ∨ e.start * bs + e.count * bs ≤ i

/-- the write lies inside one extent of the list (device bytes, relative to the filesystem start) -/
def InExtent (bs : Nat) (es : List Extent) (w : Int × Bytes) : Prop :=
  ∃ e ∈ es, ((e.start * bs : Nat) : Int) ≤ w.1 ∧ w.1 + (w.2.length : Int) ≤ (((e.start + e.count) * bs : Nat) : Int)

theorem InExtent.cons {bs : Nat} {e : Extent} {es : List Extent} {w : Int × Bytes} (h : InExtent bs es w) :
    InExtent bs (e :: es) w := by
  obtain ⟨e', he', h1⟩ := h
  exact ⟨e', List.mem_cons_of_mem _ he', h1⟩

theorem InExtent.head {bs : Nat} {e : Extent} {es : List Extent} {sp : Nat} {d : Bytes} (h : sp + d.length ≤ e.count * bs) :
    InExtent bs (e :: es) (((e.start * bs + sp : Nat) : Int), d) :=
  ⟨e, List.mem_cons_self .., by simp only; omega, by simp only [Nat.add_mul]; omega⟩

theorem InExtent.nonneg {bs : Nat} {es : List Extent} {w : Int × Bytes} (h : InExtent bs es w) : 0 ≤ w.1 := by
  obtain ⟨e, _, h1, _⟩ := h
  omega

theorem fileBytes_congr (d1 d2 : Dev) (bs : Nat) (es : List Extent)
    (h : ∀ e ∈ es, ∀ i, e.start * bs ≤ i → i < e.start * bs + e.count * bs → d1 i = d2 i) :
    fileBytes d1 bs es = fileBytes d2 bs es := by
  induction es with
  | nil => rfl
  | cons e es ih =>
    simp only [fileBytes]
    rw [readAt_congr d1 d2 _ _ (h e (List.mem_cons_self ..)),
      ih (fun e' he' => h e' (List.mem_cons_of_mem _ he'))]

theorem disjoint_bytes (bs : Nat) (a b : Extent) (h : a.start + a.count ≤ b.start ∨ b.start + b.count ≤ a.start)
    (i : Nat) (h1 : a.start * bs ≤ i) (h2 : i < a.start * bs + a.count * bs) :
    i < b.start * bs ∨ b.start * bs + b.count * bs ≤ i := by
  rcases h with hd | hd
  · left
    have := Nat.mul_le_mul_right bs hd
    rw [Nat.add_mul] at this
    omega
  · right
    have := Nat.mul_le_mul_right bs hd
    rw [Nat.add_mul] at this
    omega

theorem Outside.of_cons {bs : Nat} {e : Extent} {es : List Extent} {i : Nat} (h : Outside bs (e :: es) i) :
    (i < e.start * bs ∨ e.start * bs + e.count * bs ≤ i) ∧ Outside bs es i :=
  ⟨h e (List.mem_cons_self ..), fun e' he' => h e' (List.mem_cons_of_mem _ he')⟩

theorem toWrs_cons (o : Int) (d : Bytes) (ws : List (Int × Bytes)) :
    toWrs ((o, d) :: ws) = ⟨o.toNat, d⟩ :: toWrs ws := by simp [toWrs]

theorem applyWrs_cons (dev : Dev) (w : Wr) (ws : List Wr) : applyWrs dev (w :: ws) = applyWrs (applyWr dev w) ws :=
  rfl

theorem applyWrs_toWrs_cons (dev : Dev) (n : Nat) (d : Bytes) (ws : List (Int × Bytes)) :
    applyWrs dev (toWrs ((((n : Nat) : Int), d) :: ws)) = applyWrs (applyWr dev ⟨n, d⟩) (toWrs ws) := by
  simp [toWrs, applyWrs]

theorem applyWrs_toWrs_nil (dev : Dev) : applyWrs dev (toWrs []) = dev := by
  simp [toWrs, applyWrs]

theorem applyWrs_toWrs_append (dev : Dev) (a c : List (Int × Bytes)) :
    applyWrs dev (toWrs (a ++ c)) = applyWrs (applyWrs dev (toWrs a)) (toWrs c) := by
  simp [toWrs, applyWrs, List.foldl_append]

/-- On every device the writes `ws` put `d` at byte `p` of the file the extent list denotes and leave every device byte
    outside the file's extents as it was. -/
def Splices (bs : Nat) (es : List Extent) (ws : List (Int × Bytes)) (p : Nat) (d : Bytes) : Prop :=
  ∀ dev : Dev, fileBytes (applyWrs dev (toWrs ws)) bs es = splice (fileBytes dev bs es) p d ∧
    ∀ i, Outside bs es i → applyWrs dev (toWrs ws) i = dev i

theorem Splices.nil (bs : Nat) (es : List Extent) (p : Nat) : Splices bs es [] p [] := by
  intro dev
  rw [applyWrs_toWrs_nil, splice_nil]
  exact ⟨rfl, fun _ _ => rfl⟩

theorem Splices.cons {bs : Nat} {e : Extent} {es : List Extent} {ws : List (Int × Bytes)} {p : Nat} {d : Bytes}
    (hd : DiskDisjoint (e :: es)) (h : Splices bs es ws p d) : Splices bs (e :: es) ws (e.count * bs + p) d := by
  intro dev
  obtain ⟨hF, hfr⟩ := h dev
  refine ⟨?_, fun i hi => hfr i hi.of_cons.2⟩
  have := splice_append_right (readAt dev (e.start * bs) (e.count * bs)) (fileBytes dev bs es) p d
  rw [readAt_length] at this
  -- the writes lie in the other extents, which share no block with `e`
  have he : readAt (applyWrs dev (toWrs ws)) (e.start * bs) (e.count * bs) = readAt dev (e.start * bs) (e.count * bs) :=
    readAt_congr _ _ _ _ fun i h1 h2 => hfr i fun e' he' => disjoint_bytes bs e e' ((List.pairwise_cons.1 hd).1 e' he') i h1 h2
  rw [fileBytes, fileBytes, hF, he, this]

theorem Splices.head {bs : Nat} {e : Extent} {es : List Extent} {sp : Nat} {d : Bytes}
    (hd : DiskDisjoint (e :: es)) (h : sp + d.length ≤ e.count * bs) :
    Splices bs (e :: es) [(((e.start * bs + sp : Nat) : Int), d)] sp d := by
  intro dev
  rw [applyWrs_toWrs_cons, applyWrs_toWrs_nil]
  have hfr : ∀ i, i < e.start * bs ∨ e.start * bs + e.count * bs ≤ i → applyWr dev ⟨e.start * bs + sp, d⟩ i = dev i :=
    fun i hi => applyWr_frame _ _ _ (by simp only; omega)
  refine ⟨?_, fun i hi => hfr i hi.of_cons.1⟩
  have ht : fileBytes (applyWr dev ⟨e.start * bs + sp, d⟩) bs es = fileBytes dev bs es :=
    fileBytes_congr _ _ _ _ fun e' he' i h1 h2 =>
      hfr i (disjoint_bytes bs e' e ((List.pairwise_cons.1 hd).1 e' he').symm i h1 h2)
  rw [fileBytes, fileBytes, readAt_applyWr_inside dev _ _ sp d h, ht,
    splice_append_left _ _ _ _ (by rw [readAt_length]; exact h)]

theorem Splices.append {bs : Nat} {es : List Extent} {ws1 ws2 : List (Int × Bytes)} {p : Nat} {d1 d2 : Bytes}
    (hp : p ≤ blockCount es * bs) (h1 : Splices bs es ws1 p d1) (h2 : Splices bs es ws2 (p + d1.length) d2) :
    Splices bs es (ws1 ++ ws2) p (d1 ++ d2) := by
  intro dev
  obtain ⟨hF1, hfr1⟩ := h1 dev
  obtain ⟨hF2, hfr2⟩ := h2 (applyWrs dev (toWrs ws1))
  rw [applyWrs_toWrs_append]
  refine ⟨?_, fun i hi => by rw [hfr2 i hi, hfr1 i hi]⟩
  rw [hF2, hF1, splice_splice_adj _ _ _ _ (by rw [fileBytes_length]; exact hp)]

/-! ### one pass through the body of the repaired write loop, in natural numbers -/

section
variable (bs sb : Nat) (b : Bytes) (e : Extent) (es : List Extent) (off written : Nat) (ws : List (Int × Bytes))

theorem writeLoop_skip (cum : Bool) (h : e.fileBlock + e.count ≤ sb) :
    writeLoop false cum bs sb b (e :: es) off written ws = writeLoop false cum bs sb b es off written ws := by
  simp [writeLoop, skips, h]

theorem writeLoop_step (hns : ¬ e.fileBlock + e.count ≤ sb) (sp m k : Nat) (h1 : e.fileBlock * bs + sp = off)
    (h2 : sp ≤ e.count * bs) (hm : written + m = b.length) (hk : k = min m (e.count * bs - sp)) :
    writeLoop false true bs sb b (e :: es) off written ws =
      (let ws' := ws ++ [(((e.start * bs + sp : Nat) : Int), (b.drop written).take k)]
       if written + k ≥ b.length then .ok ⟨ws', written + k, off + k⟩
       else writeLoop false true bs sb b es (off + k) (written + k) ws') := by
  simp only [writeLoop, skips, Bool.false_eq_true, if_false, hns, decide_false, if_true]
  simp only [← Int.natCast_mul]
  generalize e.fileBlock * bs = FB at *
  generalize e.count * bs = C at *
  generalize e.start * bs = S at *
  have e1 : (off : Int) - (FB : Int) = (sp : Int) := by omega
  have e2 : (C : Int) - (sp : Int) = ((C - sp : Nat) : Int) := by omega
  have e3 : (b.length : Int) - (written : Int) = (m : Int) := by omega
  rw [e1, e2, e3]
  have e4 : (if (m : Int) > ((C - sp : Nat) : Int) then ((C - sp : Nat) : Int) else (m : Int)) = (k : Int) := by
    split <;> omega
  rw [e4]
  have e5 : ¬ ((k : Int) < 0) := by omega
  have e6 : ¬ ((S : Int) + (sp : Int) < 0) := by omega
  simp only [e5, e6, if_false, Int.toNat_natCast]
  rfl

end

/- `sb` is the block of the offset the write began at, as in `readLoop_sparse`: an extent is passed over exactly when it
   ends at or before the offset the loop has reached. -/
theorem writeLoop_run (bs sb : Nat) (b : Bytes) (hbs : 0 < bs) :
    ∀ (es : List Extent) (first off p m written : Nat) (ws : List (Int × Bytes)),
      Contig first es → off = first * bs + p → (∀ n, first < n → (n ≤ sb ↔ n * bs ≤ off)) → written + m = b.length →
      p + m ≤ blockCount es * bs →
      ∃ ws', writeLoop false true bs sb b es off written ws = .ok ⟨ws ++ ws', b.length, off + m⟩ ∧
        (∀ w ∈ ws', InExtent bs es w) ∧ (DiskDisjoint es → Splices bs es ws' p (b.drop written)) := by
  intro es
  induction es with
  | nil =>
    intro first off p m written ws _ _ _ hm henough
    obtain rfl : m = 0 := by simp [blockCount] at henough; omega
    obtain rfl : written = b.length := by omega
    exact ⟨[], by simp [writeLoop], by simp, fun _ => by rw [List.drop_length]; exact Splices.nil _ _ _⟩
  | cons e es ih =>
    intro first off p m written ws ⟨hfb, hcnt, hrest⟩ hp hsb hm henough
    rw [blockCount_cons, Nat.add_mul] at henough
    have hC : 0 < e.count * bs := Nat.mul_pos hcnt hbs
    have hEnd : (e.fileBlock + e.count) * bs = e.fileBlock * bs + e.count * bs := Nat.add_mul ..
    rw [← hfb] at hp hrest hsb
    have hsk := hsb (e.fileBlock + e.count) (by omega)
    by_cases hskip : e.fileBlock + e.count ≤ sb
    · obtain ⟨p', rfl⟩ : ∃ p', p = e.count * bs + p' := ⟨p - e.count * bs, by have := hsk.1 hskip; omega⟩
      obtain ⟨ws', hr, hin, hsp⟩ := ih _ off p' m written ws hrest (by omega) (fun n hn => hsb n (by omega)) hm (by omega)
      exact ⟨ws', by rw [writeLoop_skip _ _ _ _ _ _ _ _ _ hskip]; exact hr, fun w hw => (hin w hw).cons,
        fun hd => (hsp (List.pairwise_cons.1 hd).2).cons hd⟩
    · have hpC : p < e.count * bs := by have := mt hsk.2 hskip; omega
      have hdl : (b.drop written).length = m := by rw [List.length_drop]; omega
      rw [writeLoop_step bs _ b e es off written ws hskip p m _ hp.symm (Nat.le_of_lt hpC) hm rfl]
      by_cases hfit : m ≤ e.count * bs - p
      · -- the rest of the buffer goes into this extent
        rw [Nat.min_eq_left hfit, if_pos (Nat.le_of_eq hm.symm), List.take_of_length_le (Nat.le_of_eq hdl)]
        exact ⟨_, by rw [hm], fun w hw => by rw [List.mem_singleton.1 hw]; exact InExtent.head (by omega),
          fun hd => Splices.head hd (by omega)⟩
      · -- the extent is filled to its end, the loop goes on at the start of the next one
        obtain ⟨k, hk⟩ : ∃ k, p + k = e.count * bs := ⟨_, Nat.add_sub_cancel' (Nat.le_of_lt hpC)⟩
        obtain ⟨m', rfl⟩ : ∃ m', m = k + m' := ⟨m - k, by omega⟩
        rw [Nat.min_eq_right (Nat.le_of_not_le hfit), show e.count * bs - p = k by omega, if_neg (by omega)]
        have hpl : ((b.drop written).take k).length = k := by rw [List.length_take, hdl]; omega
        obtain ⟨ws'', hr, hin, hsp⟩ := ih (e.fileBlock + e.count) (off + k) 0 m' (written + k)
          (ws ++ [(((e.start * bs + p : Nat) : Int), (b.drop written).take k)]) hrest (by omega)
          (fun n hn => by rw [show off + k = (e.fileBlock + e.count) * bs by omega, Nat.mul_le_mul_right_iff hbs]; omega)
          (by omega) (by omega)
        refine ⟨_ :: ws'', by rw [hr, List.append_assoc, List.singleton_append, Nat.add_assoc], ?_, fun hd => ?_⟩
        · intro w hw
          rcases List.mem_cons.1 hw with rfl | hw
          · exact InExtent.head (by omega)
          · exact (hin w hw).cons
        · -- the piece in this extent, then what the rest of the list takes from its first byte on
          have := Splices.append (bs := bs) (es := e :: es) (p := p) (ws1 := [_]) (by rw [blockCount_cons, Nat.add_mul]; omega)
            (Splices.head (sp := p) (d := (b.drop written).take k) hd (by omega))
            (by rw [hpl, hk]; exact (hsp (List.pairwise_cons.1 hd).2).cons hd)
          rwa [← List.drop_drop, List.take_append_drop] at this

theorem writeE_size2 (size off len : Nat) :
    (if off + len > (if off ≥ size then off else size) then off + len else (if off ≥ size then off else size)) =
      max size (off + len) := by
  split <;> split <;> omega

theorem writeE_eq (lt cum : Bool) (bs : Nat) (es : List Extent) (size off : Nat) (b : Bytes) :
    writeE lt cum bs es size off b =
      if max size (off + b.length) / bs + (if max size (off + b.length) % bs > 0 then 1 else 0) > blockCount es
      then .needAlloc
      else match writeLoop lt cum bs (off / bs) b es off 0 [] with
        | .ok r => .ok ⟨r.ws, r.written, r.off, max size (off + b.length)⟩
        | .panic => .panic
        | .err r => .err ⟨r.ws, r.written, r.off, max size (off + b.length)⟩ := by
  simp only [writeE, writeE_size2]
  rfl

theorem writeE_ok (bs : Nat) (es : List Extent) (size off : Nat) (b : Bytes)
    (hbs : 0 < bs) (hc : Contig 0 es) (hsz : size ≤ blockCount es * bs) (hfit : off + b.length ≤ blockCount es * bs) :
    ∃ r, writeE false true bs es size off b = .ok r ∧
      r.written = b.length ∧ r.off = off + b.length ∧ r.size = max size (off + b.length) ∧
      (∀ w ∈ r.ws, InExtent bs es w) ∧ (DiskDisjoint es → Splices bs es r.ws off b) := by
  have hceil := (divUp_le_iff (max size (off + b.length)) bs (blockCount es) hbs).2 (by omega)
  rw [writeE_eq, if_neg (by omega)]
  obtain ⟨ws', hr, hin, hsp⟩ := writeLoop_run bs (off / bs) b hbs es 0 off off b.length 0 [] hc (by simp)
    (fun _ _ => Nat.le_div_iff_mul_le hbs) (Nat.zero_add _) hfit
  rw [hr]
  exact ⟨_, rfl, rfl, rfl, rfl, hin, hsp⟩

theorem zeroFill_spec (bs : Nat) (es : List Extent) (target : Nat)
    (hbs : 0 < bs) (hc : Contig 0 es) (hd : DiskDisjoint es) (ht : target ≤ blockCount es * bs) :
    ∀ (fuel size : Nat) (ws : List (Int × Bytes)), size ≤ target → target - size ≤ fuel →
      ∃ ws', zeroFill false true bs es target fuel size ws = .ok ⟨ws ++ ws', 0, target, target⟩ ∧
        (∀ w ∈ ws', InExtent bs es w) ∧ Splices bs es ws' size (zeros (target - size)) := by
  intro fuel
  induction fuel with
  | zero =>
    intro size ws h1 h2
    obtain rfl : size = target := by omega
    exact ⟨[], by simp [zeroFill], by simp, by rw [Nat.sub_self]; exact Splices.nil _ _ _⟩
  | succ fuel ih =>
    intro size ws h1 h2
    by_cases hge : size ≥ target
    · obtain rfl : size = target := by omega
      exact ⟨[], by simp [zeroFill], by simp, by rw [Nat.sub_self]; exact Splices.nil _ _ _⟩
    · generalize hcdef : min (target - size) zeroChunk = c
      have hcpos : 0 < c := by rw [← hcdef]; simp only [zeroChunk]; omega
      have hcle : c ≤ target - size := by rw [← hcdef]; exact Nat.min_le_left _ _
      have e1 : c + (target - (size + c)) = target - size := by omega
      have e2 : size + c ≤ target := by omega
      have e3 : target - (size + c) ≤ fuel := by omega
      obtain ⟨r, hr, hwr, _, hsize, hin, hsp⟩ := writeE_ok bs es size size (zeros c) hbs hc (by omega)
        (by rw [zeros_length]; omega)
      rw [zeros_length] at hwr hsize
      have hrs : r.size = size + c := by rw [hsize]; omega
      obtain ⟨ws2, hz2, hin2, hsp2⟩ := ih (size + c) (ws ++ r.ws) e2 e3
      refine ⟨r.ws ++ ws2, ?_, ?_, ?_⟩
      · simp only [zeroFill, hge, if_false, hcdef, hr]
        rw [if_neg (by omega), hrs, hz2, List.append_assoc]
      · intro w hw
        rcases List.mem_append.1 hw with h | h
        · exact hin w h
        · exact hin2 w h
      · have := Splices.append (by omega) (hsp hd) (by rw [zeros_length]; exact hsp2)
        rwa [zeros_append, e1] at this

end Diskfs.Ext4
