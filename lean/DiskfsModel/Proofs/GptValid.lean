/-
  The layout this library creates itself — a fresh table of 128 entries on 512- or 4096-byte sectors, on a
  disk that holds both copies — as an instance of the general geometry, on which `write` and `writeUp`
  agree (`std_geom`: the geometry is well formed with a sane usable range, so that every theorem about `writeUp` and
  `GeomWF` applies); on a disk that holds the primary copy only, read after write (`read_write_fresh`); and the table
  read back, with its fields written out (`readBack`).
-/
import DiskfsModel.Proofs.GptGeomWhole
namespace Diskfs.Gpt

theorem std_geom (c : Cfg) (crc : Bytes → Nat) (t0 : Table) (size : Nat) (hf : Fresh t0)
    (hl : t0.lss = 512 ∨ t0.lss = 4096) (hg : t0.guid.length = 16) (hsz : size < two63)
    (hmin : (2 * (16384 / t0.lss) + 3) * t0.lss ≤ size) :
    GeomWF (initTable t0 size) size ∧ UsableWF (initTable t0 size) ∧
    write c crc t0 size = writeUp c crc (initTable t0 size) size := by
  have h512 : 512 ≤ t0.lss := by rcases hl with h | h <;> omega
  have hmin' : (2 * ((16384 + t0.lss - 1) / t0.lss) + 3) * t0.lss ≤ size := by rw [ceil_std _ hl]; exact hmin
  have g := (initTableUp_geom t0 size hf h512 hg hsz hmin').1
  have u := (initTableUp_spec t0 size hf h512 hsz hmin').2.1
  rw [initTableUp_eq_initTable t0 size hf hl] at g u
  exact ⟨g, u, (write_std c crc t0 size hf hl hsz hmin).2⟩

/-- a disk that holds the primary copy is enough for reading back; `std_geom` needs room for both copies -/
theorem initTable_primary (t0 : Table) (size : Nat) (hf : Fresh t0) (hlss : t0.lss = 512 ∨ t0.lss = 4096)
    (hg : t0.guid.length = 16) (hmin : 2 * t0.lss + 16384 ≤ size) : PrimaryWF (initTable t0 size) size := by
  obtain ⟨il, iph, iac, ies, igu, _, ish, ifd, ild⟩ := initTable_fresh t0 size hf hlss
  exact ⟨by rw [il]; rcases hlss with h | h <;> omega, by rw [il]; rcases hlss with h | h <;> rw [h] <;> decide, ies,
    by rw [iac]; decide, by rw [iac]; decide, iph, by rw [il, iac]; exact hmin, ish, ifd, ild, igu ▸ hg⟩

theorem read_write_fresh (c : Cfg) (crc : Bytes → Nat) (hcrc : ∀ b, crc b < two32) (d : Dev)
    (t0 : Table) (size : Nat) (ws : List Wr) (t : Table)
    (hf : Fresh t0) (hlss : t0.lss = 512 ∨ t0.lss = 4096) (hg : t0.guid.length = 16)
    (hwf : ∀ p ∈ t0.parts, allZero p.typ = true ∨ (EntryWF p ∧ p.size < two64))
    (hmin : 2 * t0.lss + 16384 ≤ size)
    (hw : write c crc t0 size = .ok (ws, t)) :
    ∃ t', (read c crc (applyWrs d ws) size t0.lss).1 = .ok t' ∧ t'.parts = normParts t.parts 128 ∧
      t'.guid = t0.guid ∧ t'.backup = false ∧ t'.primaryHeader = 1 ∧ t'.secondaryHeader = t.secondaryHeader ∧
      t'.firstData = t.firstData ∧ t'.lastData = t.lastData := by
  obtain ⟨il, _, iac, _, igu, ipa, _⟩ := initTable_fresh t0 size hf hlss
  rw [write_fresh_eq c crc t0 size hf hlss] at hw
  obtain ⟨pm, arr, _, _, hr⟩ := read_writeUp c crc hcrc d _ size ws t (by simp [initTable])
    (initTable_primary t0 size hf hlss hg hmin) (ipa ▸ hwf) hw
  have ht := writeUp_fields c crc _ size ws t (by simp [initTable]) hw
  rw [il] at hr
  exact ⟨_, hr, by rw [reread, iac], igu, rfl, rfl, by rw [ht]; rfl, by rw [ht]; rfl, by rw [ht]; rfl⟩

/-- the table `gpt_read_back_exact` names: `reread` for the layout this library creates itself, field by field -/
def readBack (t0 : Table) (ps : List Part) (size : Nat) (pm : Bool) (acrc : Nat) : Table :=
  { parts := normParts ps 128, lss := t0.lss, guid := t0.guid, pmbr := pm, initialized := true,
    arrCount := 128, entSize := 128, firstLBA := 2, arrCrc := acrc, primaryHeader := 1,
    secondaryHeader := size / t0.lss - 1, firstData := 2 + 16384 / t0.lss,
    lastData := size / t0.lss - 1 - 16384 / t0.lss - 1 }

theorem readBack_eq (t0 : Table) (size : Nat) (hf : Fresh t0) (hl : t0.lss = 512 ∨ t0.lss = 4096)
    (hsz : size < two63) (hmin : (2 * (16384 / t0.lss) + 3) * t0.lss ≤ size) (ps : List Part) (pm : Bool) (acrc : Nat) :
    reread (initTable t0 size) ps pm acrc = readBack t0 ps size pm acrc := by
  obtain ⟨il, iph, iac, ies, igu, ipa, ipm, ish, ifd, ild, _⟩ := initTable_geo t0 size hf hl hsz hmin
  simp only [reread, readBack, il, iac, igu, ish, ifd, ild]

end Diskfs.Gpt
