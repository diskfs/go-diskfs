/-
  The invariant of the extent tree along a history of extendExtentTree calls (Model/Ext4/ExtTree.lean), for the
  repaired code (`fx = true`: the two refusals of fix f6794f8).  On a tree that has the invariant every lookup of a
  call lands on the last child of the node it is in, so a call is followed forward along the rightmost path: what it
  answers, what the tree looks like afterwards and which blocks it took (`extendIx_good`; that the tree denotes the old
  extents followed by the added ones is `extend_ok`, which needs no allocator law).  The end of the file holds what
  Props/C04.lean states the history theorems with: `StateInv` (tree and allocator state), `refusesTop`, and for a file that
  may have no tree yet `oflat` / `oblocks` / `OInv` and the history `runExtends`.
-/
import DiskfsModel.Proofs.Ext4ExtTree
namespace Diskfs.Ext4.ExtTree
open Diskfs Diskfs.Ext4

/-- what the tree code may assume of allocateExtents. `free s x`: block x is free in allocator state s. A successful
    `take s n` answers with n blocks that were free, and afterwards exactly these are not free. -/
structure AllocOK {σ : Type} (A : Allocator σ) (free : σ → Nat → Bool) : Prop where
  was_free : ∀ s n b s', A.take s n = some (b, s') → ∀ i, i < n → free s (b + i) = true
  after : ∀ s n b s', A.take s n = some (b, s') → ∀ x, free s' x = (free s x && !(decide (b ≤ x ∧ x < b + n)))

/-- going from state s to s' the blocks `taken` (pairwise distinct, free in s) were taken and nothing else changed -/
def Took {σ : Type} (free : σ → Nat → Bool) (s s' : σ) (taken : List Nat) : Prop :=
  taken.Nodup ∧ (∀ x ∈ taken, free s x = true) ∧ (∀ x, free s' x = (free s x && !(taken.contains x)))

theorem Took.refl {σ : Type} (free : σ → Nat → Bool) (s : σ) : Took free s s [] := by
  refine ⟨List.nodup_nil, by simp, by simp⟩

theorem Took.trans {σ : Type} {free : σ → Nat → Bool} {s s1 s2 : σ} {t1 t2 : List Nat}
    (h1 : Took free s s1 t1) (h2 : Took free s1 s2 t2) : Took free s s2 (t1 ++ t2) := by
  obtain ⟨n1, f1, a1⟩ := h1
  obtain ⟨n2, f2, a2⟩ := h2
  refine ⟨?_, ?_, ?_⟩
  · rw [List.nodup_append]
    refine ⟨n1, n2, ?_⟩
    intro x hx1 y hy2 hxy
    subst hxy
    have := f2 x hy2
    rw [a1 x] at this
    simp [hx1] at this
  · intro x hx
    rcases List.mem_append.mp hx with hx | hx
    · exact f1 x hx
    · have := f2 x hx
      rw [a1 x] at this
      simp only [Bool.and_eq_true] at this
      exact this.1
  · intro x
    rw [a2 x, a1 x]
    simp only [List.contains_eq_mem, List.mem_append, Bool.decide_or, Bool.not_or, Bool.and_assoc]

theorem Took.zero {σ : Type} {free : σ → Nat → Bool} {s s' : σ} {t : List Nat} (h : Took free s s' t)
    (hz : free s 0 = false) : free s' 0 = false := by
  rw [h.2.2 0, hz]; rfl

theorem AllocOK.took {σ : Type} {A : Allocator σ} {free : σ → Nat → Bool} (hA : AllocOK A free) {s s' : σ} {n b : Nat}
    (h : A.take s n = some (b, s')) : Took free s s' (List.range' b n) := by
  refine ⟨List.nodup_range' (step := 1) (by omega), ?_, ?_⟩
  · intro x hx
    rw [List.mem_range'_1] at hx
    have := hA.was_free s n b s' h (x - b) (by omega)
    have e : b + (x - b) = x := by omega
    rw [e] at this
    exact this
  · intro x
    rw [hA.after s n b s' h x]
    congr 2
    simp only [List.contains_eq_mem, List.mem_range'_1]

theorem AllocOK.ne_zero {σ : Type} {A : Allocator σ} {free : σ → Nat → Bool} (hA : AllocOK A free) {s s' : σ} {n b : Nat}
    (h : A.take s n = some (b, s')) (hn : 0 < n) (hz : free s 0 = false) : b ≠ 0 := by
  intro hb
  have := hA.was_free s n b s' h 0 hn
  rw [hb] at this
  simp [hz] at this

/-- the bump allocator of the examples hands out blocks that were free (`free s x` = `s ≤ x`) -/
theorem bump_ok : AllocOK bump (fun s x => decide (s ≤ x)) := by
  refine ⟨?_, ?_⟩
  · intro s n b s' h i _
    simp only [bump, Option.some.injEq, Prod.mk.injEq] at h
    obtain ⟨rfl, _⟩ := h
    simp
  · intro s n b s' h x
    simp only [bump, Option.some.injEq, Prod.mk.injEq] at h
    obtain ⟨rfl, rfl⟩ := h
    by_cases h1 : s + n ≤ x
    · have h2 : s ≤ x := by omega
      have h3 : ¬ (x < s + n) := by omega
      simp [h1, h2, h3]
    · by_cases h2 : s ≤ x
      · have h3 : s ≤ x ∧ x < s + n := by omega
        simp [h1, h2, h3]
      · simp [h1, h2]

/-- a node that lives in a block, as the library builds it: fan-out of a block, not over-full, not empty, a block
    number that is not 0; the children of an index node one level below it, each pointer key the first file block of
    the child -/
def good (bs : Nat) : Node → Prop
  | .leaf max disk es => max = nonRootMax bs ∧ es.length ≤ max ∧ es ≠ [] ∧ disk ≠ 0
  | .index max disk depth ks => max = nonRootMax bs ∧ ks.length ≤ max ∧ ks ≠ [] ∧ disk ≠ 0 ∧ goodKids bs depth ks
where goodKids (bs : Nat) (depth : Nat) : Kids → Prop
  | [] => True
  | (k, c) :: ks => c.depth + 1 = depth ∧ c.firstKey = some k ∧ good bs c ∧ goodKids bs depth ks

/-- the root in the inode: 4 entries at most, no block -/
def goodRoot (bs : Nat) : Node → Prop
  | .leaf max disk es => max = 4 ∧ disk = 0 ∧ es.length ≤ 4
  | .index max disk depth ks => max = 4 ∧ disk = 0 ∧ ks.length ≤ 4 ∧ ks ≠ [] ∧ good.goodKids bs depth ks

/-- the invariant of a file's extent tree: the root in the inode, every node below it non-empty in a block of its own
    (all block numbers pairwise distinct), file blocks strictly increasing -/
structure TreeInv (bs : Nat) (t : Node) : Prop where
  root : goodRoot bs t
  sorted : SortedFB (flatten t)
  nodup : (treeBlocks t).Nodup

theorem goodKids_iff (bs d : Nat) (ks : Kids) :
    good.goodKids bs d ks ↔ ∀ p ∈ ks, p.2.depth + 1 = d ∧ p.2.firstKey = some p.1 ∧ good bs p.2 := by
  induction ks with
  | nil => simp [good.goodKids]
  | cons p ps ih => simp [good.goodKids, ih, and_assoc]

theorem goodKids_append (bs d : Nat) (a b : Kids) :
    good.goodKids bs d (a ++ b) ↔ good.goodKids bs d a ∧ good.goodKids bs d b := by
  simp only [goodKids_iff, List.mem_append, or_imp]
  exact forall_and

theorem goodKids_take_drop (bs d : Nat) (ks : Kids) (n : Nat) (h : good.goodKids bs d ks) :
    good.goodKids bs d (ks.take n) ∧ good.goodKids bs d (ks.drop n) := by
  rw [← List.take_append_drop n ks, goodKids_append] at h
  exact h

mutual
theorem good_wf : ∀ (bs : Nat) (c : Node), good bs c → wf c
  | _, .leaf _ _ _, h => h.2.2.1
  | bs, .index _ _ d ks, h => ⟨h.2.2.1, goodKids_wfKids bs d ks h.2.2.2.2⟩
theorem goodKids_wfKids : ∀ (bs d : Nat) (ks : Kids), good.goodKids bs d ks → wf.wfKids ks
  | _, _, [], _ => trivial
  | bs, d, (_, c) :: ks, h => ⟨h.2.1, good_wf bs c h.2.2.1, goodKids_wfKids bs d ks h.2.2.2⟩
end

theorem disk_mem_treeBlocksKids {ks : Kids} {p : Nat × Node} (hp : p ∈ ks) : p.2.disk ∈ treeBlocksKids ks := by
  induction ks with
  | nil => cases hp
  | cons q qs ih =>
    obtain ⟨k, c⟩ := q
    simp only [treeBlocksKids, List.cons_append, List.mem_cons, List.mem_append]
    rcases List.mem_cons.mp hp with rfl | hp'
    · exact Or.inl rfl
    · exact Or.inr (Or.inr (ih hp'))

theorem lookupKey_last (init : Kids) (key : Nat) (c : Node) (h : ∀ p ∈ init, p.1 ≠ key) :
    lookupKey ((init ++ [(key, c)]).map fun p => (p.1, p.2.disk)) key = c.disk := by
  rw [lookupKey, List.map_append, List.find?_append,
    List.find?_eq_none.2 fun q hq => by obtain ⟨p, hp, rfl⟩ := List.mem_map.1 hq; simpa using h p hp]
  simp

theorem findDisk_last (init : Kids) (key : Nat) (c : Node) (h : ∀ p ∈ init, p.2.disk ≠ c.disk) :
    findDisk (init ++ [(key, c)]) c.disk = some init.length := by
  have hi := List.findIdx_eq_length_of_false (p := fun p : Nat × Node => p.2.disk == c.disk) (xs := init)
    fun p hp => by simpa using h p hp
  simp [findDisk, List.findIdx_append, hi, List.findIdx_cons]

theorem findChild_last (init : Kids) (key : Nat) (c : Node) (fb : Nat) (h : ∀ q ∈ init ++ [(key, c)], q.1 ≤ fb) :
    findChild ((init ++ [(key, c)]).map (·.1)) fb = some init.length := by
  rw [findChild_all_le _ _ fun k hk => by obtain ⟨q, hq, rfl⟩ := List.mem_map.1 hk; exact h q hq]
  simp

theorem writeBack_ok {pl : List (Nat × Nat)} {k self : Nat} (h : lookupKey pl k = self) (hs : self ≠ 0) :
    writeBack (some pl) (some k) self = .ok () := by
  simp [writeBack, h, hs]

theorem writeBack_parent {plist : Option (List (Nat × Nat))} {max disk bs : Nat} {kids kids' : Kids}
    (hroot : (plist = none ∧ disk = 0 ∧ max = 4 ∧ 3 ≤ nonRootMax bs) ∨
      (∃ pl k0, plist = some pl ∧ disk ≠ 0 ∧ (kids.head?.map (·.1)) = some k0 ∧ lookupKey pl k0 = disk))
    (hh : kids'.head?.map (·.1) = kids.head?.map (·.1)) :
    writeBack plist (kids'.head?.map (·.1)) disk = .ok () := by
  rcases hroot with ⟨rfl, _⟩ | ⟨pl, k0, rfl, hdz, hk, hl⟩
  · rfl
  · rw [hh, hk]; exact writeBack_ok hl hdz

/-- the three lookups of one step: findChildNode for a file block behind the file's extents, writeNodeToDisk's by
    key, extendLeafNode's by block number -/
theorem last_lookups {bs d : Nat} {init : Kids} {key : Nat} {c : Node} {a0 : Extent} {rest : List Extent}
    (hg : good.goodKids bs d (init ++ [(key, c)])) (hs : SortedFB (flattenKids (init ++ [(key, c)]) ++ a0 :: rest))
    (hnd : (treeBlocksKids (init ++ [(key, c)])).Nodup) :
    findChild ((init ++ [(key, c)]).map (·.1)) a0.fileBlock = some init.length ∧
    lookupKey ((init ++ [(key, c)]).map fun p => (p.1, p.2.disk)) key = c.disk ∧
    findDisk (init ++ [(key, c)]) c.disk = some init.length := by
  refine ⟨findChild_last init key c a0.fileBlock fun q hq => Nat.le_of_lt (keys_lt_of_sorted (goodKids_wfKids bs _ _ hg) hs hq),
    lookupKey_last init key c fun p hp => ?_, findDisk_last init key c fun p hp heq => ?_⟩
  · -- the keys before the last one are below it: the first file block of `c` lies behind all extents of `init`
    obtain ⟨hi, _, hk, hc, _⟩ := (goodKids_append bs d init _).mp hg
    obtain ⟨e, rest', he, hfb⟩ := firstKey_flatten c key (good_wf bs c hc) hk
    have hs' := hs.of_append_left
    simp only [flattenKids_append, flattenKids, he, List.append_nil] at hs'
    exact Nat.ne_of_lt (hfb ▸ keys_lt_of_sorted (goodKids_wfKids bs d init hi) hs' hp)
  · rw [treeBlocksKids_append] at hnd
    exact (List.nodup_append.mp hnd).2.2 _ (disk_mem_treeBlocksKids hp) c.disk (by simp [treeBlocksKids]) heq

theorem replace_last {bs d : Nat} {init new : Kids} {key : Nat} {c : Node} {taken : List Nat}
    (hg : good.goodKids bs d (init ++ [(key, c)])) (hn : good.goodKids bs d new) (hk : new.head?.map (·.1) = some key)
    (hp : (treeBlocksKids new).Perm (treeBlocksKids [(key, c)] ++ taken)) :
    init ++ new ≠ [] ∧ good.goodKids bs d (init ++ new) ∧
      (treeBlocksKids (init ++ new)).Perm (treeBlocksKids (init ++ [(key, c)]) ++ taken) ∧
      (init ++ new).head?.map (·.1) = (init ++ [(key, c)]).head?.map (·.1) := by
  have hne : new ≠ [] := by rintro rfl; cases hk
  refine ⟨by simp [hne], (goodKids_append ..).mpr ⟨((goodKids_append ..).mp hg).1, hn⟩, ?_, ?_⟩
  · rw [treeBlocksKids_append, treeBlocksKids_append, List.append_assoc]
    exact hp.append_left _
  · cases init with
    | nil => simpa using hk
    | cons p ps => rfl

theorem halves {α : Type} (l : List α) (h : 2 ≤ l.length) :
    ∃ x la eb lb, l.take (l.length / 2) = x :: la ∧ l.drop (l.length / 2) = eb :: lb ∧ l.head? = some x := by
  match l, h with
  | x :: y :: r, _ =>
    generalize hmid : (x :: y :: r).length / 2 = mid
    cases mid with
    | zero => simp only [List.length_cons] at hmid; omega
    | succ m' =>
      cases hdr : (x :: y :: r).drop (m' + 1) with
      | nil => rw [List.drop_eq_nil_iff] at hdr; omega
      | cons eb lb => exact ⟨x, _, eb, lb, List.take_succ_cons, rfl, rfl⟩

theorem splitLeaf_fwd {σ : Type} (A : Allocator σ) (s : σ) (bs disk : Nat) (x : Extent) (xs : List Extent)
    (hs : SortedFB (x :: xs)) (h2 : xs ≠ []) :
    ∃ la eb lb, x :: xs = (x :: la) ++ (eb :: lb) ∧ (x :: la).length = (x :: xs).length / 2 ∧
      (((x :: la).length > nonRootMax bs ∨ (eb :: lb).length > nonRootMax bs) ∧
          splitLeaf true A s bs disk (x :: xs) = .err .unsupported ∨
        ¬ ((x :: la).length > nonRootMax bs ∨ (eb :: lb).length > nonRootMax bs) ∧
          (A.take s (if disk = 0 then 2 else 1) = none ∧ splitLeaf true A s bs disk (x :: xs) = .err .nospace ∨
            ∃ b s', A.take s (if disk = 0 then 2 else 1) = some (b, s') ∧
              splitLeaf true A s bs disk (x :: xs) = .ok (.leaf (nonRootMax bs) (if disk = 0 then b else disk) (x :: la),
                .leaf (nonRootMax bs) (if disk = 0 then b + 1 else b) (eb :: lb), if disk = 0 then 2 else 1, s'))) := by
  obtain ⟨x', la, eb, lb, hta, htb, hx⟩ := halves (x :: xs) (by cases xs with | nil => exact absurd rfl h2 | cons y ys => simp)
  cases hx
  have hle : (x :: xs).length / 2 ≤ (x :: xs).length := Nat.div_le_self ..
  refine ⟨la, eb, lb, by rw [← hta, ← htb, List.take_append_drop], by rw [← hta, List.length_take, Nat.min_eq_left hle], ?_⟩
  rw [← hta, ← htb, List.length_take, List.length_drop, Nat.min_eq_left hle]
  unfold splitLeaf
  rw [sortFB_of_sorted _ hs]
  simp only [true_and]
  by_cases hov : (x :: xs).length / 2 > nonRootMax bs ∨ (x :: xs).length - (x :: xs).length / 2 > nonRootMax bs
  · exact Or.inl ⟨hov, if_pos hov⟩
  · rw [if_neg hov]
    refine Or.inr ⟨hov, ?_⟩
    cases A.take s (if disk = 0 then 2 else 1) with
    | none => exact Or.inl ⟨rfl, rfl⟩
    | some p => exact Or.inr ⟨p.1, p.2, rfl, if_neg hov⟩

/-- `splitIndex` on the root in the inode: its children, good and at least two, go into two index nodes in the two blocks
    taken -/
theorem splitIndex_root {σ : Type} (A : Allocator σ) (s : σ) {bs depth : Nat} {kids : Kids} (m : Nat)
    (hg : good.goodKids bs depth kids) (h2 : 2 ≤ kids.length)
    (hl : ¬ (kids.length / 2 > nonRootMax bs ∨ kids.length - kids.length / 2 > nonRootMax bs)) :
    match A.take s 2 with
    | none => splitIndex A s bs depth true kids m = .err .nospace
    | some (b, s') => ∃ ks, splitIndex A s bs depth true kids m = .ok (.index 4 0 (depth + 1) ks, m + 2, s') ∧
        ks.length = 2 ∧ (b ≠ 0 → good.goodKids bs (depth + 1) ks) ∧
        (treeBlocksKids ks).Perm (treeBlocksKids kids ++ [b, b + 1]) := by
  obtain ⟨⟨k1, n1⟩, r1, ⟨k2, n2⟩, r2, h1, h2', _⟩ := halves kids h2
  simp only [splitIndex, hl, if_false, if_true, h1, h2']
  cases A.take s 2 with
  | none => rfl
  | some p =>
    obtain ⟨b, s'⟩ := p
    dsimp only
    rw [mkRoot_two rfl rfl]
    refine ⟨_, rfl, rfl, fun hb => ?_, ?_⟩
    · have htd := goodKids_take_drop bs depth kids (kids.length / 2) hg
      have hl1 := congrArg List.length h1
      have hl2 := congrArg List.length h2'
      rw [List.length_take] at hl1
      rw [List.length_drop] at hl2
      rw [h1, h2'] at htd
      exact ⟨rfl, rfl, ⟨rfl, by omega, by simp, hb, htd.1⟩, rfl, rfl, ⟨rfl, by omega, by simp, by omega, htd.2⟩, trivial⟩
    · -- the two new blocks come first in `treeBlocks`, each in front of the children it holds
      have h1' : (b :: (treeBlocksKids ((k1, n1) :: r1) ++ ((b + 1) :: treeBlocksKids ((k2, n2) :: r2)))).Perm
          (b :: (b + 1) :: (treeBlocksKids ((k1, n1) :: r1) ++ treeBlocksKids ((k2, n2) :: r2))) :=
        List.Perm.cons b List.perm_middle
      rw [← treeBlocksKids_append, ← h1, ← h2', List.take_append_drop] at h1'
      have := h1'.trans (List.perm_append_comm (l₁ := [b, b + 1]) (l₂ := treeBlocksKids kids))
      simpa [treeBlocksKids, treeBlocks, Node.disk, h1, h2'] using this

/-- the two refusals of the repaired code (fix f6794f8), on the rightmost path of the tree (`n` extents are
    added, `fuel` = the depth of the node): the last leaf cannot take them and either its parent lives in a block
    and is full (only the root in the inode can be split), or the extents do not fit into two leaves -/
def refuses (bs n : Nat) : Nat → Node → Prop
  | _, .leaf _ _ _ => False
  | 0, .index _ _ _ _ => False
  | fuel + 1, .index max disk _ kids =>
    match kids.getLast? with
    | none => False
    | some (_, .leaf cmax _ cexts) =>
      cexts.length + n > cmax ∧
        ((disk ≠ 0 ∧ kids.length + 1 > max) ∨ (cexts.length + n) / 2 > nonRootMax bs ∨
          (cexts.length + n) - (cexts.length + n) / 2 > nonRootMax bs)
    | some (_, .index cmax cdisk cdepth ckids) => refuses bs n fuel (.index cmax cdisk cdepth ckids)

/-- `plist = none`: the root in the inode; else a node in block `disk` that its parent's pointers `plist` find by its
    first key.  The node comes back one level deeper only when the root was split; `3 ≤ nonRootMax bs`: its five children
    go 2 + 3 into two nodes in blocks. -/
theorem extendIx_good {σ : Type} (A : Allocator σ) (free : σ → Nat → Bool) (hA : AllocOK A free) (bs : Nat) :
    ∀ (fuel : Nat) (s : σ) (plist : Option (List (Nat × Nat))) (max disk : Nat) (kids : Kids) (a0 : Extent) (rest : List Extent),
    kids ≠ [] → kids.length ≤ max → good.goodKids bs fuel kids →
    ((plist = none ∧ disk = 0 ∧ max = 4 ∧ 3 ≤ nonRootMax bs) ∨
      (∃ pl k0, plist = some pl ∧ disk ≠ 0 ∧ (kids.head?.map (·.1)) = some k0 ∧ lookupKey pl k0 = disk)) →
    SortedFB (flattenKids kids ++ a0 :: rest) →
    (treeBlocksKids kids).Nodup →
    free s 0 = false →
    match extendIx true A bs fuel s plist max disk fuel kids (a0 :: rest) with
    | .ok (t', m, s') =>
      ∃ taken kids' depth', taken.length = m ∧ Took free s s' taken ∧ t' = .index max disk depth' kids' ∧
        kids' ≠ [] ∧ kids'.length ≤ max ∧ good.goodKids bs depth' kids' ∧
        (treeBlocksKids kids').Perm (treeBlocksKids kids ++ taken) ∧
        ((depth' = fuel ∧ kids'.head?.map (·.1) = kids.head?.map (·.1)) ∨ (plist = none ∧ depth' = fuel + 1))
    | .err .nospace => ∃ s0 n, A.take s0 n = none
    | .err .unsupported => refuses bs (rest.length + 1) fuel (.index max disk fuel kids)
    | _ => False := by
  intro fuel
  induction fuel with
  | zero =>
    intro s plist max disk kids a0 rest hne _ hg
    cases kids with
    | nil => exact absurd rfl hne
    | cons p ks => exact absurd hg.1 (Nat.succ_ne_zero _)
  | succ fuel ih =>
    intro s plist max disk kids a0 rest hne hlen hg hroot hs hnd hz
    obtain ⟨init, ⟨key, c⟩, rfl⟩ := (List.eq_nil_or_concat kids).resolve_left hne
    rw [List.concat_eq_append] at *
    obtain ⟨hfc, hlk, hfd⟩ := last_lookups hg hs hnd
    have hc := ((goodKids_append bs _ init _).mp hg).2
    simp only [good.goodKids, and_true] at hc
    obtain ⟨hcd, hck, hcg⟩ := hc
    have hiso : (plist.isNone ≠ (disk == 0)) = False := by
      rcases hroot with ⟨rfl, rfl, _⟩ | ⟨pl, k0, rfl, hdz, _⟩
      · simp
      · simp [hdz]
    have hget : (init ++ [(key, c)])[init.length]? = some (key, c) := by simp
    have hsc : SortedFB (flatten c ++ a0 :: rest) := by
      simp only [flattenKids_append, flattenKids, List.append_nil, List.append_assoc] at hs
      exact hs.of_append_right
    have hlen' : init.length + 1 ≤ max := by simpa using hlen
    cases c with
    | leaf cmax cdisk cexts =>
      simp only [good] at hcg
      obtain ⟨hcm, hcl, hcne, hcdz⟩ := hcg
      obtain ⟨e0, es, rfl⟩ := List.exists_cons_of_ne_nil hcne
      obtain rfl : e0.fileBlock = key := by simpa [Node.firstKey] using hck
      simp only [flatten] at hsc
      simp only [extendIx, hfc, hget, hiso, if_false, hcdz]
      by_cases hfit : (e0 :: es).length + (a0 :: rest).length ≤ cmax
      · -- appended in place
        obtain ⟨hne', hg', hp', hhd'⟩ := replace_last (new := [(e0.fileBlock, .leaf cmax cdisk (e0 :: (es ++ a0 :: rest)))])
          (taken := []) hg ⟨hcd, rfl, ⟨hcm, by simp only [List.length_append, List.length_cons] at hfit ⊢; omega, by simp, hcdz⟩, trivial⟩
          rfl (by simp [treeBlocksKids, treeBlocks, Node.disk])
        rw [if_pos hfit]
        simp only [Node.firstKey, List.cons_append, Option.getD_some]
        rw [writeBack_ok (self := cdisk) hlk hcdz]
        simp only [List.set_append_right _ _ (Nat.le_refl _), Nat.sub_self, List.set_cons_zero, List.length_append,
          List.length_cons, List.length_nil, Nat.not_lt.mpr hlen', if_false, writeBack_parent hroot hhd']
        exact ⟨[], _, _, rfl, Took.refl free s, rfl, hne', by simpa using hlen', hg', hp', Or.inl ⟨rfl, hhd'⟩⟩
      · -- the leaf is full: refused, or split
        simp only [hfit, if_false, true_and]
        by_cases hfull : disk ≠ 0 ∧ (init ++ [(e0.fileBlock, Node.leaf cmax cdisk (e0 :: es))]).length + 1 > max
        · rw [if_pos hfull]
          simp only [refuses, List.getLast?_concat, List.length_cons] at hfit ⊢
          exact ⟨by omega, Or.inl hfull⟩
        · rw [if_neg hfull]
          obtain ⟨la, eb, lb, hab, hmid, hsl⟩ := splitLeaf_fwd A s bs cdisk e0 (es ++ a0 :: rest) hsc (by simp)
          have hlen2 := congrArg List.length hab
          simp only [List.length_append, List.length_cons, hcdz, if_false] at hlen2 hmid hfit hfull hsl
          rw [List.cons_append]
          rcases hsl with ⟨hhalf, hsl⟩ | ⟨hhalf, ⟨htake, hsl⟩ | ⟨b1, s1, htake, hsl⟩⟩
          · rw [hsl]
            simp only [refuses, List.getLast?_concat, List.length_cons]
            exact ⟨by omega, Or.inr (by omega)⟩
          · rw [hsl]
            exact ⟨s, 1, htake⟩
          · have hb1 : b1 ≠ 0 := hA.ne_zero htake (by omega) hz
            have hT1 : Took free s s1 [b1] := hA.took htake
            obtain ⟨hne', hg', hp', hhd'⟩ := replace_last (taken := [b1])
              (new := [(e0.fileBlock, .leaf (nonRootMax bs) cdisk (e0 :: la)), (eb.fileBlock, .leaf (nonRootMax bs) b1 (eb :: lb))])
              hg ⟨hcd, rfl, ⟨rfl, by simp only [List.length_cons]; omega, by simp, hcdz⟩,
                hcd, rfl, ⟨rfl, by simp only [List.length_cons]; omega, by simp, hb1⟩, trivial⟩ rfl
              (by simp [treeBlocksKids, treeBlocks, Node.disk])
            have hdr : List.drop (init.length + 1) (init ++ [(e0.fileBlock, Node.leaf cmax cdisk (e0 :: es))]) = [] := by simp
            generalize hK : init ++ [(e0.fileBlock, Node.leaf (nonRootMax bs) cdisk (e0 :: la)),
                (eb.fileBlock, Node.leaf (nonRootMax bs) b1 (eb :: lb))] = kids' at hne' hg' hp' hhd'
            have hl' : kids'.length = init.length + 2 := by simp [← hK]
            have hnp : ¬ (¬ disk = 0 ∧ init.length + 2 > max) := by omega
            simp only [hsl, show findDisk _ cdisk = _ from hfd, Node.firstKey, ne_eq, not_true_eq_false, if_false,
              List.take_left' rfl, hdr, List.append_nil, hK, hl', hnp]
            by_cases hov : init.length + 2 > max
            · rw [if_pos hov]
              rcases hroot with ⟨rfl, rfl, rfl, hmx⟩ | ⟨pl, k0, _, hdz, _⟩
              · -- the fifth child of the root in the inode: the children go into two index nodes
                have hsi := splitIndex_root A s1 1 hg' (by omega) (by omega)
                rw [Option.isNone_none]
                cases htake2 : A.take s1 2 with
                | none => rw [htake2] at hsi; rw [hsi]; exact ⟨s1, 2, htake2⟩
                | some q =>
                  obtain ⟨b2, s2⟩ := q
                  rw [htake2] at hsi
                  obtain ⟨ks, hsi, hl2, hg2, hp2⟩ := hsi
                  rw [hsi]
                  exact ⟨[b1] ++ [b2, b2 + 1], _, _, rfl, hT1.trans (hA.took htake2), rfl, (by rintro rfl; cases hl2), by omega,
                    hg2 (hA.ne_zero htake2 (by omega) (hT1.zero hz)),
                    hp2.trans (by rw [← List.append_assoc]; exact hp'.append_right _), Or.inr ⟨rfl, rfl⟩⟩
              · omega
            · rw [if_neg hov]
              exact ⟨[b1], _, _, rfl, hT1, rfl, hne', by omega, hg', hp', Or.inl ⟨rfl, hhd'⟩⟩
    | index cmax cdisk cdepth ckids =>
      simp only [good] at hcg
      obtain ⟨hcm, hcl, hcne, hcdz, hckg⟩ := hcg
      obtain rfl : fuel = cdepth := by simpa [Node.depth] using hcd.symm
      obtain ⟨⟨k', c0⟩, ckr, rfl⟩ := List.exists_cons_of_ne_nil hcne
      obtain rfl : key = k' := by simpa [Node.firstKey] using hck.symm
      simp only [flatten] at hsc
      have hndc : (treeBlocksKids ((key, c0) :: ckr)).Nodup := by
        rw [treeBlocksKids_append] at hnd
        have := (List.nodup_append.mp hnd).2.1
        simp only [treeBlocksKids, treeBlocks, List.append_nil, List.cons_append] at this
        exact (List.nodup_cons.mp this).2
      have IH := ih s (some (List.map (fun p => (p.1, p.2.disk)) (init ++ [(key, Node.index cmax cdisk fuel ((key, c0) :: ckr))])))
        cmax cdisk ((key, c0) :: ckr) a0 rest (by simp) hcl hckg (Or.inr ⟨_, key, rfl, hcdz, rfl, hlk⟩) hsc hndc hz
      simp only [extendIx, hfc, hget, hiso, if_false, hcdz]
      generalize extendIx true A bs fuel s _ cmax cdisk fuel ((key, c0) :: ckr) (a0 :: rest) = r at IH ⊢
      cases r with
      | ok res =>
        obtain ⟨child', m, s1⟩ := res
        obtain ⟨taken, kids2, depth', hm, hT, rfl, hne2, hlen2, hg2, hperm2, ⟨hd', hhd2⟩ | ⟨hcontra, _⟩⟩ := IH
        · subst depth'
          obtain ⟨⟨k', n0⟩, kr, rfl⟩ := List.exists_cons_of_ne_nil hne2
          obtain rfl : key = k' := by simpa using hhd2.symm
          obtain ⟨hne', hg', hp', hhd'⟩ := replace_last (new := [(key, .index cmax cdisk fuel ((key, n0) :: kr))]) (taken := taken) hg
            ⟨hcd, rfl, ⟨hcm, hlen2, hne2, hcdz, hg2⟩, trivial⟩ rfl (by simpa [treeBlocksKids, treeBlocks, Node.disk] using hperm2)
          simp only [List.set_append_right _ _ (Nat.le_refl _), Nat.sub_self, List.set_cons_zero, List.length_append,
            List.length_cons, List.length_nil, Nat.not_lt.mpr hlen', if_false, writeBack_parent hroot hhd']
          exact ⟨taken, _, _, hm, hT, rfl, hne', by simpa using hlen', hg', hp', Or.inl ⟨rfl, hhd'⟩⟩
        · cases hcontra
      | err e =>
        cases e with
        | unsupported => simpa only [refuses, List.getLast?_concat] using IH
        | _ => exact IH
      | _ => exact IH

/-- the refusal of a call on a root that is a leaf: more extents than two leaves in blocks hold -/
def refusesLeaf (bs n : Nat) (exts : List Extent) : Prop :=
  4 < exts.length + n ∧ nonRootMax bs < exts.length + n ∧
    ((exts.length + n) / 2 > nonRootMax bs ∨ (exts.length + n) - (exts.length + n) / 2 > nonRootMax bs)

theorem extendRootLeaf_good {σ : Type} (A : Allocator σ) (free : σ → Nat → Bool) (hA : AllocOK A free) (bs : Nat)
    (s : σ) (exts added : List Extent) (hs : SortedFB (exts ++ added)) (hz : free s 0 = false) :
    match extendRootLeaf true A s bs 4 0 exts added with
    | .ok (t', m, s') =>
      ∃ taken, taken.length = m ∧ Took free s s' taken ∧ goodRoot bs t' ∧ treeBlocks t' = taken
    | .err .nospace => ∃ s0 n, A.take s0 n = none
    | .err .unsupported => refusesLeaf bs added.length exts
    | _ => False := by
  unfold extendRootLeaf
  have hlen : exts.length + added.length = (exts ++ added).length := List.length_append.symm
  simp only [refusesLeaf, hlen]
  generalize exts ++ added = all at *
  by_cases hfit : all.length ≤ 4
  · rw [if_pos hfit]
    exact ⟨[], rfl, Took.refl free s, ⟨rfl, rfl, hfit⟩, rfl⟩
  obtain _ | ⟨x, _ | ⟨y, ys⟩⟩ := all
  · exact absurd (Nat.zero_le _) hfit
  · exact absurd (by simp) hfit
  rw [if_neg hfit, sortFB_of_sorted _ hs]
  by_cases hone : (x :: y :: ys).length ≤ nonRootMax bs
  · -- promoteLeafToChild
    rw [if_pos hone]
    cases htake : A.take s 1 with
    | none => exact ⟨s, 1, htake⟩
    | some p =>
      obtain ⟨b, s1⟩ := p
      dsimp only
      rw [mkRoot_one rfl]
      exact ⟨[b], rfl, hA.took htake, ⟨rfl, rfl, by simp, by simp, rfl, rfl,
        ⟨rfl, hone, by simp, hA.ne_zero htake (by omega) hz⟩, trivial⟩, by simp [treeBlocks, treeBlocksKids, Node.disk]⟩
  · obtain ⟨la, eb, lb, hab, hmid, hsl⟩ := splitLeaf_fwd A s bs 0 x (y :: ys) hs (by simp)
    have hl := congrArg List.length hab
    simp only [List.length_append, List.length_cons, if_true] at hl hmid hone hfit hsl
    rw [if_neg (by simpa using hone)]
    rcases hsl with ⟨hhalf, hsl⟩ | ⟨hhalf, ⟨htake, hsl⟩ | ⟨b, s1, htake, hsl⟩⟩
    · rw [hsl]
      simp only [List.length_cons]
      exact ⟨by omega, by omega, by omega⟩
    · rw [hsl]
      exact ⟨s, 2, htake⟩
    · have hb : b ≠ 0 := hA.ne_zero htake (by omega) hz
      rw [hsl]
      dsimp only
      rw [mkRoot_two rfl rfl]
      exact ⟨[b, b + 1], rfl, hA.took htake, ⟨rfl, rfl, by simp, by simp, rfl, rfl,
        ⟨rfl, by simp only [List.length_cons]; omega, by simp, hb⟩, rfl, rfl,
        ⟨rfl, by simp only [List.length_cons]; omega, by simp, by omega⟩, trivial⟩,
        by simp [treeBlocks, treeBlocksKids, Node.disk]⟩

/-- what a file's tree and the allocator state have in common: the tree has the invariant, block 0 and the tree's
    node blocks are not free -/
structure StateInv {σ : Type} (free : σ → Nat → Bool) (bs : Nat) (s : σ) (t : Node) : Prop where
  tree : TreeInv bs t
  zero : free s 0 = false
  owned : ∀ b ∈ treeBlocks t, free s b = false

theorem stateInv_step {σ : Type} {free : σ → Nat → Bool} {bs : Nat} {s s' : σ} {t t' : Node} {taken : List Nat}
    (hI : StateInv free bs s t) (hT : Took free s s' taken) (hp : (treeBlocks t').Perm (treeBlocks t ++ taken))
    (hr : goodRoot bs t') (hs : SortedFB (flatten t')) : StateInv free bs s' t' := by
  refine ⟨⟨hr, hs, ?_⟩, hT.zero hI.zero, ?_⟩
  · rw [hp.nodup_iff, List.nodup_append]
    refine ⟨hI.tree.nodup, hT.1, ?_⟩
    intro a ha b hb hab
    subst hab
    have h1 := hI.owned a ha
    have h2 := hT.2.1 a hb
    rw [h1] at h2
    cases h2
  · intro b hb
    rw [hT.2.2 b]
    rcases List.mem_append.mp (hp.mem_iff.mp hb) with h | h
    · rw [hI.owned b h]; rfl
    · simp [h]

def refusesTop (bs n : Nat) : Node → Prop
  | .leaf _ _ exts => refusesLeaf bs n exts
  | .index max disk depth kids => refuses bs n depth (.index max disk depth kids)

/-- the extents / node blocks of a file that may have no tree yet -/
def oflat : Option Node → List Extent
  | none => []
  | some t => flatten t

def oblocks : Option Node → List Nat
  | none => []
  | some t => treeBlocks t

def OInv {σ : Type} (free : σ → Nat → Bool) (bs : Nat) (s : σ) : Option Node → Prop
  | none => free s 0 = false
  | some t => StateInv free bs s t

/-- a history of extendExtentTree calls on one file (each call adds the extents of one allocation); it stops at
    the first call that does not answer ok; the number is the sum of the metaBlocks the calls reported -/
def runExtends {σ : Type} (A : Allocator σ) (bs : Nat) : σ → Option Node → List (List Extent) → Res (σ × Option Node × Nat)
  | s, t, [] => .ok (s, t, 0)
  | s, t, a :: as =>
    match extend true A s bs t a with
    | .ok (t', m, s') =>
      match runExtends A bs s' (some t') as with
      | .ok (s2, t2, M) => .ok (s2, t2, m + M)
      | .err e => .err e
      | .panic => .panic
      | .weird => .weird
    | .err e => .err e
    | .panic => .panic
    | .weird => .weird

end Diskfs.Ext4.ExtTree
