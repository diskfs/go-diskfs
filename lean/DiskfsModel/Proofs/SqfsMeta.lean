/-
  Metadata reference arithmetic (Model/Sqfs/Meta.lean): the reference of the `k`-th item of a
  stream is (position / 8192, position % 8192), the position being the sum of the sizes before
  it; and the 8 KiB chunks of a stream from block `b` on, joined, are the stream from `b * 8192` on.
-/
import DiskfsModel.Model.Sqfs.Meta
namespace Diskfs.Sqfs

theorem inodeRefs_getD (sizes : List Nat) (p k : Nat) (hk : k < sizes.length) :
    (inodeRefs sizes p).getD k (0, 0) = ((p + (sizes.take k).sum) / metaBlock, (p + (sizes.take k).sum) % metaBlock) := by
  induction sizes generalizing p k with
  | nil => simp at hk
  | cons s r ih =>
    cases k with
    | zero => simp [inodeRefs]
    | succ k =>
      simp only [inodeRefs, List.getD_cons_succ, List.take_succ_cons, List.sum_cons]
      rw [ih (p + s) k (by simpa using hk), Nat.add_assoc]

theorem inodeRefs_length (sizes : List Nat) (p : Nat) : (inodeRefs sizes p).length = sizes.length := by
  induction sizes generalizing p with
  | nil => rfl
  | cons s r ih => simp [inodeRefs, ih]

theorem blockOffsets_length (l : List Nat) (p : Nat) : (blockOffsets l p).length = l.length := by
  induction l generalizing p with
  | nil => rfl
  | cons b r ih => simp [blockOffsets, ih]

theorem chunksOf_nil (n f : Nat) : chunksOf n f [] = [] := by cases f <;> rfl

theorem chunksOf_succ (n f : Nat) (s : Bytes) (h : s ≠ []) : chunksOf n (f + 1) s = s.take n :: chunksOf n f (s.drop n) := by
  cases s with
  | nil => exact absurd rfl h
  | cons _ _ => rfl

theorem chunksOf_drop_flatten (n : Nat) (hn : 0 < n) (b f : Nat) (s : Bytes) (hf : s.length ≤ f) :
    ((chunksOf n f s).drop b).flatten = s.drop (b * n) := by
  induction f generalizing b s with
  | zero => simp [List.eq_nil_of_length_eq_zero (Nat.le_zero.1 hf), chunksOf_nil]
  | succ f ih =>
    by_cases hs : s = []
    · simp [hs, chunksOf_nil]
    · have := List.length_pos_iff.2 hs
      have hd : (s.drop n).length ≤ f := by rw [List.length_drop]; omega
      rw [chunksOf_succ _ _ _ hs]
      cases b with
      | zero => simpa using congrArg (s.take n ++ ·) (ih 0 _ hd)
      | succ b => rw [List.drop_succ_cons, ih b _ hd, List.drop_drop, Nat.succ_mul, Nat.add_comm]

theorem chunksOf_ok (n : Nat) (hn : 0 < n) (f : Nat) (s : Bytes) : ∀ x ∈ chunksOf n f s, 0 < x.length ∧ x.length ≤ n := by
  induction f generalizing s with
  | zero => simp [chunksOf]
  | succ f ih =>
    by_cases hs : s = []
    · simp [hs, chunksOf_nil]
    · have := List.length_pos_iff.2 hs
      rw [chunksOf_succ _ _ _ hs]
      intro x hx
      rcases List.mem_cons.1 hx with rfl | hx
      · rw [List.length_take]; omega
      · exact ih _ x hx

theorem chunksOf_length (n : Nat) (hn : 0 < n) (f : Nat) (s : Bytes) (hf : s.length ≤ f) :
    (chunksOf n f s).length = (s.length + n - 1) / n := by
  induction f generalizing s with
  | zero => simp [List.eq_nil_of_length_eq_zero (Nat.le_zero.1 hf), chunksOf_nil, Nat.div_eq_of_lt (Nat.sub_lt hn Nat.one_pos)]
  | succ f ih =>
    by_cases hs : s = []
    · simp [hs, chunksOf_nil, Nat.div_eq_of_lt (Nat.sub_lt hn Nat.one_pos)]
    · have := List.length_pos_iff.2 hs
      rw [chunksOf_succ _ _ _ hs, List.length_cons, ih _ (by rw [List.length_drop]; omega), List.length_drop]
      by_cases hsn : s.length ≤ n
      · rw [Nat.div_eq_of_lt (by omega), Nat.div_eq_of_lt_le (k := 1) (by omega) (by omega)]
      · rw [show s.length + n - 1 = (s.length - n + n - 1) + n by omega, Nat.add_div_right _ hn]

theorem chunksOf_fuel (n : Nat) (hn : 0 < n) (f g : Nat) (s : Bytes) (hf : s.length ≤ f) (hg : s.length ≤ g) :
    chunksOf n f s = chunksOf n g s := by
  induction f generalizing g s with
  | zero => simp [List.eq_nil_of_length_eq_zero (Nat.le_zero.1 hf), chunksOf_nil]
  | succ f ih =>
    by_cases hs : s = []
    · simp [hs, chunksOf_nil]
    · have := List.length_pos_iff.2 hs
      obtain ⟨g, rfl⟩ : ∃ k, g = k + 1 := ⟨g - 1, by omega⟩
      rw [chunksOf_succ _ _ _ hs, chunksOf_succ _ _ _ hs, ih g _ (by rw [List.length_drop]; omega) (by rw [List.length_drop]; omega)]

end Diskfs.Sqfs
