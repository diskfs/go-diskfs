/-
  The Rock Ridge records of Model/MetaRR.lean and Model/MetaCodec.lean: 7- and 17-byte time stamps, the TF
  record built from them, the both-endian fields of PX, names cut into NM records.
-/
import DiskfsModel.Model.MetaRR
import DiskfsModel.Proofs.MetaCodec
import DiskfsModel.Proofs.Bytes
namespace Diskfs.Meta

theorem byteOfInt_toNat (i : Int) : ((byteOfInt i).toNat : Int) = i % 256 := by
  unfold byteOfInt
  rw [ofNat_toNat_of_lt _ (by omega)]
  omega

theorem int8_byteOfInt (i : Int) (h1 : -128 ≤ i) (h2 : i ≤ 127) : int8 (byteOfInt i).toNat = i := by
  have h := byteOfInt_toNat i
  unfold int8
  split <;> omega

theorem stamp7Dec_enc (s : Stamp) (h : Stamp7WF s) : stamp7Dec (stamp7Enc s) = stamp7Norm s := by
  obtain ⟨h1, h2, h3, h4, h5, h6, h7, h8, h9⟩ := h
  obtain ⟨y, mo, d, hh, mi, se, cs, off⟩ := s
  simp only at h1 h2 h3 h4 h5 h6 h7 h8 h9
  have hy := byteOfInt_toNat (y - 1900)
  simp only [stamp7Dec, stamp7Enc, stamp7Norm, List.getD_cons_zero, List.getD_cons_succ, Stamp.mk.injEq,
    ofNat_toNat_of_lt _ h3, ofNat_toNat_of_lt _ h4, ofNat_toNat_of_lt _ h5, ofNat_toNat_of_lt _ h6,
    ofNat_toNat_of_lt _ h7, int8_byteOfInt _ h8 h9, and_true]
  omega

theorem digit_toNat (n : Nat) : (digit n).toNat = 48 + n % 10 := by
  unfold digit; rw [ofNat_toNat_of_lt _ (by omega)]

theorem isDigit_digit (n : Nat) : isDigit (digit n) = true := by
  simp [isDigit, digit_toNat]; omega

theorem num_enc2 (n : Nat) (h : n < 100) : num (enc2 n) = n := by
  simp [num, enc2, digit_toNat]; omega

theorem first4_of_lt : ∀ (f y : Nat), y < 10000 → first4 f y = y := by
  intro f y h
  cases f with
  | zero => rfl
  | succ f => simp [first4, h]

theorem num_enc4 (y : Nat) (h : y < 10000) : num (enc4 y) = y := by
  simp [num, enc4, first4_of_lt y y h, digit_toNat]; omega

theorem stampLen_enc7 (s : Stamp) : (stamp7Enc s).length = 7 := rfl
theorem stampLen_enc17 (s : Stamp) : (stamp17Enc s).length = 17 := by
  simp [stamp17Enc, enc4, enc2]

theorem stamp17Enc_digits (s : Stamp) : ((stamp17Enc s).take 16).all isDigit = true := by
  simp [stamp17Enc, enc4, enc2, isDigit_digit]

theorem stamp17Enc_zone (s : Stamp) : (stamp17Enc s).getD 16 0 = byteOfInt (tzQuarters s.offset) := by
  simp [stamp17Enc, enc4, enc2]

theorem stamp17Dec_enc (s : Stamp) (h : Stamp17WF s) : stamp17Dec (stamp17Enc s) = some (stamp17Norm s) := by
  obtain ⟨h1, h2, h3, h4, h5, h6, h7, h8, h9, h10, h11, h12⟩ := h
  obtain ⟨y, mo, d, hh, mi, se, cs, off⟩ := s
  simp only at h1 h2 h3 h4 h5 h6 h7 h8 h9 h10 h11 h12
  have hyn : y.toNat < 10000 := by omega
  have hq := int8_byteOfInt (tzQuarters off) (by omega) (by omega)
  have l4 : ∀ n, (enc4 n).length = 4 := fun _ => rfl
  have l2 : ∀ n, (enc2 n).length = 2 := fun _ => rfl
  have hd31 : daysIn y.toNat mo ≤ 31 := by unfold daysIn; split <;> (try split) <;> omega
  unfold stamp17Dec
  rw [if_neg (by simp [stampLen_enc17]), stamp17Enc_digits, stamp17Enc_zone]
  -- each field is cut out of the concatenation by its offset and read back as the number it spells
  simp (disch := simp [l4, l2]) only [stamp17Enc, List.append_assoc, Bool.not_true, Bool.false_eq_true, if_false,
    slice_append_right, slice_append_hit, l4, l2, Nat.reduceSub, hq,
    num_enc4 _ hyn, num_enc2 _ (by omega : mo < 100), num_enc2 _ (by omega : d < 100),
    num_enc2 _ (by omega : hh < 100), num_enc2 _ (by omega : mi < 100), num_enc2 _ (by omega : se < 100),
    num_enc2 _ h10]
  rw [if_neg (by omega)]
  simp only [stamp17Norm, Option.some.injEq, Stamp.mk.injEq, and_true]
  omega

theorem encStamp_length (long : Bool) (s : Stamp) : (encStamp long s).length = stampLen long := by
  cases long <;> simp [encStamp, stampLen, stampLen_enc7, stampLen_enc17]

/-- what the chosen form of a TF stamp can hold -/
def StampWF (long : Bool) (s : Stamp) : Prop := if long then Stamp17WF s else Stamp7WF s
/-- what that form gives back -/
def stampNorm (long : Bool) (s : Stamp) : Stamp := if long then stamp17Norm s else stamp7Norm s

theorem decStamp_encStamp (long : Bool) (s : Stamp) (h : StampWF long s) :
    decStamp long (encStamp long s) = some (stampNorm long s) := by
  cases long
  · simp only [decStamp, encStamp, stampNorm, Bool.false_eq_true, if_false]
    rw [stamp7Dec_enc s h]
  · simp only [decStamp, encStamp, stampNorm, if_true]
    exact stamp17Dec_enc s h

theorem tfDecSlots_body (long : Bool) : ∀ (sl : List (Option Stamp)) (rest : Bytes),
    (∀ s, some s ∈ sl → StampWF long s) →
    tfDecSlots long sl.length (flagsOf sl) (tfBody long sl ++ rest) = some (sl.map (Option.map (stampNorm long))) := by
  intro sl
  induction sl with
  | nil => intro rest _; rfl
  | cons x r ih =>
    intro rest h
    have hr : ∀ s, some s ∈ r → StampWF long s := fun s hs => h s (List.mem_cons_of_mem _ hs)
    -- the kind's flag is the low bit of the flags; a stamp that is present is the first `stampLen` bytes of the body
    cases x with
    | none => simp [tfDecSlots, flagsOf, tfBody, ih rest hr]
    | some s =>
      have hl := encStamp_length long s
      have e2 : (1 + 2 * flagsOf r) / 2 = flagsOf r := by omega
      simp [tfDecSlots, flagsOf, tfBody, ← hl, e2, decStamp_encStamp long s (h s (List.mem_cons_self ..)), ih rest hr]

theorem flagsOf_lt (sl : List (Option Stamp)) : flagsOf sl < 2 ^ sl.length := by
  induction sl with
  | nil => simp [flagsOf]
  | cons x r ih => simp only [flagsOf, List.length_cons, Nat.pow_succ]; split <;> omega

theorem present_le (sl : List (Option Stamp)) : present sl ≤ sl.length := by
  induction sl with
  | nil => simp [present]
  | cons x r ih => simp only [present, List.length_cons]; split <;> omega

theorem tfBody_length (long : Bool) (sl : List (Option Stamp)) :
    (tfBody long sl).length = stampLen long * present sl := by
  induction sl with
  | nil => simp [tfBody, present]
  | cons x r ih =>
    cases x with
    | none => simp [tfBody, present, ih]
    | some s => simp [tfBody, present, ih, encStamp_length, Nat.mul_add]

theorem px_fields (p : Px) :
    slice (pxEnc p) 4 8 = leEnc 4 (pxModeEnc p.kind p.mode) ∧ slice (pxEnc p) 8 12 = beEnc 4 (pxModeEnc p.kind p.mode) ∧
    slice (pxEnc p) 12 16 = leEnc 4 p.links ∧ slice (pxEnc p) 16 20 = beEnc 4 p.links ∧
    slice (pxEnc p) 20 24 = leEnc 4 p.uid ∧ slice (pxEnc p) 24 28 = beEnc 4 p.uid ∧
    slice (pxEnc p) 28 32 = leEnc 4 p.gid ∧ slice (pxEnc p) 32 36 = beEnc 4 p.gid := by
  simp (disch := simp) only [pxEnc, both32, List.append_assoc, slice_append_right, slice_append_hit,
    leEnc_length, beEnc_length, List.length_cons, List.length_nil, Nat.reduceSub, Nat.reduceAdd, and_self]

theorem pxEnc_length (p : Px) : (pxEnc p).length = 44 := by simp [pxEnc, both32]

theorem pxModeEnc_lt (k : PxKind) (m : GoMode) (h : m.perm < 512) : pxModeEnc k m < 2 ^ 32 := by
  have h1 := unix_lt m h
  have h2 := pxKindCode_lt k
  unfold pxModeEnc; omega

theorem nmChunks_concat : ∀ (f : Nat) (name : Bytes), name.length < f →
    ((nmChunks f name).map Prod.snd).flatten = name := by
  intro f
  induction f with
  | zero => intro name h; omega
  | succ f ih =>
    intro name h
    simp only [nmChunks]
    split
    · rename_i he; simp [List.isEmpty_iff.1 he]
    · split
      · rename_i hl
        simp only [List.map_cons, List.flatten_cons]
        rw [ih (name.drop nmMax) (by simp [nmMax] at *; omega)]
        exact List.take_append_drop _ _
      · simp

theorem nmChunks_length_le : ∀ (f : Nat) (name : Bytes), ∀ c ∈ nmChunks f name, c.2.length ≤ nmMax := by
  intro f
  induction f with
  | zero => intro name c hc; simp [nmChunks] at hc
  | succ f ih =>
    intro name c hc
    simp only [nmChunks] at hc
    split at hc
    · simp at hc
    · split at hc
      · rcases List.mem_cons.1 hc with h | h
        · subst h; simp [nmMax]; omega
        · exact ih _ c h
      · rename_i hl
        simp at hc; subst hc; simp; omega

theorem nmDec_record (f : Nat) (c : Bool × Bytes) (rest : Bytes) (h : c.2.length ≤ nmMax) :
    nmDec (f + 1) (nmRecord c ++ rest) = c.2 ++ nmDec f rest := by
  obtain ⟨fl, nm⟩ := c
  have h : nm.length ≤ 249 := h
  have hn := ofNat_toNat_of_lt (5 + nm.length) (by omega)
  simp only [nmRecord, List.cons_append, List.nil_append, nmDec, List.length_cons, List.length_append,
    List.getD_cons_succ, List.getD_cons_zero, hn]
  -- the record is its five header bytes and the piece: the piece is sliced out, the rest follows it
  rw [if_neg (by omega), if_neg (by omega), Nat.add_comm 5]
  simp [slice]

theorem nmDec_records (cs : List (Bool × Bytes)) (f : Nat) (hf : cs.length < f)
    (hc : ∀ c ∈ cs, c.2.length ≤ nmMax) :
    nmDec f ((cs.map nmRecord).flatten) = (cs.map Prod.snd).flatten := by
  induction cs generalizing f with
  | nil => cases f <;> simp [nmDec]
  | cons c rest ih =>
    obtain ⟨f, rfl⟩ : ∃ g, f = g + 1 := ⟨f - 1, by omega⟩
    rw [List.map_cons, List.flatten_cons, nmDec_record f c _ (hc c (List.mem_cons_self ..)),
      ih f (by simp at hf; omega) fun x hx => hc x (List.mem_cons_of_mem _ hx)]
    rfl

end Diskfs.Meta
