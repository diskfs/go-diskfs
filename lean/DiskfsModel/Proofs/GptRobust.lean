/-
  The GPT reader as a total function of untrusted bytes: each of loadEntries, readPrimary, readBackup and Read is
  walked once, for what it may return (`Good`): panic freedom and allocation bounds of the repaired reader,
  provenance of the partitions any reader returns.
-/
import DiskfsModel.Proofs.GptTable
import DiskfsModel.Model.Mbr
namespace Diskfs.Gpt

theorem put_length' (b : Bytes) (off : Nat) (d : Bytes) (h : off + d.length ≤ b.length) :
    (put b off d).length = b.length := put_length b off d h

theorem readArr_no_panic (b : Bytes) (es lss : Nat) : (readArr b es lss).isPanic = false := by
  unfold readArr
  simp only [apply_ite Res.isPanic]
  simp only [Res.isPanic, ite_self]

/-- what loadEntries may return: with the entry-array bound check no panic and one allocation within the device and
    64 MiB; a table only with the decoding of a byte range inside the device that has the recorded CRC -/
theorem loadEntries_good (c : Cfg) (crc : Bytes → Nat) (d : Dev) (devSize : Nat) (t : Table) (lss : Nat) :
    (c.arrayBounded = true → (loadEntries c crc d devSize t lss).1.isPanic = false ∧
      ∀ a ∈ (loadEntries c crc d devSize t lss).2, 0 ≤ a ∧ a ≤ (devSize : Int) ∧ a ≤ maxArrayBytes) ∧
    ∀ t', (loadEntries c crc d devSize t lss).1 = .ok t' →
      ∃ off len, off + len ≤ devSize ∧ crc (readAt d off len) = t.arrCrc ∧
        readArr (readAt d off len) t.entSize lss = .ok t'.parts := by
  generalize hr : loadEntries c crc d devSize t lss = r
  unfold loadEntries at hr
  simp only at hr
  generalize toI64 (toI64 ↑t.firstLBA * ↑lss) = start at hr
  generalize toI64 (↑t.arrCount * ↑t.entSize) = size at hr
  -- refused before anything is allocated
  by_cases hb : (c.arrayBounded && (decide (start < 0) || decide (size < 0) || decide (size > maxArrayBytes) ||
      decide (start + size > (devSize : Int)))) = true
  · rw [if_pos hb] at hr; subst hr; exact ⟨fun _ => ⟨rfl, nofun⟩, nofun⟩
  rw [if_neg hb] at hr
  have hbound : c.arrayBounded = true → ∀ a ∈ [size], 0 ≤ a ∧ a ≤ (devSize : Int) ∧ a ≤ maxArrayBytes := by
    intro hc a ha
    simp only [hc, Bool.true_and, Bool.or_eq_true, decide_eq_true_eq, not_or, Int.not_lt] at hb
    rw [List.mem_singleton.1 ha]
    omega
  by_cases hm : size < 0 ∨ size > maxAlloc
  · rw [if_pos hm] at hr; subst hr
    refine ⟨fun hc => ?_, nofun⟩
    have := hbound hc size (List.mem_singleton_self _)
    have : maxArrayBytes ≤ maxAlloc := by decide
    omega
  rw [if_neg hm] at hr
  by_cases hst : start < 0
  · rw [if_pos hst] at hr; subst hr; exact ⟨fun hc => ⟨rfl, hbound hc⟩, nofun⟩
  rw [if_neg hst] at hr
  by_cases hdev : start ≥ (devSize : Int) ∨ start + size > (devSize : Int)
  · rw [if_pos hdev] at hr; subst hr; exact ⟨fun hc => ⟨rfl, hbound hc⟩, nofun⟩
  rw [if_neg hdev] at hr
  by_cases hcrc : t.arrCrc ≠ crc (readAt d start.toNat size.toNat)
  · rw [if_pos hcrc] at hr; subst hr; exact ⟨fun hc => ⟨rfl, hbound hc⟩, nofun⟩
  rw [if_neg hcrc] at hr
  have hnp := readArr_no_panic (readAt d start.toNat size.toNat) t.entSize lss
  cases hra : readArr (readAt d start.toNat size.toNat) t.entSize lss with
  | ok ps =>
    rw [hra] at hr; subst hr
    exact ⟨fun hc => ⟨rfl, hbound hc⟩, fun t' h => by
      cases h; exact ⟨start.toNat, size.toNat, by omega, (Decidable.not_not.1 hcrc).symm, hra⟩⟩
  | err e => rw [hra] at hr; subst hr; exact ⟨fun hc => ⟨rfl, hbound hc⟩, nofun⟩
  | panic s => rw [hra] at hnp; cases hnp


/-- bound used for every allocation request of the repaired reader -/
def AllocOk (devSize lss : Nat) (a : Int) : Prop := 0 ≤ a ∧ a ≤ (devSize : Int) + 2 * (lss : Int)

/-- `t` was loaded from a CRC-valid array: some byte range inside the device has the CRC32 that the
    header `h` records, `h` itself passed readGPTHeader (signature, revision, size, header CRC32) on a
    sector read from the device, and `t.parts` is the decoding of exactly those bytes -/
def FromValidArray (crc : Bytes → Nat) (d : Dev) (devSize lss : Nat) (t : Table) : Prop :=
  ∃ (hoff off len : Nat) (h : Hdr),
    readHeader crc (readAt d hoff lss) = .ok h ∧
    off + len ≤ devSize ∧ crc (readAt d off len) = h.arrCrc ∧
    readArr (readAt d off len) h.entSize lss = .ok t.parts

theorem tableOfHdr_fields (h : Hdr) (lss : Nat) (pm : Bool) :
    (tableOfHdr h lss pm).arrCrc = h.arrCrc ∧ (tableOfHdr h lss pm).entSize = h.entSize := ⟨rfl, rfl⟩

/-- what gpt.Read and its two halves may return, whatever the device holds: with the entry-array bound check
    (`arrayBounded`) no panic and every allocation within the device size plus two sectors; in any case a table only
    from a CRC-valid array under a header that passed readGPTHeader -/
structure Good (c : Cfg) (crc : Bytes → Nat) (d : Dev) (devSize lss : Nat) (r : Res Table × List Int) : Prop where
  safe : c.arrayBounded = true → 92 ≤ lss → r.1.isPanic = false ∧ ∀ a ∈ r.2, AllocOk devSize lss a
  prov : ∀ t, r.1 = .ok t → FromValidArray crc d devSize lss t

theorem Good.err {c : Cfg} {crc : Bytes → Nat} {d : Dev} {devSize lss : Nat} (e : Bool) (al : List Int)
    (h : ∀ a ∈ al, AllocOk devSize lss a) : Good c crc d devSize lss (.err e, al) :=
  ⟨fun _ _ => ⟨rfl, h⟩, nofun⟩

theorem readPrimary_good (c : Cfg) (crc : Bytes → Nat) (d : Dev) (devSize lss : Nat) :
    Good c crc d devSize lss (readPrimary c crc d devSize lss) := by
  have ha0 : AllocOk devSize lss ((lss * 2 : Nat) : Int) := by simp only [AllocOk]; omega
  have ha1 : ∀ a ∈ [((lss * 2 : Nat) : Int)], AllocOk devSize lss a := fun a ha => by
    rw [List.mem_singleton.1 ha]; exact ha0
  unfold readPrimary
  simp only
  split
  · exact .err _ _ ha1
  rw [sl_ok _ lss (lss * 2) _ (by omega) (by simp), slice_readAt d 0 (lss * 2) lss (lss * 2) (by omega) (by omega),
    Nat.zero_add, show lss * 2 - lss = lss by omega]
  simp only
  cases hr : readHeader crc (readAt d lss lss) with
  | panic s =>
    refine ⟨fun _ hl => ?_, nofun⟩
    have := readHeader_no_panic crc (readAt d lss lss) (by simp; omega)
    rw [hr] at this; cases this
  | err e => exact .err _ _ ha1
  | ok h =>
    simp only
    obtain ⟨hs, hp⟩ := loadEntries_good c crc d devSize
      (tableOfHdr h lss (readPMBR ((readAt d 0 (lss * 2)).take lss) (pmbrSectors c h.altLBA))) lss
    generalize loadEntries c crc d devSize _ lss = le at hs hp ⊢
    obtain ⟨r, al⟩ := le
    refine ⟨fun hc _ => ⟨(hs hc).1, fun a ha => ?_⟩, fun t ht => ?_⟩
    · rcases List.mem_cons.1 ha with rfl | ha
      · exact ha0
      · have := (hs hc).2 a ha
        simp only [AllocOk]; omega
    · obtain ⟨off, len, h1, h2, h3⟩ := hp t ht
      exact ⟨lss, off, len, h, hr, h1, h2, h3⟩

theorem readBackup_good (c : Cfg) (crc : Bytes → Nat) (d : Dev) (devSize lss secLBA : Nat) :
    Good c crc d devSize lss (readBackup c crc d devSize lss secLBA) := by
  have ha0 : AllocOk devSize lss (lss : Int) := by simp only [AllocOk]; omega
  have ha1 : ∀ a ∈ [(lss : Int)], AllocOk devSize lss a := fun a ha => by
    rw [List.mem_singleton.1 ha]; exact ha0
  unfold readBackup
  simp only
  split
  · exact .err _ _ ha1
  cases hr : readHeader crc (readAt d (toI64 ((secLBA : Int) * (lss : Int))).toNat lss) with
  | panic s =>
    refine ⟨fun _ hl => ?_, nofun⟩
    have := readHeader_no_panic crc (readAt d (toI64 ((secLBA : Int) * (lss : Int))).toNat lss) (by simp; omega)
    rw [hr] at this; cases this
  | err e => exact .err _ _ ha1
  | ok h =>
    simp only
    split
    · exact .err _ _ ha1
    generalize htt : tableOfHdr _ lss _ = tt
    obtain ⟨hs, hp⟩ := loadEntries_good c crc d devSize tt lss
    generalize loadEntries c crc d devSize tt lss = le at hs hp ⊢
    obtain ⟨r, al⟩ := le
    refine ⟨fun hc _ => ⟨?_, fun a ha => ?_⟩, fun t ht => ?_⟩
    · have := (hs hc).1
      cases r <;> (first | rfl | cases this)
    · rcases List.mem_cons.1 ha with rfl | ha
      · exact ha0
      rcases List.mem_cons.1 ha with rfl | ha
      · exact ha0
      · have := (hs hc).2 a ha
        simp only [AllocOk]; omega
    · cases r with
      | ok t2 =>
        cases ht
        obtain ⟨off, len, h1, h2, h3⟩ := hp t rfl
        subst htt
        exact ⟨_, off, len, h, hr, h1, h2, h3⟩
      | err e => cases ht
      | panic s => cases ht

theorem read_good (c : Cfg) (crc : Bytes → Nat) (d : Dev) (devSize lss : Nat) :
    Good c crc d devSize lss (read c crc d devSize lss) := by
  have hp := readPrimary_good c crc d devSize lss
  unfold read
  split
  · rename_i t al heq; rwa [heq] at hp
  · rename_i s al heq; rwa [heq] at hp
  · rename_i al heq; rwa [heq] at hp
  · rename_i al heq; rw [heq] at hp
    have hpa := fun hc hl => (hp.safe hc hl).2
    split
    · exact ⟨fun hc hl => ⟨rfl, hpa hc hl⟩, nofun⟩
    · have hb := readBackup_good c crc d devSize lss (u64sub (devSize / lss) 1)
      generalize readBackup c crc d devSize lss (u64sub (devSize / lss) 1) = rb at hb ⊢
      obtain ⟨r, al2⟩ := rb
      refine ⟨fun hc hl => ?_, fun t ht => ?_⟩
      · obtain ⟨h1, h2⟩ := hb.safe hc hl
        refine ⟨by cases r <;> (first | rfl | cases h1), ?_⟩
        have : ∀ a ∈ al ++ al2, AllocOk devSize lss a := fun a ha =>
          (List.mem_append.1 ha).elim (hpa hc hl a) (h2 a)
        cases r <;> exact this
      · cases r with
        | ok t2 => cases ht; exact hb.prov t2 rfl
        | err e => cases ht
        | panic s => cases ht

/-- gpt.Read with the entry-array bound check never panics, whatever the device holds, and every
    `make([]byte, n)` it issues has 0 ≤ n ≤ device size + 2 sectors -/
theorem read_fixed (c : Cfg) (hc : c.arrayBounded = true) (crc : Bytes → Nat) (d : Dev) (devSize lss : Nat)
    (hlss : 92 ≤ lss) :
    (read c crc d devSize lss).1.isPanic = false ∧
    ∀ a ∈ (read c crc d devSize lss).2, AllocOk devSize lss a :=
  (read_good c crc d devSize lss).safe hc hlss

/-- header fields of the witness that, as found, the entry-array size is not checked: 2^32-1 entries of 128 bytes -/
def cexHuge : Hdr := { myLBA := 1, altLBA := 2047, firstData := 34, lastData := 2014, guid := [], arrLBA := 2,
                       count := 4294967295, entSize := 128, arrCrc := 0 }

/-- 2^32-1 entries of 2^32-1 bytes: the product is negative as a Go int -/
def cexNeg : Hdr := { cexHuge with entSize := 4294967295 }

theorem cex_alloc_unbounded (crc : Bytes → Nat) (d : Dev) (pm : Bool) :
    (loadEntries Cfg.asFound crc d 1048576 (tableOfHdr cexHuge 512 pm) 512).2 = [549755813760] := by
  simp [loadEntries, tableOfHdr, cexHuge, Cfg.asFound, toI64, two64, two63, maxAlloc]

theorem cex_negative_panics (crc : Bytes → Nat) (d : Dev) (pm : Bool) :
    (loadEntries Cfg.asFound crc d 1048576 (tableOfHdr cexNeg 512 pm) 512).1.isPanic = true := by
  simp [loadEntries, tableOfHdr, cexNeg, cexHuge, Cfg.asFound, toI64, two64, two63, maxAlloc, Res.isPanic]

theorem cex_repaired (crc : Bytes → Nat) (d : Dev) (pm : Bool) :
    loadEntries Cfg.fixed crc d 1048576 (tableOfHdr cexHuge 512 pm) 512 = (.err true, []) ∧
    loadEntries Cfg.fixed crc d 1048576 (tableOfHdr cexNeg 512 pm) 512 = (.err true, []) := by
  constructor
  · simp [loadEntries, tableOfHdr, cexHuge, Cfg.fixed, toI64, two64, two63, maxArrayBytes]
  · simp [loadEntries, tableOfHdr, cexNeg, cexHuge, Cfg.fixed, toI64, two64, two63, maxArrayBytes]

end Diskfs.Gpt
