/-
  The composition under the limits of the format itself (`WTree.Limits`: a volume of up to 2^32
  blocks, every file below 4 GiB) instead of "the whole image below 4 GiB": directory extents and the
  path table are bounded by the number of their entries.
-/
import DiskfsModel.Proofs.IsoCompose
namespace Diskfs.Iso

section
variable (w : WTree) (order : Nat → List Nm) (fin : Nat → Nat → Nm) (bs : Nat) (o : Order)

theorem dsize_le (hbs : 0 < bs) (hok : w.OK o) (hr : w.Resolved order fin) (d : Nat) (hd : d < w.n) :
    w.dsize fin bs d ≤ 96 * ((w.kids d).length + 2) := by
  -- a record is 33 bytes, an identifier of at most 14 and a pad byte
  have h48 : ∀ x ∈ ((w.ptree fin (fun _ => 0) (fun _ => 0)).dirRecs d).map encodeRec, x.length ≤ 48 := by
    intro x hx
    obtain ⟨r, hrm, rfl⟩ := List.mem_map.1 hx
    have hpad : (recPad r.name.length).length ≤ 1 := by unfold recPad; split <;> simp
    have hfit : r.date.length = 7 ∧ r.name.length ≤ 14 := by
      simp only [PTree.dirRecs, List.mem_cons, List.mem_map] at hrm
      rcases hrm with rfl | rfl | ⟨c, hc, rfl⟩
      · exact ⟨hok.date7 d hd, Nat.le_of_ble_eq_true rfl⟩
      · exact ⟨hok.date7 _ (hok.parLt d hd), Nat.le_of_ble_eq_true rfl⟩
      · exact ⟨hok.date7 c (hok.kidsLt d hd c hc), ident_le hok hr c (hok.kidsLt d hd c hc)⟩
    rw [encodeRec_length_eq]
    omega
  have := encSuffix_length_le bs hbs 48 _ h48 0
  simp only [PTree.dirRecs, List.length_cons, List.length_map] at this
  exact Nat.le_trans this (by show ((w.kids d).length + 1 + 1) * (48 + 48) ≤ _; omega)

/-- block count and file size are limited by the 32-bit fields of the format; the entry counts keep a
    directory extent (`dsize_le`: 96 bytes an entry) and the path table (23 bytes a record) below 2^32 bytes -/
structure WTree.Limits (o : Order) : Prop where
  total : w.total fin bs o < 2 ^ 32
  files : ∀ f ∈ o.files, (w.content f).length < 2 ^ 32
  kids : ∀ d ∈ o.dirs, (w.kids d).length + 2 ≤ 2 ^ 25
  ptLen : o.pt.length ≤ 2 ^ 27
  ptIn : ∀ d ∈ o.pt, d < w.n

end

section
variable {w : WTree} {order : Nat → List Nm} {fin : Nat → Nat → Nm} {bs : Nat} {o : Order}

/-- what `compose_reader` asks for, from the limits of the format -/
theorem small_of_limits (hbs : 0 < bs) (hok : w.OK o) (hr : w.Resolved order fin) (hlim : w.Limits fin bs o) :
    w.Fits32 fin bs o := by
  refine ⟨hlim.total, fun c hc => ?_, ?_⟩
  · unfold WTree.size
    cases hcd : w.isDir c
    · exact hlim.files c ((hok.filesOK c).2 ⟨hc, hcd⟩)
    · have h1 := dsize_le w order fin bs o hbs hok hr c hc
      have h2 := hlim.kids c ((hok.dirsOK c).2 ⟨hc, hcd⟩)
      rw [if_pos rfl]
      omega
  · have := encodePtTable_length_le false (w.ptRecs fin (w.loc fin bs o) o.pt) 14 (by
      intro r hrm
      obtain ⟨d, hd, rfl⟩ := List.mem_map.1 hrm
      exact ident_le hok hr d (hlim.ptIn d hd))
    have hpl := hlim.ptLen
    rw [show (w.ptRecs fin (w.loc fin bs o) o.pt).length = o.pt.length from List.length_map ..] at this
    omega

end

end Diskfs.Iso
