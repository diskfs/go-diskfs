/-
  C09, flat layer, any geometry: the flat device seen as the record of the five regions `Table.Write`
  touches (`viewOf d g p`, the entry array cut into `p` sectors).  When the array does not end on a sector
  boundary (30 entries on 512-byte sectors, 4 entries on 4096-byte sectors) its last sector is PARTIAL: a
  torn write persists, for every kept sector index, the bytes of the array that lie in that sector, which
  is how `tornPieces` cuts a write.  So a sector subset of an in-flight array write is `mix keep new old`
  of the record level for every array length, and every crash state of the five synced writes is a
  record-level `Crash` state (`crash_view`).
  A name ending in `G` is the any-geometry form of what Proofs/GptCrashStd.lean has for the 512/4096 layout
  (`sectors` / `sectorsG`, `toDisk` / `toDiskG`, `PStd` / `PStdG`, …).
-/
import DiskfsModel.Proofs.GptGeom
import DiskfsModel.Proofs.GptCrash
namespace Diskfs.Gpt

theorem take_drop_getD (l : Bytes) (a n k : Nat) (hk : k < n) : ((l.drop a).take n).getD k 0 = l.getD (a + k) 0 := by
  rw [List.getD_eq_getElem?_getD, List.getElem?_take_of_lt hk, List.getElem?_drop, ← List.getD_eq_getElem?_getD]

/-- the `i`-th sector-sized piece of a write -/
def piece (lss : Nat) (w : Wr) (i : Nat) : Wr := ⟨w.off + i * lss, (w.data.drop (i * lss)).take lss⟩

theorem tornPieces_eq (lss : Nat) (w : Wr) (keep : Nat → Bool) :
    tornPieces lss w keep = (List.range ((w.data.length + lss - 1) / lss)).filterMap
      fun i => if keep i then some (piece lss w i) else none := rfl

theorem mem_tornPieces (lss : Nat) (w : Wr) (keep : Nat → Bool) (p : Wr) :
    p ∈ tornPieces lss w keep ↔ ∃ i, i < (w.data.length + lss - 1) / lss ∧ keep i = true ∧ p = piece lss w i := by
  simp only [tornPieces_eq, List.mem_filterMap, List.mem_range]
  constructor
  · rintro ⟨i, hi, h⟩
    cases hk : keep i <;> simp [hk] at h
    exact ⟨i, hi, hk, h.symm⟩
  · rintro ⟨i, hi, hk, h⟩
    exact ⟨i, hi, by simp [hk, h]⟩

theorem piece_covers (lss : Nat) (hl : 0 < lss) (w : Wr) (i j : Nat) :
    (piece lss w i).off ≤ j ∧ j < (piece lss w i).off + (piece lss w i).data.length ↔
      w.off ≤ j ∧ j < w.off + w.data.length ∧ (j - w.off) / lss = i := by
  simp only [piece, List.length_take, List.length_drop, Nat.div_eq_iff hl]
  omega

theorem tornPieces_pairwise (lss : Nat) (w : Wr) (keep : Nat → Bool) : (tornPieces lss w keep).Pairwise Wr.Disj := by
  rw [tornPieces_eq]
  refine List.Pairwise.filterMap _ ?_ (List.pairwise_lt_range (n := (w.data.length + lss - 1) / lss))
  intro i j hij a ha b hb
  cases hki : keep i <;> cases hkj : keep j <;> simp only [hki, hkj, if_true, Bool.false_eq_true, if_false, Option.some.injEq, reduceCtorEq] at ha hb
  subst ha hb
  have : i * lss + lss ≤ j * lss := Nat.succ_mul i lss ▸ Nat.mul_le_mul_right lss hij
  simp only [Wr.Disj, piece, List.length_take, List.length_drop]
  omega

theorem torn_byte (d : Dev) (lss : Nat) (hl : 0 < lss) (w : Wr) (keep : Nat → Bool) (j : Nat) :
    applyWrs d (tornPieces lss w keep) j =
      if w.off ≤ j ∧ j < w.off + w.data.length ∧ keep ((j - w.off) / lss) = true then w.data.getD (j - w.off) 0
      else d j := by
  split
  · next h =>
    obtain ⟨h1, h2, h3⟩ := h
    -- the piece of sector `(j - w.off) / lss` is among those written, and covers `j`
    have hc := (piece_covers lss hl w _ j).2 ⟨h1, h2, rfl⟩
    have hdiv := Nat.div_mul_le_self (j - w.off) lss
    have hm : piece lss w ((j - w.off) / lss) ∈ tornPieces lss w keep :=
      (mem_tornPieces lss w keep _).2 ⟨_, (Nat.lt_div_iff_mul_lt hl).2 (by omega), h3, rfl⟩
    have hb := dev_of_readAt _ _ _ _ (readAt_applyWrs_mem d _ (tornPieces_pairwise lss w keep) _ hm)
      (j - (piece lss w ((j - w.off) / lss)).off) (by omega)
    rw [Nat.add_sub_cancel' hc.1] at hb
    simp only [piece] at hb hc
    rw [hb, take_drop_getD _ _ _ _ (by simp only [List.length_take] at hc; omega)]
    congr 1
    omega
  · next h =>
    apply applyWrs_frame
    intro q hq
    obtain ⟨i, _, hk, rfl⟩ := (mem_tornPieces lss w keep q).1 hq
    have hc := piece_covers lss hl w i j
    by_cases hin : (piece lss w i).off ≤ j ∧ j < (piece lss w i).off + (piece lss w i).data.length
    · obtain ⟨a, b, rfl⟩ := hc.1 hin
      exact absurd ⟨a, b, hk⟩ h
    · omega

theorem torn_secs (d : Dev) (lss : Nat) (hl : 0 < lss) (w : Wr) (keep : Nat → Bool) (i m : Nat) (hm : m ≤ lss) :
    readAt (applyWrs d (tornPieces lss w keep)) (w.off + i * lss) m =
      if keep i then readAt (applyWr d w) (w.off + i * lss) m else readAt d (w.off + i * lss) m := by
  have key : ∀ k, w.off + i * lss ≤ k → k < w.off + i * lss + m →
      applyWrs d (tornPieces lss w keep) k = if keep i then applyWr d w k else d k := by
    intro k h1 h2
    rw [torn_byte d lss hl w keep, (Nat.div_eq_iff hl).2 (by omega : i * lss ≤ k - w.off ∧ k - w.off ≤ i * lss + lss - 1)]
    cases keep i <;> simp [applyWr]
  cases hk : keep i <;> simp only [hk, Bool.false_eq_true, if_false, if_true] at key ⊢ <;> exact readAt_congr _ _ _ _ key

theorem torn_miss (d : Dev) (lss : Nat) (hl : 0 < lss) (w : Wr) (keep : Nat → Bool) (off len : Nat)
    (h : off + len ≤ w.off ∨ w.off + w.data.length ≤ off) :
    readAt (applyWrs d (tornPieces lss w keep)) off len = readAt d off len := by
  apply readAt_congr
  intro k h1 h2
  rw [torn_byte d lss hl w keep, if_neg (by omega)]

theorem torn_read (d : Dev) (lss n : Nat) (hl : 0 < lss) (w : Wr) (hlen : w.data.length = n * lss) (keep : Nat → Bool)
    (i : Nat) (hi : i < n) :
    readAt (applyWrs d (tornPieces lss w keep)) (w.off + i * lss) lss =
      if keep i then slice w.data (i * lss) (i * lss + lss) else readAt d (w.off + i * lss) lss := by
  have h : i * lss + lss ≤ w.data.length := hlen ▸ Nat.succ_mul i lss ▸ Nat.mul_le_mul_right lss hi
  have e := slice_readAt (applyWr d w) w.off w.data.length (i * lss) (i * lss + lss) (by omega) h
  rw [readAt_applyWr_same, Nat.add_sub_cancel_left] at e
  rw [torn_secs d lss hl w keep i lss (Nat.le_refl _), e]

theorem torn_single (lss : Nat) (w : Wr) (keep : Nat → Bool) (h1 : 0 < w.data.length) (h2 : w.data.length ≤ lss) :
    tornPieces lss w keep = if keep 0 then [w] else [] := by
  have hc : (w.data.length + lss - 1) / lss = 1 := (Nat.div_eq_iff (by omega)).2 (by omega)
  have hp : piece lss w 0 = w := by
    simp only [piece, Nat.zero_mul, Nat.add_zero, List.drop_zero, List.take_of_length_le h2]
  rw [tornPieces_eq, hc]
  cases hk : keep 0 <;> simp [hp, hk]

theorem torn_atomic (d : Dev) (lss : Nat) (w : Wr) (keep : Nat → Bool) (h1 : 0 < w.data.length) (h2 : w.data.length ≤ lss) :
    applyWrs d (tornPieces lss w keep) = d ∨ applyWrs d (tornPieces lss w keep) = applyWr d w := by
  rw [torn_single lss w keep h1 h2]
  cases keep 0
  · exact Or.inl rfl
  · exact Or.inr rfl

theorem torn_all (d : Dev) (lss : Nat) (hl : 0 < lss) (w : Wr) :
    applyWrs d (tornPieces lss w fun _ => true) = applyWr d w := by
  funext j
  rw [torn_byte d lss hl w, applyWr]
  simp

theorem crashDev_zero (d : Dev) (lss : Nat) (w : Wr) (ws : List Wr) (keep : Nat → Bool) :
    crashDev d lss (w :: ws) 0 keep = applyWrs d (tornPieces lss w keep) := rfl

theorem crashDev_succ (d : Dev) (lss : Nat) (w : Wr) (ws : List Wr) (k : Nat) (keep : Nat → Bool) :
    crashDev d lss (w :: ws) (k + 1) keep = crashDev (applyWr d w) lss ws k keep := rfl

theorem crashDev_nil (d : Dev) (lss k : Nat) (keep : Nat → Bool) : crashDev d lss [] k keep = d := by
  simp [crashDev, applyWrs]

end Diskfs.Gpt

namespace Diskfs.GptCrash
open Diskfs Diskfs.Gpt

/-- sector size, entry count, LBA of the primary array / the backup array / the backup header -/
structure Geo where
  lss : Nat
  n : Nat
  aP : Nat
  aB : Nat
  hB : Nat
deriving Repr, DecidableEq

/-- bytes of the entry array -/
def Geo.ab (g : Geo) : Nat := g.n * 128

/-- sectors of the entry array, rounded up -/
def Geo.p (g : Geo) : Nat := (g.n * 128 + g.lss - 1) / g.lss

/-- the five regions in order, without overlap, inside a device of `size` bytes whose last LBA is the
    backup header's (where gpt.Read's fallback looks) -/
structure Geo.OK (g : Geo) (size : Nat) : Prop where
  h512 : 512 ≤ g.lss
  hn : 1 ≤ g.n
  hmax : g.n * 128 ≤ 67108864
  e0 : 2 ≤ g.aP
  e1 : g.aP + g.p ≤ g.aB
  e2 : g.aB + g.p ≤ g.hB
  e3 : g.hB = size / g.lss - 1
  hsz : size < two63

/-- the geometry an initialised table carries -/
def geoOf (t : Table) : Geo := ⟨t.lss, t.arrCount, 2, t.secondaryHeader - partSectorsUp t, t.secondaryHeader⟩

theorem geoOf_ok (t : Table) (size : Nat) (hg : GeomWF t size) :
    (geoOf t).OK size ∧ (geoOf t).p = partSectorsUp t ∧ (geoOf t).ab = arrBytes t := by
  have hp := partSectorsUp_eq t size hg
  have hpp : (geoOf t).p = partSectorsUp t := by rw [hp]; rfl
  have h4 := hg.fits
  refine ⟨⟨hg.lss, hg.cnt, hg.cntMax, Nat.le_refl 2, ?_, ?_, hg.sh, hg.hsz⟩, hpp, rfl⟩
  · rw [hpp]; show 2 + partSectorsUp t ≤ t.secondaryHeader - partSectorsUp t; rw [hg.sh]; omega
  · rw [hpp]; show t.secondaryHeader - partSectorsUp t + partSectorsUp t ≤ t.secondaryHeader; rw [hg.sh]; omega

/-- the byte-level layout of the five regions when the arrays are cut into `p` sectors: the array ends in
    its last sector, and the regions lie in order without overlap -/
structure Lay (g : Geo) (p : Nat) : Prop where
  h512 : 512 ≤ g.lss
  a1 : g.ab ≤ p * g.lss
  a2 : p * g.lss < g.ab + g.lss
  b0 : 2 * g.lss ≤ g.aP * g.lss
  b1 : g.aP * g.lss + p * g.lss ≤ g.aB * g.lss
  b2 : g.aB * g.lss + p * g.lss ≤ g.hB * g.lss

theorem lay_of {g : Geo} {size : Nat} (G : g.OK size) : Lay g g.p := by
  have h512 := G.h512
  obtain ⟨c1, c2⟩ := ceil_facts (g.n * 128) g.lss (by omega)
  have m0 : 2 * g.lss ≤ g.aP * g.lss := Nat.mul_le_mul_right _ G.e0
  have m1 : (g.aP + g.p) * g.lss ≤ g.aB * g.lss := Nat.mul_le_mul_right _ G.e1
  have m2 : (g.aB + g.p) * g.lss ≤ g.hB * g.lss := Nat.mul_le_mul_right _ G.e2
  rw [Nat.add_mul] at m1 m2
  exact ⟨h512, c1, c2, m0, m1, m2⟩

theorem fit_of {g : Geo} {size : Nat} (G : g.OK size) : g.hB * g.lss + g.lss ≤ size ∧ 3 ≤ size / g.lss := by
  have ⟨h512, _, _, e0, e1, e2, e3, _⟩ := G
  have m3 : (g.hB + 1) * g.lss ≤ size / g.lss * g.lss := Nat.mul_le_mul_right _ (by omega)
  have hmul : size / g.lss * g.lss ≤ size := Nat.div_mul_le_self _ _
  rw [Nat.add_mul] at m3
  omega

/-- bytes of the array that lie in its sector `i` -/
def secLen (lss ab i : Nat) : Nat := min lss (ab - i * lss)

/-- sector by sector, the `ab` bytes at `off` -/
def secs (d : Dev) (lss ab p off : Nat) : Fin p → Bytes := fun i => readAt d (off + i.val * lss) (secLen lss ab i.val)

/-- the sectors of an array that is about to be written -/
def sectorsG (lss ab p : Nat) (a : Bytes) : Fin p → Bytes :=
  fun i => slice a (i.val * lss) (i.val * lss + secLen lss ab i.val)

def toDiskG (d : Dev) (g : Geo) : Disk Bytes g.p :=
  { mbr := readAt d 0 g.lss, ph := readAt d g.lss g.lss,
    pa := secs d g.lss g.ab g.p (g.aP * g.lss),
    ba := secs d g.lss g.ab g.p (g.aB * g.lss),
    bh := readAt d (g.hB * g.lss) g.lss }

/-- `toDiskG` with the number of array sectors as a parameter of its own: `toDiskG d g` is `viewOf d g g.p` by
    unfolding.  `toDiskG` is what the statements of Props/C09 are written in; the lemmas are about `viewOf` because
    the view of the 512/4096 layout, `toDisk`, has `Fin (16384 / lss)` for its sectors, which is `Fin g.p` only up
    to a proved equation: with `p` free both are instances and no cast is needed. -/
def viewOf (d : Dev) (g : Geo) (p : Nat) : Disk Bytes p :=
  { mbr := readAt d 0 g.lss, ph := readAt d g.lss g.lss,
    pa := secs d g.lss g.ab p (g.aP * g.lss),
    ba := secs d g.lss g.ab p (g.aB * g.lss),
    bh := readAt d (g.hB * g.lss) g.lss }

/-- the first `ab` bytes of an array given sector by sector -/
def asm (lss ab : Nat) {p : Nat} (a : Fin p → Bytes) : Bytes :=
  (List.range ab).map fun j => if h : j / lss < p then (a ⟨j / lss, h⟩).getD (j % lss) 0 else 0

/-- the sectors of an array, concatenated -/
def join {n : Nat} (a : Fin n → Bytes) : Bytes :=
  (List.range n).flatMap fun i => if h : i < n then a ⟨i, h⟩ else []

section sectors
variable {g : Geo} {p : Nat}

theorem sec_in (L : Lay g p) (i : Fin p) :
    i.val * g.lss < g.ab ∧ i.val * g.lss + secLen g.lss g.ab i.val ≤ g.ab ∧ secLen g.lss g.ab i.val ≤ g.lss ∧
    i.val * g.lss + g.lss ≤ p * g.lss := by
  have h1 : i.val * g.lss + g.lss ≤ p * g.lss := Nat.succ_mul i.val g.lss ▸ Nat.mul_le_mul_right g.lss i.isLt
  have a2 := L.a2
  unfold secLen
  omega

theorem asm_secs (L : Lay g p) (d : Dev) (off : Nat) :
    asm g.lss g.ab (secs d g.lss g.ab p off) = readAt d off g.ab := by
  have ⟨h512, a1, _, _, _, _⟩ := L
  have hlpos : 0 < g.lss := by omega
  apply List.map_congr_left
  intro j hj
  have hj' : j < g.ab := List.mem_range.1 hj
  have hlt : j / g.lss < p := (Nat.div_lt_iff_lt_mul hlpos).2 (by omega)
  have hdm := Nat.div_add_mod j g.lss
  have hmod := Nat.mod_lt j hlpos
  rw [Nat.mul_comm] at hdm
  simp only [hlt, dif_pos, secs]
  rw [readAt_getD _ _ _ _ (by unfold secLen; omega)]
  congr 1
  omega

theorem join_secs (L : Lay g p) (d : Dev) (off : Nat) :
    join (secs d g.lss g.ab p off) = readAt d off g.ab := by
  have ⟨h512, a1, a2, _, _, _⟩ := L
  -- the first `m` sectors hold the first `m * lss` bytes, the last one what is left of the array
  have key : ∀ m, m ≤ p → (List.range m).flatMap (fun i => if h : i < p then secs d g.lss g.ab p off ⟨i, h⟩ else [])
      = readAt d off (min (m * g.lss) g.ab) := by
    intro m
    induction m with
    | zero => intro _; simp [readAt]
    | succ m ih =>
      intro hm
      have hml : m * g.lss + g.lss ≤ p * g.lss := Nat.succ_mul m g.lss ▸ Nat.mul_le_mul_right g.lss hm
      rw [List.range_succ, List.flatMap_append, ih (by omega)]
      simp only [List.flatMap_cons, List.flatMap_nil, List.append_nil, show m < p from hm, dif_pos, secs]
      rw [show min (m * g.lss) g.ab = m * g.lss by omega,
        show min ((m + 1) * g.lss) g.ab = m * g.lss + secLen g.lss g.ab m by rw [Nat.succ_mul]; unfold secLen; omega,
        readAt_append]
  rw [join, key p (Nat.le_refl _), show min (p * g.lss) g.ab = g.ab by omega]

theorem secs_eq (L : Lay g p) (d : Dev) (off : Nat) (a : Bytes) (h : readAt d off g.ab = a) :
    secs d g.lss g.ab p off = sectorsG g.lss g.ab p a := by
  funext i
  obtain ⟨s1, s2, s3, s4⟩ := sec_in L i
  subst h
  rw [sectorsG, slice_readAt d off g.ab _ _ (by omega) s2, Nat.add_sub_cancel_left]
  rfl

theorem secs_hit (L : Lay g p) (D : Dev) (off : Nat) (a : Bytes) (ha : a.length = g.ab) :
    secs (applyWr D ⟨off, a⟩) g.lss g.ab p off = sectorsG g.lss g.ab p a :=
  secs_eq L _ off a (ha ▸ readAt_applyWr_same D ⟨off, a⟩)

theorem secs_frame (L : Lay g p) (D : Dev) (off : Nat) (w : Wr)
    (h : off + p * g.lss ≤ w.off ∨ w.off + w.data.length ≤ off) :
    secs (applyWr D w) g.lss g.ab p off = secs D g.lss g.ab p off := by
  funext i
  obtain ⟨s1, s2, s3, s4⟩ := sec_in L i
  exact readAt_applyWr_disjoint _ _ _ _ (by omega)

theorem secs_torn_frame (L : Lay g p) (D : Dev) (off : Nat) (w : Wr) (keep : Nat → Bool)
    (h : off + p * g.lss ≤ w.off ∨ w.off + w.data.length ≤ off) :
    secs (applyWrs D (tornPieces g.lss w keep)) g.lss g.ab p off = secs D g.lss g.ab p off := by
  funext i
  obtain ⟨s1, s2, s3, s4⟩ := sec_in L i
  have h512 := L.h512
  exact torn_miss D g.lss (by omega) w keep _ _ (by omega)

theorem secs_torn (L : Lay g p) (D : Dev) (off : Nat) (a : Bytes) (ha : a.length = g.ab) (keep : Nat → Bool) :
    secs (applyWrs D (tornPieces g.lss ⟨off, a⟩ keep)) g.lss g.ab p off =
      mix (fun i => keep i.val) (sectorsG g.lss g.ab p a) (secs D g.lss g.ab p off) := by
  have h512 := L.h512
  funext i
  simp only [secs, mix]
  rw [torn_secs D g.lss (by omega) ⟨off, a⟩ keep i.val _ (sec_in L i).2.2.1]
  by_cases hk : keep i.val = true
  · simp only [hk, if_true]
    exact congrFun (secs_hit L D off a ha) i
  · simp only [hk, Bool.false_eq_true, if_false]

theorem view_torn_ba (L : Lay g p) (D : Dev) (a : Bytes) (ha : a.length = g.ab) (keep : Nat → Bool) :
    viewOf (applyWrs D (tornPieces g.lss ⟨g.aB * g.lss, a⟩ keep)) g p =
      { viewOf D g p with ba := mix (fun i => keep i.val) (sectorsG g.lss g.ab p a) (viewOf D g p).ba } := by
  have ⟨h512, a1, _, b0, b1, b2⟩ := L
  have hl : 0 < g.lss := by omega
  apply disk_ext
  · exact torn_miss D g.lss hl _ keep _ _ (by simp only [ha]; omega)
  · exact torn_miss D g.lss hl _ keep _ _ (by simp only [ha]; omega)
  · exact secs_torn_frame L D _ _ keep (by simp only [ha]; omega)
  · exact secs_torn L D _ a ha keep
  · exact torn_miss D g.lss hl _ keep _ _ (by simp only [ha]; omega)

theorem view_torn_pa (L : Lay g p) (D : Dev) (a : Bytes) (ha : a.length = g.ab) (keep : Nat → Bool) :
    viewOf (applyWrs D (tornPieces g.lss ⟨g.aP * g.lss, a⟩ keep)) g p =
      { viewOf D g p with pa := mix (fun i => keep i.val) (sectorsG g.lss g.ab p a) (viewOf D g p).pa } := by
  have ⟨h512, a1, _, b0, b1, b2⟩ := L
  have hl : 0 < g.lss := by omega
  apply disk_ext
  · exact torn_miss D g.lss hl _ keep _ _ (by simp only [ha]; omega)
  · exact torn_miss D g.lss hl _ keep _ _ (by simp only [ha]; omega)
  · exact secs_torn L D _ a ha keep
  · exact secs_torn_frame L D _ _ keep (by simp only [ha]; omega)
  · exact torn_miss D g.lss hl _ keep _ _ (by simp only [ha]; omega)

theorem view_write_ba (L : Lay g p) (D : Dev) (a : Bytes) (ha : a.length = g.ab) :
    viewOf (applyWr D ⟨g.aB * g.lss, a⟩) g p = { viewOf D g p with ba := sectorsG g.lss g.ab p a } := by
  have h512 := L.h512
  rw [← torn_all D g.lss (by omega), view_torn_ba L D a ha, mix_all]

theorem view_write_pa (L : Lay g p) (D : Dev) (a : Bytes) (ha : a.length = g.ab) :
    viewOf (applyWr D ⟨g.aP * g.lss, a⟩) g p = { viewOf D g p with pa := sectorsG g.lss g.ab p a } := by
  have h512 := L.h512
  rw [← torn_all D g.lss (by omega), view_torn_pa L D a ha, mix_all]

theorem view_write_bh (L : Lay g p) (D : Dev) (b : Bytes) (hb : b.length = g.lss) :
    viewOf (applyWr D ⟨g.hB * g.lss, b⟩) g p = { viewOf D g p with bh := b } := by
  have ⟨h512, a1, _, b0, b1, b2⟩ := L
  apply disk_ext
  · exact readAt_applyWr_disjoint _ _ _ _ (by simp only [hb]; omega)
  · exact readAt_applyWr_disjoint _ _ _ _ (by simp only [hb]; omega)
  · exact secs_frame L D _ _ (by simp only [hb]; omega)
  · exact secs_frame L D _ _ (by simp only [hb]; omega)
  · simpa only [hb, viewOf] using readAt_applyWr_same D ⟨g.hB * g.lss, b⟩

theorem view_write_ph (L : Lay g p) (D : Dev) (b : Bytes) (hb : b.length = g.lss) :
    viewOf (applyWr D ⟨g.lss, b⟩) g p = { viewOf D g p with ph := b } := by
  have ⟨h512, a1, _, b0, b1, b2⟩ := L
  apply disk_ext
  · exact readAt_applyWr_disjoint _ _ _ _ (by simp only [hb]; omega)
  · simpa only [hb, viewOf] using readAt_applyWr_same D ⟨g.lss, b⟩
  · exact secs_frame L D _ _ (by simp only [hb]; omega)
  · exact secs_frame L D _ _ (by simp only [hb]; omega)
  · exact readAt_applyWr_disjoint _ _ _ _ (by simp only [hb]; omega)

theorem view_write_pm (L : Lay g p) (D : Dev) (pm : Bytes) (hpm : pm.length = 66) :
    viewOf (applyWr D ⟨446, pm⟩) g p = { viewOf D g p with mbr := readAt (applyWr D ⟨446, pm⟩) 0 g.lss } := by
  have ⟨h512, a1, _, b0, b1, b2⟩ := L
  apply disk_ext
  · rfl
  · exact readAt_applyWr_disjoint _ _ _ _ (by simp only [hpm]; omega)
  · exact secs_frame L D _ _ (by simp only [hpm]; omega)
  · exact secs_frame L D _ _ (by simp only [hpm]; omega)
  · exact readAt_applyWr_disjoint _ _ _ _ (by simp only [hpm]; omega)

theorem toDiskG_torn_ba (L : Lay g g.p) (D : Dev) (a : Bytes) (ha : a.length = g.ab) (keep : Nat → Bool) :
    toDiskG (applyWrs D (tornPieces g.lss ⟨g.aB * g.lss, a⟩ keep)) g =
      { toDiskG D g with ba := mix (fun i => keep i.val) (sectorsG g.lss g.ab g.p a) (toDiskG D g).ba } :=
  view_torn_ba L D a ha keep

theorem toDiskG_torn_pa (L : Lay g g.p) (D : Dev) (a : Bytes) (ha : a.length = g.ab) (keep : Nat → Bool) :
    toDiskG (applyWrs D (tornPieces g.lss ⟨g.aP * g.lss, a⟩ keep)) g =
      { toDiskG D g with pa := mix (fun i => keep i.val) (sectorsG g.lss g.ab g.p a) (toDiskG D g).pa } :=
  view_torn_pa L D a ha keep

theorem toDiskG_write_ba (L : Lay g g.p) (D : Dev) (a : Bytes) (ha : a.length = g.ab) :
    toDiskG (applyWr D ⟨g.aB * g.lss, a⟩) g = { toDiskG D g with ba := sectorsG g.lss g.ab g.p a } :=
  view_write_ba L D a ha

theorem toDiskG_write_pa (L : Lay g g.p) (D : Dev) (a : Bytes) (ha : a.length = g.ab) :
    toDiskG (applyWr D ⟨g.aP * g.lss, a⟩) g = { toDiskG D g with pa := sectorsG g.lss g.ab g.p a } :=
  view_write_pa L D a ha

theorem toDiskG_write_bh (L : Lay g g.p) (D : Dev) (b : Bytes) (hb : b.length = g.lss) :
    toDiskG (applyWr D ⟨g.hB * g.lss, b⟩) g = { toDiskG D g with bh := b } :=
  view_write_bh L D b hb

theorem toDiskG_write_ph (L : Lay g g.p) (D : Dev) (b : Bytes) (hb : b.length = g.lss) :
    toDiskG (applyWr D ⟨g.lss, b⟩) g = { toDiskG D g with ph := b } :=
  view_write_ph L D b hb

theorem toDiskG_write_pm (L : Lay g g.p) (D : Dev) (pm : Bytes) (hpm : pm.length = 66) :
    toDiskG (applyWr D ⟨446, pm⟩) g = { toDiskG D g with mbr := readAt (applyWr D ⟨446, pm⟩) 0 g.lss } :=
  view_write_pm L D pm hpm

end sectors

/-- the five synced writes of the repaired `Write` (protective MBR last), with natural-number offsets -/
def fiveWrsG (g : Geo) (arr phN bhN pm : Bytes) : List Wr :=
  [⟨g.aB * g.lss, arr⟩, ⟨g.hB * g.lss, bhN⟩, ⟨g.aP * g.lss, arr⟩, ⟨g.lss, phN⟩, ⟨446, pm⟩]

section crash
variable {g : Geo} {p : Nat}

theorem view_complete (L : Lay g p) (d0 : Dev) (arr phN bhN pm : Bytes)
    (ha : arr.length = g.ab) (hph : phN.length = g.lss) (hbh : bhN.length = g.lss) (hpm : pm.length = 66) :
    viewOf (applyWrs d0 (fiveWrsG g arr phN bhN pm)) g p =
      { mbr := readAt (applyWrs d0 (fiveWrsG g arr phN bhN pm)) 0 g.lss, ph := phN, pa := sectorsG g.lss g.ab p arr,
        ba := sectorsG g.lss g.ab p arr, bh := bhN } := by
  show viewOf (applyWr (applyWr (applyWr (applyWr (applyWr d0 _) _) _) _) _) g p = _
  rw [view_write_pm L _ pm hpm, view_write_ph L _ phN hph, view_write_pa L _ arr ha,
    view_write_bh L _ bhN hbh, view_write_ba L _ arr ha]
  rfl

theorem crash_view (L : Lay g p) (d0 : Dev) (arr phN bhN pm : Bytes)
    (ha : arr.length = g.ab) (hph : phN.length = g.lss) (hbh : bhN.length = g.lss) (hpm : pm.length = 66)
    (k : Nat) (keep : Nat → Bool) :
    Crash false (viewOf d0 g p) (viewOf (applyWrs d0 (fiveWrsG g arr phN bhN pm)) g p)
      (viewOf (crashDev d0 g.lss (fiveWrsG g arr phN bhN pm) k keep) g p) := by
  have h512 := L.h512
  have hnew := view_complete L d0 arr phN bhN pm ha hph hbh hpm
  have wba := fun D => view_write_ba L D arr ha
  have wbh := fun D => view_write_bh L D bhN hbh
  have wpa := fun D => view_write_pa L D arr ha
  have wph := fun D => view_write_ph L D phN hph
  -- a header or the protective-MBR bytes in flight: nothing of it, or all of it
  have one := fun D off (b : Bytes) (h1 : 0 < b.length) (h2 : b.length ≤ g.lss) => torn_atomic D g.lss ⟨off, b⟩ keep h1 h2
  unfold fiveWrsG at hnew ⊢
  match k with
  | 0 =>
    rw [crashDev_zero, view_torn_ba L d0 arr ha keep, hnew]
    exact Crash.backupArray (fun i => keep i.val)
  | 1 =>
    rw [crashDev_succ, crashDev_zero, hnew]
    rcases one _ _ bhN (by omega) (by omega) with e | e <;> rw [e]
    · rw [wba]
      exact Crash.backupHeader _ (Or.inl rfl)
    · rw [wbh, wba]
      exact Crash.backupHeader bhN (Or.inr rfl)
  | 2 =>
    rw [crashDev_succ, crashDev_succ, crashDev_zero, view_torn_pa L _ arr ha keep, wbh, wba, hnew]
    exact Crash.primaryArray (fun i => keep i.val)
  | 3 =>
    rw [crashDev_succ, crashDev_succ, crashDev_succ, crashDev_zero, hnew]
    rcases one _ _ phN (by omega) (by omega) with e | e <;> rw [e]
    · rw [wpa, wbh, wba]
      exact Crash.primaryHeader _ (Or.inl rfl)
    · rw [wph, wpa, wbh, wba]
      exact Crash.primaryHeader phN (Or.inr rfl)
  | 4 =>
    rw [crashDev_succ, crashDev_succ, crashDev_succ, crashDev_succ, crashDev_zero]
    rcases one _ _ pm (by omega) (by omega) with e | e <;> rw [e]
    · rw [hnew, wph, wpa, wbh, wba]
      exact Crash.pmbrLast _ (Or.inl rfl) rfl
    · exact complete_is_crash_state false _ _
  | k + 5 =>
    rw [crashDev_succ, crashDev_succ, crashDev_succ, crashDev_succ, crashDev_succ, crashDev_nil]
    exact complete_is_crash_state false _ _

theorem toDiskG_complete (L : Lay g g.p) (d0 : Dev) (arr phN bhN pm : Bytes)
    (ha : arr.length = g.ab) (hph : phN.length = g.lss) (hbh : bhN.length = g.lss) (hpm : pm.length = 66) :
    toDiskG (applyWrs d0 (fiveWrsG g arr phN bhN pm)) g =
      { mbr := readAt (applyWrs d0 (fiveWrsG g arr phN bhN pm)) 0 g.lss, ph := phN, pa := sectorsG g.lss g.ab g.p arr,
        ba := sectorsG g.lss g.ab g.p arr, bh := bhN } :=
  view_complete L d0 arr phN bhN pm ha hph hbh hpm

theorem crash_is_CrashG (L : Lay g g.p) (d0 : Dev) (arr phN bhN pm : Bytes)
    (ha : arr.length = g.ab) (hph : phN.length = g.lss) (hbh : bhN.length = g.lss) (hpm : pm.length = 66)
    (k : Nat) (keep : Nat → Bool) :
    Crash false (toDiskG d0 g) (toDiskG (applyWrs d0 (fiveWrsG g arr phN bhN pm)) g)
      (toDiskG (crashDev d0 g.lss (fiveWrsG g arr phN bhN pm) k keep) g) :=
  crash_view L d0 arr phN bhN pm ha hph hbh hpm k keep

end crash

end Diskfs.GptCrash
