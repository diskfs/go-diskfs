/-
  MBR whole table: what mbr.Table.Write puts on ANY prior device reads back through mbr.Read as the
  four slots, filled by position; and writing back what mbr.Read returned changes no byte of the device.
-/
import DiskfsModel.Proofs.MbrCodec
namespace Diskfs.Mbr
open Diskfs.Gpt

/-- what can be stored in a slot: a type byte, 32-bit start / size, six CHS bytes -/
structure PartWF (p : Part) : Prop where
  typ : p.typ < 256
  start : p.start < two32
  size : p.size < two32
  chs : p.chs.length = 6

def emptyPart (i : Nat) : Part :=
  { index := i, bootable := false, typ := 0, start := 0, size := 0, chs := [0, 0, 0, 0, 0, 0] }

/-- the four slots as they read back: by position in the list, index = position + 1, missing entries empty -/
def normSlot (ps : List Part) (i : Nat) : Part :=
  match ps[i]? with
  | some p => { p with index := i + 1 }
  | none => emptyPart (i + 1)

def slotEnc (ps : List Part) (i : Nat) : Bytes :=
  match ps[i]? with
  | some p => entryEnc p
  | none => emptySlot

theorem slotEnc_length (ps : List Part) (i : Nat) : (slotEnc ps i).length = 16 := by
  unfold slotEnc
  split
  · exact entryEnc_length _
  · simp [emptySlot]

theorem entryDec_empty (i : Nat) : entryDec i emptySlot = some (emptyPart i) := by
  simp [entryDec, emptySlot, zeros, emptyPart, slice, leDec]

theorem entryDec_slotEnc (ps : List Part) (i : Nat) (hwf : ∀ p ∈ ps, PartWF p) :
    entryDec (i + 1) (slotEnc ps i) = some (normSlot ps i) := by
  unfold slotEnc normSlot
  cases h : ps[i]? with
  | none => simpa using entryDec_empty (i + 1)
  | some p =>
    have hp : p ∈ ps := List.mem_of_getElem? h
    have w := hwf p hp
    simpa using entryDec_entryEnc p (i + 1) w.typ w.start w.size w.chs

theorem tableEnc_eq (ps : List Part) :
    tableEnc ps = slotEnc ps 0 ++ (slotEnc ps 1 ++ (slotEnc ps 2 ++ (slotEnc ps 3 ++ [0x55, 0xaa]))) := by
  simp only [tableEnc, slotEnc, List.range, List.range.loop, List.flatMap_cons, List.flatMap_nil, List.append_assoc,
    List.append_nil]
  rfl

theorem tableEnc_length (ps : List Part) : (tableEnc ps).length = 66 := by
  rw [tableEnc_eq]
  simp [slotEnc_length]

theorem read_write (d : Dev) (ps : List Part) (devSize : Nat) (hdev : 512 ≤ devSize) (hwf : ∀ p ∈ ps, PartWF p) :
    (read (applyWrs d (write ps)) devSize).1 = some [normSlot ps 0, normSlot ps 1, normSlot ps 2, normSlot ps 3] := by
  have l0 := slotEnc_length ps 0
  have l1 := slotEnc_length ps 1
  have l2 := slotEnc_length ps 2
  have l3 := slotEnc_length ps 3
  have hdevb : readAt (applyWrs d (write ps)) 0 512 =
      [readAt d 0 446, slotEnc ps 0, slotEnc ps 1, slotEnc ps 2, slotEnc ps 3, [0x55, 0xaa]].flatten := by
    have hw : applyWrs d (write ps) = applyWr d ⟨446, tableEnc ps⟩ := rfl
    rw [hw]
    have e := readAt_append (applyWr d ⟨446, tableEnc ps⟩) 0 446 66
    have h1 : readAt (applyWr d ⟨446, tableEnc ps⟩) 0 446 = readAt d 0 446 :=
      readAt_applyWr_disjoint d ⟨446, tableEnc ps⟩ 0 446 (Or.inl (Nat.le_refl _))
    have h2 : readAt (applyWr d ⟨446, tableEnc ps⟩) 446 (tableEnc ps).length = tableEnc ps :=
      readAt_applyWr_same d ⟨446, tableEnc ps⟩
    rw [tableEnc_length] at h2
    rw [Nat.zero_add, h1, h2] at e
    exact e.trans (by rw [tableEnc_eq]; simp)
  have H := SlicesAt.of_flatten hdevb
  simp only [SlicesAt, readAt_length, l0, l1, l2, l3, List.length_cons, List.length_nil, Nat.reduceAdd] at H
  obtain ⟨_, s0, s1, s2, s3, sg, _⟩ := H
  unfold read
  simp only [Nat.not_lt.2 hdev, if_false, sg, ne_eq, not_true_eq_false, slotsDec, Nat.reduceMul, Nat.reduceAdd]
  rw [s0, s1, s2, s3, entryDec_slotEnc ps 0 hwf, entryDec_slotEnc ps 1 hwf, entryDec_slotEnc ps 2 hwf,
    entryDec_slotEnc ps 3 hwf]

/-- boot code, disk signature and everything after the first 512 bytes keep their prior content -/
theorem write_frame (d : Dev) (ps : List Part) (i : Nat) (hi : i < 446 ∨ 512 ≤ i) :
    applyWrs d (write ps) i = d i := by
  apply applyWrs_frame
  intro w hw
  simp only [write, List.mem_singleton] at hw
  subst hw
  simp only [tableEnc_length]
  omega

theorem slotsDec_cons_some (b : Bytes) (i : Nat) (is : List Nat) (ps : List Part) (h : slotsDec b (i :: is) = some ps) :
    ∃ p ps', entryDec (i + 1) (slice b (446 + i * 16) (446 + i * 16 + 16)) = some p ∧ slotsDec b is = some ps' ∧
      ps = p :: ps' := by
  simp only [slotsDec] at h
  split at h
  · rename_i p ps' h1 h2
    cases h
    exact ⟨p, ps', h1, h2, rfl⟩
  · cases h

/-- a slot of the boot sector that decodes holds the encoding of what it decodes to -/
theorem entryEnc_of_slot (d : Dev) (lo i : Nat) (p : Part) (hlo : lo + 16 ≤ 512)
    (h : entryDec i (slice (readAt d 0 512) lo (lo + 16)) = some p) : entryEnc p = readAt d lo 16 := by
  have hlen : (slice (readAt d 0 512) lo (lo + 16)).length = 16 := by
    rw [slice_length _ _ _ (by omega) (by simp; omega)]; omega
  rw [entryEnc_entryDec _ hlen i p h, slice_readAt d 0 512 lo (lo + 16) (by omega) hlo, Nat.zero_add,
    Nat.add_sub_cancel_left]

/-- for ANY device mbr.Read accepts (whoever wrote it): the 66 bytes Table.Write emits for the four partitions
    mbr.Read returned are the bytes already at 446..511 -/
theorem write_read_noop (d : Dev) (devSize : Nat) (ps : List Part) (h : (read d devSize).1 = some ps) :
    applyWrs d (write ps) = d := by
  unfold read at h
  split at h
  · simp at h
  · simp only at h
    split at h
    · simp at h
    · rename_i hdev hsig
      simp only [ne_eq, Decidable.not_not] at hsig
      dsimp only at h
      obtain ⟨p0, _, h0, r0, rfl⟩ := slotsDec_cons_some _ _ _ _ h
      obtain ⟨p1, _, h1, r1, rfl⟩ := slotsDec_cons_some _ _ _ _ r0
      obtain ⟨p2, _, h2, r2, rfl⟩ := slotsDec_cons_some _ _ _ _ r1
      obtain ⟨p3, _, h3, r3, rfl⟩ := slotsDec_cons_some _ _ _ _ r2
      cases r3
      have henc : tableEnc [p0, p1, p2, p3] = readAt d 446 66 := by
        have : tableEnc [p0, p1, p2, p3] = entryEnc p0 ++ (entryEnc p1 ++ (entryEnc p2 ++ (entryEnc p3 ++ [0x55, 0xaa]))) := by
          simp [tableEnc, List.range, List.range.loop]
        rw [this, entryEnc_of_slot d _ _ p0 (by omega) h0, entryEnc_of_slot d _ _ p1 (by omega) h1,
          entryEnc_of_slot d _ _ p2 (by omega) h2, entryEnc_of_slot d _ _ p3 (by omega) h3, ← hsig,
          slice_readAt d 0 512 510 512 (by omega) (by omega)]
        have : (66 : Nat) = 16 + (16 + (16 + (16 + 2))) := rfl
        rw [this, readAt_append, readAt_append, readAt_append, readAt_append]
      apply applyWrs_noop
      intro w hw
      simp only [write, List.mem_singleton] at hw
      subst hw
      rw [henc]
      simp

end Diskfs.Mbr
