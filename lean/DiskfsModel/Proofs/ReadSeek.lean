/-
  C10: each of the four `Read` mirrors of Model/ReadSeek.lean, with every switch repaired, returns `ReadGood`:
  the bytes that remain (at most the buffer) as segments laid end to end from the cursor (`Run`), EOF flagged
  at the end; against a byte oracle that shows the content (`Agrees`) that is the specification's `ReadOK`.
  Every loop is treated by one invariant: so many of the bytes wanted are delivered, as a run from the cursor.
-/
import DiskfsModel.Model.ReadSeek
import DiskfsModel.Proofs.Bytes
namespace Diskfs.ReadSeek
open Diskfs.Spec

theorem segsData_append (store : Dev) (a b : List Seg) :
    segsData store (a ++ b) = segsData store a ++ segsData store b := by
  induction a with
  | nil => simp [segsData]
  | cons s ss ih => simp [segsData, ih]

/-- segments laid end to end from `o` -/
def Consec : Nat → List Seg → Prop
  | _, [] => True
  | o, s :: ss => s.off = o ∧ Consec (o + s.len) ss

/-- `n` bytes in segments laid end to end from `o`: what every loop below keeps of its segment list -/
def Run (o n : Nat) (segs : List Seg) : Prop := Consec o segs ∧ segsLen segs = n

theorem Run.nil (o : Nat) : Run o 0 [] := ⟨trivial, rfl⟩

theorem Run.single (o n : Nat) : Run o n [⟨o, n⟩] := ⟨⟨rfl, trivial⟩, rfl⟩

theorem Run.snoc {o n : Nat} {segs : List Seg} (h : Run o n segs) (k : Nat) :
    Run o (n + k) (segs ++ [⟨o + n, k⟩]) := by
  obtain ⟨hc, rfl⟩ := h
  induction segs generalizing o with
  | nil => exact ⟨⟨rfl, trivial⟩, by simp [segsLen]⟩
  | cons t ts ih =>
    obtain ⟨h1, h2⟩ := ih hc.2
    rw [Nat.add_assoc] at h1 h2
    exact ⟨⟨hc.1, h1⟩, by simp only [List.cons_append, segsLen, h2, Nat.add_assoc]⟩

theorem Run.data (store : Dev) {o n : Nat} {segs : List Seg} (h : Run o n segs) :
    segsData store segs = readAt store o n := by
  obtain ⟨hc, rfl⟩ := h
  induction segs generalizing o with
  | nil => simp [segsData, segsLen, readAt]
  | cons s ss ih => rw [segsData, segsLen, readAt_append, ih hc.2, hc.1]

/-- the file-relative byte oracle shows the content (and anything at all past its end) -/
def Agrees (store : Dev) (content : Bytes) : Prop :=
  ∀ i (h : i < content.length), store i = content[i]

theorem Agrees.read {store : Dev} {content : Bytes} (h : Agrees store content) (off n : Nat) :
    readAt store off (min n (content.length - off)) = (content.drop off).take n := by
  apply List.ext_getElem
  · simp
  · intro i h1 _
    simp only [readAt_length] at h1
    simp only [readAt, List.getElem_map, List.getElem_range, List.getElem_take, List.getElem_drop]
    exact h (off + i) (by omega)

/-- what every repaired `Read` mirror is shown to return: `k = min n (size - off)` bytes laid end
    to end from the cursor, EOF flagged exactly when the end is reached with them, cursor advanced by `k` -/
def ReadGood (size off n : Nat) (r : RRes × Nat) : Prop :=
  ∃ segs, Run off (min n (size - off)) segs ∧
    r = (.ok segs (decide (size ≤ off + min n (size - off))), off + min n (size - off))

theorem ReadGood.eof {size off : Nat} (n : Nat) (h : size ≤ off) : ReadGood size off n (.ok [] true, off) := by
  have h0 : min n (size - off) = 0 := by omega
  refine ⟨[], ?_, ?_⟩ <;> rw [h0]
  · exact Run.nil off
  · simp [h]

theorem ReadGood.refines {store : Dev} {content : Bytes} {size off n : Nat} {r : RRes × Nat}
    (hag : Agrees store content) (hsz : content.length = size) (h : ReadGood size off n r) :
    ∃ segs eof, r = (.ok segs eof, off + (segsData store segs).length) ∧
      ReadOK content off n (segsData store segs) eof := by
  obtain ⟨segs, hrun, rfl⟩ := h
  have hd : segsData store segs = (content.drop off).take n := by rw [hrun.data, ← hsz, hag.read]
  have hl : (segsData store segs).length = min n (size - off) := by rw [hrun.data, readAt_length]
  refine ⟨segs, _, by rw [hl], hd, ?_, ?_⟩
  · intro he; rw [hl, hsz]; simpa using he
  · intro _ hle; simp; omega

/-- the cluster loop with `total` of the `m` bytes wanted from `off` delivered: either that is all of them, or the
    cursor is at the start of cluster `i` and the clusters left reach past the request -/
theorem fatLoop_run (bpc m off : Nat) :
    ∀ (fuel i total : Nat) (segs : List Seg), total ≤ m → Run off total segs →
      (total = m ∨ (off + total = i * bpc ∧ off + m ≤ (i + fuel) * bpc)) →
      ∃ segs', fatLoop bpc m fuel i total segs = (m, segs') ∧ Run off m segs' := by
  intro fuel
  induction fuel with
  | zero =>
    intro i total segs hle hrun hinv
    have ht : total = m := by
      rcases hinv with h | ⟨h1, h2⟩
      · exact h
      · rw [Nat.add_zero] at h2; omega
    subst ht
    exact ⟨segs, rfl, hrun⟩
  | succ fuel ih =>
    intro i total segs hle hrun hinv
    unfold fatLoop
    by_cases hfull : m ≤ total
    · have ht : total = m := by omega
      subst ht
      exact ⟨segs, by rw [if_pos hfull], hrun⟩
    rw [if_neg hfull]
    have hinv : off + total = i * bpc ∧ off + m ≤ (i + (fuel + 1)) * bpc := by
      rcases hinv with h | h
      · omega
      · exact h
    have hsn : Run off (total + min bpc (m - total)) (segs ++ [⟨i * bpc, min bpc (m - total)⟩]) :=
      hinv.1 ▸ hrun.snoc _
    by_cases hdone : m ≤ total + min bpc (m - total)
    · have ht : total + min bpc (m - total) = m := by omega
      simp only [if_pos hdone]
      rw [ht] at hsn ⊢
      exact ⟨_, rfl, hsn⟩
    · simp only [if_neg hdone]
      apply ih (i + 1) _ _ (by omega) hsn
      right
      rw [Nat.succ_mul, Nat.add_right_comm i 1 fuel, Nat.add_assoc i fuel 1]
      omega

theorem fatFinish_good (size off n : Nat) (segs : List Seg) (hrun : Run off (min n (size - off)) segs) :
    ReadGood size off n (fatFinish size off (min n (size - off)) (min n (size - off)) segs) := by
  unfold fatFinish
  split
  · rename_i he; exact ⟨segs, hrun, by simp [he]⟩
  · rename_i he
    rw [if_neg (by omega)]
    exact ⟨segs, hrun, by simp [he]⟩

theorem fatTail_good (f : FatFile) (hcover : f.size ≤ f.ncl * f.bpc) (off n i total : Nat) (segs : List Seg)
    (hlt : off ≤ f.size) (hi : i ≤ f.ncl) (ht : total ≤ min n (f.size - off)) (hrun : Run off total segs)
    (hinv : total = min n (f.size - off) ∨ off + total = i * f.bpc) :
    ReadGood f.size off n (fatFinish f.size off (min n (f.size - off))
      (fatLoop f.bpc (min n (f.size - off)) (f.ncl - i) i total segs).1
      (fatLoop f.bpc (min n (f.size - off)) (f.ncl - i) i total segs).2) := by
  obtain ⟨segs', he, hr⟩ := fatLoop_run f.bpc (min n (f.size - off)) off (f.ncl - i) i total segs ht hrun
    (hinv.imp id fun h => ⟨h, by rw [Nat.add_sub_cancel' hi]; omega⟩)
  rw [he]
  exact fatFinish_good f.size off n segs' hr

/-- chain long enough for the size, non-zero cluster size -/
def FatFile.WF (f : FatFile) : Prop := 0 < f.bpc ∧ f.size ≤ f.ncl * f.bpc

theorem fatRead_good (f : FatFile) (hwf : f.WF) (off n : Nat) :
    ReadGood f.size off n (fatRead Cfg.fixed f off n) := by
  obtain ⟨hb, hcover⟩ := hwf
  unfold fatRead
  by_cases hend : f.size ≤ off
  · rw [if_pos hend]; exact ReadGood.eof n hend
  simp only [if_neg hend, Cfg.fixed, if_true]
  -- `off = q * bpc + r` inside cluster `q` of the chain
  have hdm := Nat.div_add_mod' off f.bpc
  have hr := Nat.mod_lt off hb
  have hq : off / f.bpc < f.ncl := by
    apply Nat.lt_of_not_le
    intro h
    have := Nat.mul_le_mul_right f.bpc h
    omega
  have hsucc : (off / f.bpc + 1) * f.bpc = off / f.bpc * f.bpc + f.bpc := Nat.succ_mul _ _
  generalize off / f.bpc = q at *
  generalize off % f.bpc = r at *
  rw [if_neg (by omega)]
  by_cases hpart : 0 < off ∧ r ≠ 0
  · simp only [if_pos hpart]
    exact fatTail_good f hcover off n (q + 1) _ _ (by omega) (by omega) (by omega) (Run.single off _) (by omega)
  · simp only [if_neg hpart]
    exact fatTail_good f hcover off n q 0 [] (by omega) (by omega) (by omega) (Run.nil off) (by omega)

theorem isoRead_good (size off n : Nat) : ReadGood size off n (isoRead size off n) := by
  unfold isoRead
  split
  · rename_i hend; exact ReadGood.eof n hend
  · exact ⟨_, Run.single off _, rfl⟩

/-- the extent list covers file blocks `s, s+1, …` without holes, in order -/
def Contig : Nat → List Ext → Prop
  | _, [] => True
  | s, e :: es => e.fileBlock = s ∧ 0 < e.count ∧ Contig (s + e.count) es

theorem contigB_sound : ∀ (es : List Ext) (s : Nat), contigB s es = true → Contig s es := by
  intro es
  induction es with
  | nil => intro s _; trivial
  | cons e es ih =>
    intro s h
    simp only [contigB, Bool.and_eq_true, beq_iff_eq, decide_eq_true_eq] at h
    exact ⟨h.1.1, h.1.2, ih _ h.2⟩

def Ext4File.WF (f : Ext4File) : Prop :=
  0 < f.bs ∧ Contig 0 f.exts ∧ f.size ≤ blocks f.exts * f.bs

/-- the extent loop at an extent list starting at block `s`, `rb` of the `btr` bytes wanted from `off0` delivered:
    either nothing is delivered yet and the cursor is at or behind block `s`, or the cursor is at the start of `s` -/
theorem ext4Loop_run (bs btr off0 : Nat) (hb : 0 < bs) :
    ∀ (es : List Ext) (s rb : Nat) (segs : List Seg),
      Contig s es → rb ≤ btr → Run off0 rb segs → s * bs ≤ off0 + rb → (rb = 0 ∨ off0 + rb = s * bs) →
      off0 + btr ≤ (s + blocks es) * bs →
      ∃ segs', ext4Loop Cfg.fixed bs btr (off0 / bs) es (off0 + rb) rb segs = .done (off0 + btr) btr segs' ∧
        Run off0 btr segs' := by
  intro es
  induction es with
  | nil =>
    intro s rb segs _ hrb hrun _ _ hfit
    have : rb = btr := by rw [blocks, Nat.add_zero] at hfit; omega
    subst this
    exact ⟨segs, by simp [ext4Loop], hrun⟩
  | cons e es ih =>
    intro s rb segs hcontig hrb hrun hlo hph hfit
    obtain ⟨rfl, hcnt, hrest⟩ := hcontig
    have hmul : (e.fileBlock + e.count) * bs = e.fileBlock * bs + e.count * bs := Nat.add_mul ..
    have hpos : 0 < e.count * bs := Nat.mul_pos hcnt hb
    rw [blocks, ← Nat.add_assoc] at hfit
    unfold ext4Loop
    simp only [Cfg.fixed, if_true]
    by_cases hskip : e.fileBlock + e.count ≤ off0 / bs
    · -- the extent ends at or before the block of `off0`: passed over, nothing delivered yet
      have := (Nat.le_div_iff_mul_le hb).1 hskip
      simp only [hskip, decide_true, if_true]
      exact ih _ rb segs hrest hrb hrun (by omega) (Or.inl (by omega)) hfit
    · have := Nat.lt_of_not_le (mt (Nat.le_div_iff_mul_le hb).2 hskip)
      simp only [hskip, decide_false, Bool.false_eq_true, if_false]
      rw [if_neg (by omega), if_neg (by omega)]
      -- `r` bytes of the extent lie behind the cursor
      obtain ⟨r, hr⟩ : ∃ r, r = e.count * bs - (off0 + rb - e.fileBlock * bs) := ⟨_, rfl⟩
      have hend : off0 + rb + r = e.fileBlock * bs + e.count * bs := by omega
      rw [← hr]
      clear hr
      by_cases hle : btr - rb ≤ r
      · have hsn := hrun.snoc (btr - rb)
        simp only [Nat.add_sub_cancel' hrb] at hsn
        rw [Nat.min_eq_left hle, Nat.add_assoc, Nat.add_sub_cancel' hrb, if_pos (Nat.le_refl _)]
        exact ⟨_, rfl, hsn⟩
      · rw [Nat.min_eq_right (Nat.le_of_not_le hle), if_neg (by omega), Nat.add_assoc]
        exact ih _ _ _ hrest (by omega) (hrun.snoc r) (by omega) (Or.inr (by omega)) hfit

theorem ext4Read_good (f : Ext4File) (hwf : f.WF) (off n : Nat) :
    ReadGood f.size off n (ext4Read Cfg.fixed f off n) := by
  obtain ⟨hb, hcontig, hcover⟩ := hwf
  unfold ext4Read
  by_cases hend : f.size ≤ off
  · rw [if_pos hend]; exact ReadGood.eof n hend
  obtain ⟨segs, he, hr⟩ := ext4Loop_run f.bs (min n (f.size - off)) off hb f.exts 0 0 []
    hcontig (Nat.zero_le _) (Run.nil off) (by omega) (Or.inl rfl) (by rw [Nat.zero_add]; omega)
  rw [Nat.add_zero] at he
  simp only [if_neg hend, he]
  exact ⟨segs, hr, rfl⟩

/-- the extent loop reads only the two skip switches of the configuration -/
theorem ext4Loop_cfg (c c' : Cfg) (h : c.e4SkipLe = c'.e4SkipLe) (h' : c.e4SkipNeg = c'.e4SkipNeg) (bs btr rsb : Nat) :
    ∀ (es : List Ext) (off rb : Nat) (segs : List Seg),
      ext4Loop c bs btr rsb es off rb segs = ext4Loop c' bs btr rsb es off rb segs := by
  intro es
  induction es with
  | nil => intro off rb segs; rfl
  | cons e es ih =>
    intro off rb segs
    simp only [ext4Loop, h, h', ih]

/-- the inode's block list and fragment are what the size needs: either a tail fragment after
    `size / bs` full blocks, or enough data blocks for everything -/
def SqFile.WF (f : SqFile) : Prop :=
  0 < f.bs ∧ ((f.frag = true ∧ f.nblocks = f.size / f.bs) ∨ f.size ≤ f.nblocks * f.bs)

/-- `outputBlock` on an input `[pos, pos+len)` that contains the cursor, `t` of the `m` bytes wanted from `off0`
    delivered: it copies up to the end of the input or of the request, whichever comes first -/
theorem sqOutput_run {off0 m nbuf pos len t t' : Nat} {segs : List Seg} (hn : m ≤ nbuf) (ht : t ≤ m)
    (hrun : Run off0 t segs) (hp : pos ≤ off0 + t) (hin : off0 + t < pos + len)
    (ht' : off0 + t' = min (off0 + m) (pos + len)) :
    ∃ segs', sqOutput (off0 + m) nbuf pos len ⟨off0 + t, t, segs⟩ = some ⟨off0 + t', t', segs'⟩ ∧ Run off0 t' segs' := by
  have h1 : min (off0 + m - pos) len = off0 + t' - pos := by
    rw [ht', ← Nat.sub_min_sub_right, Nat.add_sub_cancel_left]
  have hle : t ≤ t' := by omega
  have hm : t' ≤ m := Nat.le_of_add_le_add_left (ht' ▸ Nat.min_le_left ..)
  clear ht'
  have hsn := hrun.snoc (t' - t)
  rw [Nat.add_sub_cancel' hle] at hsn
  unfold sqOutput
  simp only []
  rw [if_pos ⟨hp, by omega⟩, h1, Nat.sub_sub_sub_cancel_right hp, Nat.add_sub_add_left, if_neg (by omega),
    Nat.min_eq_right (by omega), Nat.add_assoc, Nat.add_sub_cancel' hle]
  exact ⟨_, rfl, hsn⟩

/-- bytes delivered once blocks `0 .. i-1` have been looked at: the part of the request `[off0, off0+m)` below `i * bs` -/
def sqDone (bs off0 m i : Nat) : Nat := min (i * bs) (off0 + m) - off0

theorem sqDone_le (bs off0 m i : Nat) : sqDone bs off0 m i ≤ m :=
  Nat.sub_le_iff_le_add'.2 (Nat.min_le_right ..)

theorem sqDone_eq_zero {bs off0 i : Nat} (m : Nat) (h : i * bs ≤ off0) : sqDone bs off0 m i = 0 :=
  Nat.sub_eq_zero_of_le (Nat.le_trans (Nat.min_le_left ..) h)

theorem sqDone_cursor {bs off0 m i : Nat} (h : sqDone bs off0 m i < m) : off0 + sqDone bs off0 m i = max off0 (i * bs) := by
  unfold sqDone at *; omega

theorem sqDone_of_ge {bs off0 m i : Nat} (h : off0 + m ≤ i * bs) : sqDone bs off0 m i = m := by
  rw [sqDone, Nat.min_eq_right h, Nat.add_sub_cancel_left]

theorem sqDone_succ {bs off0 i : Nat} (m : Nat) (h : off0 < i * bs + bs) :
    off0 + sqDone bs off0 m (i + 1) = min (off0 + m) (i * bs + bs) := by
  rw [sqDone, Nat.succ_mul, Nat.min_comm]
  exact Nat.add_sub_cancel' (Nat.le_min.2 ⟨Nat.le_add_right .., Nat.le_of_lt h⟩)

/-- the cut of the last block at the file size is invisible to a request that ends inside the file -/
theorem sqBlock_cut {B bs size oe : Nat} (h : oe ≤ size) : min oe (B + min bs (size - B)) = min oe (B + bs) := by
  omega

/-- the loop state at block `i` -/
def sqAt (bs off0 m i : Nat) (segs : List Seg) : SqSt := ⟨off0 + sqDone bs off0 m i, sqDone bs off0 m i, segs⟩

/-- the block loop from block `i` in the state `sqAt … i` stops at some block `j` in the state `sqAt … j`, and it stops
    because the request is complete, `endP1` is reached, or the blocks have run out -/
theorem sqLoop_run (f : SqFile) (off0 m nbuf endP1 : Nat) (hb : 0 < f.bs) (hsz : off0 + m ≤ f.size) (hn : m ≤ nbuf) :
    ∀ (fuel i : Nat) (segs : List Seg), Run off0 (sqDone f.bs off0 m i) segs →
      ∃ j segs', sqLoop f (off0 + m) nbuf m (off0 / f.bs) endP1 fuel i (sqAt f.bs off0 m i segs) =
          some (sqAt f.bs off0 m j segs') ∧
        Run off0 (sqDone f.bs off0 m j) segs' ∧ j ≤ i + fuel ∧
        (m ≤ sqDone f.bs off0 m j ∨ endP1 ≤ j ∨ j = i + fuel) := by
  intro fuel
  induction fuel with
  | zero => exact fun i segs hrun => ⟨i, segs, rfl, hrun, Nat.le_refl _, .inr (.inr rfl)⟩
  | succ fuel ih =>
    intro i segs hrun
    unfold sqLoop
    simp only [sqAt]
    by_cases hbrk : endP1 ≤ i ∨ m ≤ sqDone f.bs off0 m i
    · exact ⟨i, segs, if_pos hbrk, hrun, by omega, by omega⟩
    simp only [hbrk, if_false]
    -- either way the state after block `i` is the state at block `i + 1`
    have hstep : ∃ segs1, (if off0 / f.bs ≤ i then
          sqOutput (off0 + m) nbuf (i * f.bs) (sqBlockLen f i) ⟨off0 + sqDone f.bs off0 m i, sqDone f.bs off0 m i, segs⟩
        else some ⟨off0 + sqDone f.bs off0 m i, sqDone f.bs off0 m i, segs⟩) = some (sqAt f.bs off0 m (i + 1) segs1) ∧
        Run off0 (sqDone f.bs off0 m (i + 1)) segs1 := by
      by_cases hsb : off0 / f.bs ≤ i
      · -- block `i` holds the cursor
        have hlt := (Nat.div_lt_iff_lt_mul hb).1 (Nat.lt_succ_of_le hsb)
        rw [Nat.succ_mul] at hlt
        have hD : sqDone f.bs off0 m i < m := Nat.lt_of_not_le fun h => hbrk (.inr h)
        have hc := sqDone_cursor hD
        have hp : i * f.bs ≤ off0 + sqDone f.bs off0 m i := hc ▸ Nat.le_max_right ..
        have hcut : off0 + sqDone f.bs off0 m i < i * f.bs + min f.bs (f.size - i * f.bs) := by omega
        rw [if_pos hsb]
        exact sqOutput_run hn (Nat.le_of_lt hD) hrun hp hcut ((sqDone_succ m hlt).trans (sqBlock_cut hsz).symm)
      · -- block `i` lies wholly before the cursor
        have hle := (Nat.le_div_iff_mul_le hb).1 (Nat.succ_le_of_lt (Nat.lt_of_not_le hsb))
        have hD : sqDone f.bs off0 m (i + 1) = sqDone f.bs off0 m i := by
          rw [sqDone_eq_zero m hle, sqDone_eq_zero m (by rw [Nat.succ_mul] at hle; omega)]
        simp only [sqAt, if_neg hsb, hD]
        exact ⟨segs, rfl, hrun⟩
    obtain ⟨segs1, he1, hr1⟩ := hstep
    obtain ⟨j, segs', he, hr, hj, hpost⟩ := ih (i + 1) segs1 hr1
    simp only [he1]
    exact ⟨j, segs', he, hr, by omega, by omega⟩

theorem sqFinish_good (f : SqFile) (off n : Nat) (segs : List Seg) (hrun : Run off (min n (f.size - off)) segs) :
    ReadGood f.size off n
      (sqFinish Cfg.fixed f (min n (f.size - off)) ⟨off + min n (f.size - off), min n (f.size - off), segs⟩) := by
  unfold sqFinish
  simp only [Cfg.fixed, not_true, false_or]
  split
  · rename_i he; exact ⟨segs, hrun, by simp [he]⟩
  · rename_i he
    rw [if_neg (by omega)]
    exact ⟨segs, hrun, by simp [he]⟩

theorem sqRead_good (f : SqFile) (hwf : f.WF) (off n : Nat) :
    ReadGood f.size off n (sqRead Cfg.fixed f off n) := by
  obtain ⟨hb, hlay⟩ := hwf
  unfold sqRead
  by_cases hend : f.size ≤ off
  · rw [if_pos hend]; exact ReadGood.eof n hend
  simp only [if_neg hend]
  have hfin := sqFinish_good f off n
  have hmn : min n (f.size - off) ≤ n := Nat.min_le_left ..
  have hms : off + min n (f.size - off) ≤ f.size := by omega
  generalize min n (f.size - off) = m at *
  -- the block loop, from block 0 with nothing delivered
  have h0 : sqDone f.bs off m 0 = 0 := sqDone_eq_zero m (by rw [Nat.zero_mul]; exact Nat.zero_le _)
  have hloop := fun endP1 => sqLoop_run f off m n endP1 hb hms hmn f.nblocks 0 [] (h0.symm ▸ Run.nil off)
  simp only [sqAt, h0, Nat.add_zero, Nat.zero_add] at hloop
  by_cases hfr : f.nblocks ≤ (off + m - 1) / f.bs
  · -- the request reaches behind the data blocks
    have hfr' := (Nat.le_div_iff_mul_le hb).1 hfr
    obtain ⟨j, segs, he, hr, hj, hpost⟩ := hloop ((off + m - 1) / f.bs)
    simp only [hfr, decide_true, if_true, he, and_true]
    by_cases hD : sqDone f.bs off m j < m
    · -- the loop went through all data blocks: the rest is in the fragment
      have hjn : j = f.nblocks := by omega
      subst hjn
      have hfrag : f.frag = true ∧ f.nblocks = f.size / f.bs := by
        rcases hlay with h | h
        · exact h
        · omega
      have hdm := Nat.div_add_mod' f.size f.bs
      rw [← hfrag.2] at hdm
      have hc := sqDone_cursor hD
      obtain ⟨segs', he', hr'⟩ := sqOutput_run (len := f.size % f.bs) (t' := m) hmn (Nat.le_of_lt hD) hr (hc ▸ Nat.le_max_right ..)
        (by omega) (by rw [hdm, Nat.min_eq_left hms])
      simp only [if_pos hD, hfrag.1, not_true, if_false, he']
      exact hfin segs' hr'
    · have hD : sqDone f.bs off m j = m := Nat.le_antisymm (sqDone_le ..) (Nat.le_of_not_lt hD)
      rw [hD] at hr ⊢
      rw [if_neg (Nat.lt_irrefl m)]
      exact hfin segs hr
  · -- the request ends inside the data blocks: the loop serves all of it
    obtain ⟨j, segs, he, hr, hj, hpost⟩ := hloop ((off + m - 1) / f.bs + 1)
    have hD : sqDone f.bs off m j = m := by
      rcases Nat.lt_or_ge (sqDone f.bs off m j) m with hlt | hge
      · have := (Nat.div_lt_iff_lt_mul hb).1 (show (off + m - 1) / f.bs < j by omega)
        exact sqDone_of_ge (by omega)
      · exact Nat.le_antisymm (sqDone_le ..) hge
    rw [hD] at hr he
    simp only [hfr, decide_false, Bool.false_eq_true, if_false, and_false, he]
    exact hfin segs hr

def FileM.WF : FileM → Prop
  | .fat f => f.WF
  | .ext4 f => f.WF
  | .iso _ => True
  | .sqfs f => f.WF

theorem readOpen_good (fm : FileM) (hwf : fm.WF) (off n : Nat) :
    ReadGood fm.size off n (readOpen Cfg.fixed fm off n) := by
  cases fm with
  | fat f => exact fatRead_good f hwf off n
  | ext4 f => exact ext4Read_good f hwf off n
  | iso s => exact isoRead_good s off n
  | sqfs f => exact sqRead_good f hwf off n

theorem armsOf_fixed (fm : FileM) : armsOf Cfg.fixed fm = SeekArms.canonical := by
  cases fm <;> rfl

theorem seekWith_canonical (size pos : Nat) (w : Whence) (o : Int) :
    SeekOK size pos w o (seekWith SeekArms.canonical size pos w o).1
      (seekWith SeekArms.canonical size pos w o).2 := by
  have heq : (SeekArms.canonical.pick w).eval size pos o = seekTarget size pos w o := by
    cases w <;> rfl
  unfold seekWith SeekOK
  simp only [heq]
  split <;> exact ⟨rfl, rfl⟩

/-- the model's answers as the specification sees them -/
def toSpec (store : Dev) : MOut → HOut
  | .read (.ok segs eof) => .data (segsData store segs) eof
  | .read .errClosed => .failed
  | .read (.errOther _) => .failed
  | .read .panic => .crashed
  | .read .unmodelled => .crashed
  | .seek ret => .pos ret
  | .seekClosed => .failed
  | .seekPanic => .crashed
  | .closed => .done

/-- the call / answer history of a model handle -/
def histM (c : Cfg) (fm : FileM) (store : Dev) : H → List HOp → List (HOp × HOut)
  | _, [] => []
  | h, op :: ops =>
    let r := stepM c fm h op
    (op, toSpec store r.1) :: histM c fm store r.2 ops

end Diskfs.ReadSeek
