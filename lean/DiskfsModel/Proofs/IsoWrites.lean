/-
  The WriteAt calls as the Go code issues them (`writesGo`: a file in 2048-byte chunks, then the zero
  fill of its last block) leave on every device what the one-write-per-file list `writes` leaves, and
  each of them ends inside the declared volume.
-/
import DiskfsModel.Model.Iso.Writes
import DiskfsModel.Proofs.IsoImage
namespace Diskfs.Iso

theorem applyWr_append (d : Dev) (off : Nat) (a b : Bytes) :
    applyWr (applyWr d ⟨off, a⟩) ⟨off + a.length, b⟩ = applyWr d ⟨off, a ++ b⟩ := by
  funext i
  unfold applyWr
  simp only [List.length_append]
  by_cases h1 : off + a.length ≤ i ∧ i < off + a.length + b.length
  · rw [if_pos h1, if_pos (by omega)]
    have : i - off = a.length + (i - (off + a.length)) := by omega
    rw [this, List.getD_eq_getElem?_getD, List.getD_eq_getElem?_getD, List.getElem?_append_right (by omega)]
    simp
  · rw [if_neg h1]
    by_cases h2 : off ≤ i ∧ i < off + a.length
    · rw [if_pos h2, if_pos (by omega)]
      rw [List.getD_eq_getElem?_getD, List.getD_eq_getElem?_getD, List.getElem?_append_left (by omega)]
    · rw [if_neg h2, if_neg (by omega)]

theorem chunkWrs_nil (k fuel off : Nat) : chunkWrs k fuel off [] = [] := by cases fuel <;> rfl

theorem chunkWrs_apply (k : Nat) (hk : 0 < k) (fuel off : Nat) (b : Bytes) (d : Dev) (h : b.length ≤ fuel) :
    applyWrs d (chunkWrs k fuel off b) = applyWr d ⟨off, b⟩ := by
  induction fuel generalizing off b d with
  | zero => rw [List.eq_nil_of_length_eq_zero (Nat.le_zero.1 h), chunkWrs_nil, applyWr_nil]; rfl
  | succ fuel ih =>
    cases b with
    | nil => rw [chunkWrs_nil, applyWr_nil]; rfl
    | cons x xs =>
      show applyWrs (applyWr d ⟨off, (x :: xs).take k⟩) (chunkWrs k fuel (off + k) ((x :: xs).drop k)) = _
      rw [ih _ _ _ (by simp at h ⊢; omega)]
      rcases Nat.le_total k (x :: xs).length with hkb | hkb
      · have := applyWr_append d off ((x :: xs).take k) ((x :: xs).drop k)
        rwa [List.length_take, Nat.min_eq_left hkb, List.take_append_drop] at this
      · rw [List.drop_eq_nil_of_le hkb, List.take_of_length_le hkb, applyWr_nil]

theorem fileWrs_apply (bs off : Nat) (c : Bytes) (d : Dev) :
    applyWrs d (fileWrs bs off c) = applyWr d ⟨off, padBlock bs c⟩ := by
  rw [fileWrs, applyWrs_append, chunkWrs_apply copyChunk (by decide) _ _ _ _ (Nat.le_refl _), padBlock]
  split
  · rename_i hr
    rw [fill_mod bs _ hr]
    exact applyWr_append d off c _
  · rw [show c.length % bs = 0 by omega, Nat.sub_zero, Nat.mod_self]
    simp [zeros, applyWrs]

theorem flatMap_fileWrs_apply (bs : Nat) (loc : Nat → Nat) (content : Nat → Bytes) (fs : List Nat) (d : Dev) :
    applyWrs d (fs.flatMap fun f => fileWrs bs (loc f * bs) (content f)) =
    applyWrs d (fs.map fun f => ⟨loc f * bs, padBlock bs (content f)⟩) := by
  induction fs generalizing d with
  | nil => rfl
  | cons f fs ih =>
    simp only [List.flatMap_cons, List.map_cons, applyWrs_append, fileWrs_apply, ih]
    simp [applyWrs]

theorem writesGo_apply (i : ImageIn) (d : Dev) : applyWrs d i.writesGo = applyWrs d i.writes := by
  unfold ImageIn.writesGo ImageIn.writes ImageIn.midGo ImageIn.mid
  simp only [applyWrs, List.foldl_cons, List.foldl_append]
  have := flatMap_fileWrs_apply i.bs (fun f => (i.t.ent f).loc) (fun f => (i.t.ent f).content) i.files
  simp only [applyWrs] at this
  rw [this]

theorem imageOn_eq (i : ImageIn) (d0 : Dev) : i.imageOn d0 = applyWrs d0 i.writes := writesGo_apply i d0

theorem image_pvd_on (i : ImageIn) (d0 : Dev) (hdisj : i.writes.Pairwise WrDisjoint) (hp : i.pvd.WF) :
    readAt (i.imageOn d0) (16 * i.bs) 2048 = encodePVD i.pvd := by
  rw [imageOn_eq]
  exact pvd_read_back i d0 hdisj hp

theorem chunkWrs_range (k fuel off : Nat) (b : Bytes) :
    ∀ w ∈ chunkWrs k fuel off b, w.off + w.data.length ≤ off + b.length := by
  induction fuel generalizing off b with
  | zero => intro w hw; cases hw
  | succ fuel ih =>
    intro w hw
    cases b with
    | nil => rw [chunkWrs_nil] at hw; cases hw
    | cons x xs =>
      rcases List.mem_cons.1 (show w ∈ _ :: _ from hw) with rfl | hw
      · simp only [List.length_take]; omega
      · have := ih (off + k) _ w hw
        rcases Nat.le_total k (x :: xs).length with hkb | hkb
        · rw [List.length_drop] at this; omega
        · rw [List.drop_eq_nil_of_le hkb, chunkWrs_nil] at hw; cases hw

theorem fileWrs_range (bs off : Nat) (c : Bytes) :
    ∀ w ∈ fileWrs bs off c, w.off + w.data.length ≤ off + (padBlock bs c).length := by
  intro w hw
  rw [padBlock_length]
  rcases List.mem_append.1 hw with hw | hw
  · have := chunkWrs_range copyChunk c.length off c w hw
    omega
  · split at hw
    · rename_i hr
      rw [List.mem_singleton.1 hw, fill_mod bs _ hr]
      simp only [zeros_length]
      omega
    · cases hw

theorem midGo_in_mid (i : ImageIn) : ∀ w ∈ i.midGo, ∃ x ∈ i.mid, w.off + w.data.length ≤ x.off + x.data.length := by
  intro w hw
  rcases List.mem_append.1 hw with hw | hw
  · exact ⟨w, List.mem_append_left _ hw, Nat.le_refl _⟩
  · rcases List.mem_append.1 hw with hw | hw
    · exact ⟨w, List.mem_append_right _ (List.mem_append_left _ hw), Nat.le_refl _⟩
    · obtain ⟨f, hf, hwf⟩ := List.mem_flatMap.1 hw
      exact ⟨_, i.file_mem_mid hf, fileWrs_range i.bs _ _ w hwf⟩

theorem writesGo_in_volume (i : ImageIn) (hbs : 2048 ≤ i.bs) (hp : i.pvd.WF) (hpl : i.Placed) :
    ∀ w ∈ i.writesGo, w.off + w.data.length ≤ i.volBlocks * i.bs := by
  have hO := ordered_inside i hbs hp hpl
  intro w hw
  simp only [ImageIn.writesGo, List.mem_cons, List.mem_append, List.not_mem_nil, or_false] at hw
  rcases hw with rfl | hw | rfl | rfl
  · exact hO _ (.head _)
  · obtain ⟨x, hx, hwx⟩ := midGo_in_mid i w hw
    exact Nat.le_trans hwx (hO x (.tail _ (.tail _ (.tail _ hx))))
  · exact hO _ (.tail _ (.head _))
  · exact hO _ (.tail _ (.tail _ (.head _)))

end Diskfs.Iso
