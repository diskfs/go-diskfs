/-
  List facts the squashfs proofs share, beyond those of Proofs/Lists.lean.  `getD` below the
  length; and `flatten` of a list of pieces, which is how every squashfs table comes about: the
  place of the `i`-th piece in the whole (an inode or a listing in its metadata stream).
  Core Lean only.
-/
import DiskfsModel.Core.Bytes
import DiskfsModel.Proofs.Lists
namespace Diskfs.Sqfs

theorem getD_map_of_lt {α β} (f : α → β) (l : List α) (i : Nat) (d : β) (d' : α) (h : i < l.length) :
    (l.map f).getD i d = f (l.getD i d') := by
  rw [getD_eq_of_lt _ _ _ (by simpa using h), List.getElem_map, getD_eq_of_lt _ _ _ h]

theorem getD_mem {α} (l : List α) (i : Nat) (d : α) (h : i < l.length) : l.getD i d ∈ l :=
  getD_eq_of_lt l i d h ▸ List.getElem_mem h

theorem sum_flatten_nat (l : List (List Nat)) : l.flatten.sum = (l.map List.sum).sum := by
  induction l with
  | nil => rfl
  | cons a r ih => simp [ih]

theorem flatten_split (l : List Bytes) (i : Nat) (hi : i < l.length) :
    l.flatten = (l.take i).flatten ++ (l.getD i [] ++ (l.drop (i + 1)).flatten) := by
  conv => lhs; rw [← List.take_append_drop i l, List.drop_eq_getElem_cons hi]
  rw [List.flatten_append, List.flatten_cons, getD_eq_of_lt _ _ _ hi]

theorem flatten_drop_prefix (l : List Bytes) (i : Nat) (hi : i < l.length) :
    l.flatten.drop (l.take i).flatten.length = l.getD i [] ++ (l.drop (i + 1)).flatten := by
  conv => lhs; rw [flatten_split l i hi, List.drop_left]

theorem flatten_take_length (l : List Bytes) (k : Nat) : (l.take k).flatten.length = ((l.map List.length).take k).sum := by
  rw [List.length_flatten, List.map_take]

theorem flatten_take_le (l : List Bytes) (i : Nat) : (l.take i).flatten.length ≤ l.flatten.length := by
  conv => rhs; rw [← List.take_append_drop i l]
  rw [List.flatten_append, List.length_append]
  exact Nat.le_add_right _ _

theorem flatten_take_lt (l : List Bytes) (i : Nat) (hi : i < l.length) (hne : 0 < (l.getD i []).length) :
    (l.take i).flatten.length < l.flatten.length := by
  have := congrArg List.length (flatten_split l i hi)
  simp only [List.length_append] at this
  omega

end Diskfs.Sqfs
