/-
  For C12 (Props/C12.lean): partition.Read over the real acceptance conditions of gpt.Read and mbr.Read
  (Model/DetectTable.lean `tableRead`), composed with the write lists of gpt.Table.Write (Model/Gpt.lean;
  Proofs/GptGeom.lean `writeUp_exact`, Proofs/GptGeomRegions.lean `write_regionsG`, Proofs/GptGeomWhole.lean
  `read_after_primary`, on the layout this library creates itself through `write_std` / `std_geom`): what sector 0
  holds afterwards, and that a later mbr.Table.Write does not disturb gpt.Read.
-/
import DiskfsModel.Model.DetectTable
import DiskfsModel.Proofs.GptWhole
import DiskfsModel.Proofs.GptValid
import DiskfsModel.Proofs.GptGeomValid
import DiskfsModel.Proofs.MbrTable
namespace Diskfs.Detect
open Diskfs.Gpt

theorem legacyMBR_congr (d d' : Dev) (h : ∀ i, i < 512 → d i = d' i) : legacyMBR d = legacyMBR d' := by
  have t : ∀ i, i < 4 → mbrType d i = mbrType d' i := fun i hi => by
    unfold mbrType; rw [h _ (by omega)]
  unfold legacyMBR
  rw [h 510 (by omega), h 511 (by omega)]
  simp only [List.range, List.range.loop, List.any_cons, List.any_nil, Bool.or_false]
  rw [t 0 (by omega), t 1 (by omega), t 2 (by omega), t 3 (by omega)]

theorem mbrRead_congr (d d' : Dev) (devSize : Nat) (h : ∀ i, i < 512 → d i = d' i) :
    Mbr.read d devSize = Mbr.read d' devSize := by
  unfold Mbr.read
  rw [readAt_congr d d' 0 512 (fun i _ hi => h i (by omega))]

theorem legacyMBR_protective (d : Dev) (h : d 450 = 0xEE) : legacyMBR d = false := by
  have : mbrType d 0 = 0xEE := by simp [mbrType, h]
  simp [legacyMBR, List.range, List.range.loop, this]

theorem gpt_write_nopmbr_frame (c : Cfg) (crc : Bytes → Nat) (d : Dev) (t0 : Table) (size : Nat) (ws : List Wr) (t : Table)
    (hf : Fresh t0) (hl : t0.lss = 512 ∨ t0.lss = 4096) (hsz : size < two63)
    (hmin : (2 * (16384 / t0.lss) + 3) * t0.lss ≤ size) (hpm : t0.pmbr = false)
    (hw : write c crc t0 size = .ok (ws, t)) (i : Nat) (hi : i < 512) : applyWrs d ws i = d i := by
  obtain ⟨w, e⟩ := write_std c crc t0 size hf hl hsz hmin
  obtain ⟨_, _, _, _, _, _, ipm, _⟩ := initTable_geo t0 size hf hl hsz hmin
  rw [e] at hw
  obtain ⟨arr, ps, -, -, -, hws⟩ := writeUp_exact c crc _ size ws t w hw
  obtain ⟨_, _, _, _, g5, g6, _⟩ := layout_regions _ size w
  have hpw : pmWrs c (initTable t0 size) = [] := if_neg (by rw [ipm, hpm]; exact Bool.false_ne_true)
  rw [hpw, List.append_nil, List.nil_append, ite_self] at hws
  have h512 := w.lss
  -- every write starts at or after byte `lss`
  apply applyWrs_frame
  intro v hv
  left
  rw [hws] at hv
  simp only [coreUp, List.mem_cons, List.not_mem_nil, or_false] at hv
  rcases hv with rfl | rfl | rfl | rfl <;> simp only <;> omega

/-- with a protective MBR, byte 450 (the OS type of slot 0) is 0xEE afterwards -/
theorem gpt_write_pmbr_type (c : Cfg) (crc : Bytes → Nat) (d : Dev) (t0 : Table) (size : Nat) (ws : List Wr) (t : Table)
    (hf : Fresh t0) (hl : t0.lss = 512 ∨ t0.lss = 4096) (hg : t0.guid.length = 16) (hsz : size < two63)
    (hmin : (2 * (16384 / t0.lss) + 3) * t0.lss ≤ size) (hpm : t0.pmbr = true)
    (hw : write c crc t0 size = .ok (ws, t)) : applyWrs d ws 450 = 0xEE := by
  obtain ⟨hgw, _, e⟩ := std_geom c crc t0 size hf hl hg hsz hmin
  obtain ⟨_, _, _, _, _, _, ipm, _⟩ := initTable_geo t0 size hf hl hsz hmin
  rw [e] at hw
  obtain ⟨arr, ps, -, -, -, -, -, -, -, -, r5⟩ := write_regionsG c crc d _ size ws t hgw hw
  rw [← readAt_getD (applyWrs d ws) 446 66 4 (by omega), r5 (ipm ▸ hpm)]
  exact (pmbrEnc_shape c (initTable t0 size)).2.1

/-- gpt.Table.Write, then mbr.Table.Write (which rewrites bytes 446..511 and nothing else): gpt.Read still accepts
    the primary copy - header at LBA 1 and entry array at LBA 2 are untouched - and returns the GPT partitions -/
theorem gpt_read_after_mbr_write (c : Cfg) (crc : Bytes → Nat) (hcrc : ∀ b, crc b < two32) (d : Dev)
    (t0 : Table) (size : Nat) (ws : List Wr) (t : Table) (mps : List Mbr.Part)
    (hf : Fresh t0) (hlss : t0.lss = 512 ∨ t0.lss = 4096) (hg : t0.guid.length = 16)
    (hwf : ∀ p ∈ t0.parts, allZero p.typ = true ∨ (EntryWF p ∧ p.size < two64))
    (hmin : 2 * t0.lss + 16384 ≤ size)
    (hw : write c crc t0 size = .ok (ws, t)) :
    ∃ t', (Gpt.read c crc (applyWrs d (ws ++ Mbr.write mps)) size t0.lss).1 = .ok t' ∧ t'.parts = normParts t.parts 128 := by
  obtain ⟨il, _, iac, _, _, ipa, _⟩ := initTable_fresh t0 size hf hlss
  have hp := initTable_primary t0 size hf hlss hg hmin
  rw [write_fresh_eq c crc t0 size hf hlss] at hw
  obtain ⟨pre, post, arr, ps, hws, hpost, harr, ht⟩ := writeUp_shape c crc _ size ws t (by simp [initTable]) hp.ph hp.lss63 hw
  have hpost' : ∀ w ∈ post ++ Mbr.write mps, w.off = 446 ∧ w.data.length = 66 := by
    intro w hwm
    rcases List.mem_append.1 hwm with h | h
    · exact hpost w h
    · simp only [Mbr.write, List.mem_singleton] at h
      subst h
      exact ⟨rfl, Mbr.tableEnc_length mps⟩
  obtain ⟨pm, hr⟩ := read_after_primary c crc hcrc d _ size pre (post ++ Mbr.write mps) arr ps hp (ipa ▸ hwf) hpost' harr
  rw [← List.append_assoc, ← hws, il] at hr
  exact ⟨_, hr, by rw [ht, reread, iac]⟩

end Diskfs.Detect
