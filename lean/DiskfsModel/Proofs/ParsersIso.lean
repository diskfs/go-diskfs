/-
  C18 parsers — iso9660 path table, system use area, directory records.
-/
import DiskfsModel.Proofs.ParsersBase
namespace Diskfs.Parsers.Iso
open Diskfs.Parsers Out

/-- every record is at least 10 bytes long (8 + a non-empty name, padded to even length) -/
theorem pathLoop_lands (b : GS) (hwf : b.wf) :
    ∀ (fuel i : Nat) (acc : List PathEnt), Lands (0 < fuel ∧ b.len + 10 ≤ i + 10 * fuel) True
      (fun l => 9 * l.length ≤ 9 * acc.length + (b.len - i)) (pathLoop true b fuel i acc) := by
  unfold GS.wf at hwf
  intro fuel
  induction fuel with
  | zero => intro i acc; exact .fuel (by omega)
  | succ n ih =>
    intro i acc
    rw [pathLoop]
    -- the three `break`s return the records read so far
    refine .ite (fun _ => .ok (by omega)) fun hi => ?_
    refine idx_bind_lands (fun _ => by omega) fun _ => .ite (fun _ => .ok (by omega)) fun h0 => ?_
    refine .ite (fun _ => .ok (by omega)) fun hfit => ?_
    simp only [Bool.true_and, decide_eq_true_eq] at hfit
    refine idx_bind_lands (fun _ => by omega) fun _ => ?_
    refine le_bind_lands (fun _ => by omega) fun _ => le_bind_lands (fun _ => by omega) fun _ => ?_
    refine slc_bind_lands (fun _ => by omega) fun _ _ => (ih _ _).mono (by split <;> omega) fun l hl => ?_
    simp only [List.length_append, List.length_cons, List.length_nil] at hl
    split at hl <;> omega

theorem suspEntry_lands {F : Prop} (cfg : Cfg) (sig : Bytes) (sb : GS) (hwf : sb.wf) (h4 : 4 ≤ sb.len) :
    Lands F (cfg.er = true) (fun _ => True) (suspEntry cfg sig sb) := by
  unfold GS.wf at hwf
  unfold suspEntry
  -- seven parsers, some thirty slices and indices: the `Lands` rules are tried in turn.  Each fits one construct
  -- of the mirror, so this is dispatch on the head of the goal; under `with_reducible` a rule that does not fit
  -- fails at once (`refine` with arguments unfolds the mirror and looks for coercions first).  What remains
  -- are the bounds, each from the guards on its path.
  repeat' with_reducible first
    | apply Lands.ite
    | apply idx_bind_lands
    | exact Lands.err
    | exact Lands.pure trivial
    | apply le_bind_lands
    | apply slc_bind_lands
    | apply be_bind_lands
    | intro _
  -- only the ER entry needs `cfg.er`: its guard `cfg.er && len < 8` gives `8 ≤ len` then
  all_goals first
    | omega
    | (simp only [‹cfg.er = true›, Bool.true_and, decide_eq_true_eq] at *; omega)

/-- every system use entry is at least 4 bytes long -/
theorem suspLoop_lands (cfg : Cfg) (b : GS) (hwf : b.wf) :
    ∀ fuel i acc, Lands (0 < fuel ∧ b.len + 4 ≤ i + 4 * fuel) (cfg.er = true) (fun _ => True)
      (suspLoop cfg b fuel i acc) := by
  have hcap := hwf
  unfold GS.wf at hcap
  intro fuel
  induction fuel with
  | zero => intro i acc; exact .fuel (by omega)
  | succ n ih =>
    intro i acc
    rw [suspLoop]
    refine .ite (fun _ => .ok trivial) fun hi => ?_
    refine slc_bind_lands (fun _ => by omega) fun _ _ => ?_
    refine idx_bind_lands (fun _ => by omega) fun size => ?_
    refine .ite (fun _ => .ok trivial) fun h4 => .ite (fun _ => .err) fun hfit => ?_
    refine slc_bind_lands (fun _ => by omega) fun _ _ => ?_
    exact .bind (suspEntry_lands cfg _ _ (wf_drop b hwf _ _ (by omega)) (by dsimp only; omega))
      fun e _ => (ih _ _).of_fuel (by omega)

/-- the system use area of a record is walked with `fuel` iterations: a quarter of the record's length
    is enough -/
theorem dirEntryFromBytes_lands (cfg : Cfg) (joliet : Bool) (b : GS) (hwf : b.wf) (fuel : Nat) :
    Lands (0 < fuel ∧ b.len ≤ 4 * fuel) (cfg.er = true) (fun _ => True) (dirEntryFromBytes cfg joliet b fuel) := by
  have hcap := hwf
  unfold GS.wf at hcap
  unfold dirEntryFromBytes parseSusp
  refine .ite (fun _ => .err) fun _ => idx_bind_lands (fun _ => by omega) fun _ => .ite (fun _ => .err) fun _ => ?_
  refine idx_bind_lands (fun _ => by omega) fun _ => le_bind_lands (fun _ => by omega) fun _ => ?_
  refine le_bind_lands (fun _ => by omega) fun _ => slc_bind_lands (fun _ => by omega) fun _ _ => ?_
  refine idx_bind_lands (fun _ => by omega) fun _ => le_bind_lands (fun _ => by omega) fun _ => ?_
  refine idx_bind_lands (fun _ => by omega) fun namelen => .ite (fun _ => .err) fun _ => ?_
  refine slc_bind_lands (fun _ => by omega) fun _ _ => ?_
  -- a name of one byte is looked at: `nameBytes[0]`
  refine .bind (Q := fun _ => True) (.ite (fun _ => ?_) fun _ => .pure trivial) fun _ _ => ?_
  · exact (idx_lands fun _ => by dsimp only; omega).mono id fun _ _ => trivial
  refine .bind (Q := fun _ => True) (.ite (fun hsu => ?_) fun _ => .pure trivial) fun _ _ => .pure trivial
  simp only [Bool.and_eq_true, decide_eq_true_eq] at hsu
  exact slc_bind_lands (fun _ => by omega) fun _ _ =>
    (suspLoop_lands cfg _ (wf_drop b hwf _ _ (by omega)) fuel 0 []).of_fuel (by dsimp only; omega)

theorem parseDirEntry_lands (cfg : Cfg) (b : GS) (hwf : b.wf) (fuel : Nat) :
    Lands (0 < fuel ∧ b.len ≤ 4 * fuel) (cfg.er = true) (fun _ => True) (parseDirEntry cfg b fuel) := by
  have hcap := hwf
  unfold GS.wf at hcap
  unfold parseDirEntry
  refine .ite (fun _ => .err) fun _ => idx_bind_lands (fun _ => by omega) fun entryLen => ?_
  refine .ite (fun _ => .pure trivial) fun _ => .ite (fun _ => .err) fun _ => ?_
  refine slc_bind_lands (fun _ => by omega) fun _ _ => ?_
  exact .bind ((dirEntryFromBytes_lands cfg false _ (wf_drop b hwf _ _ (by omega)) fuel).of_fuel
    fun _ => by dsimp only; omega) fun _ _ => .pure trivial

/-- `hj`: the record bound check is present (always for plain directories, `cfg.joliet` for Joliet ones).
    The walk advances by at least one byte per iteration, so `len + 1` iterations suffice. -/
theorem dirLoop_lands (cfg : Cfg) (joliet : Bool) (bs : Nat) (b : GS) (hwf : b.wf)
    (hbs : 0 < bs) (hj : joliet = false ∨ cfg.joliet = true) :
    ∀ fuel i acc, Lands (0 < fuel ∧ b.len + 1 ≤ i + fuel) (cfg.er = true) (fun _ => True)
      (dirLoop cfg joliet bs b fuel i acc) := by
  have hcap := hwf
  unfold GS.wf at hcap
  have hguard : (!joliet || cfg.joliet) = true := by rcases hj with hj | hj <;> simp [hj]
  intro fuel
  induction fuel with
  | zero => intro i acc; exact .fuel (by omega)
  | succ n ih =>
    intro i acc
    have hmod : i % bs < bs := Nat.mod_lt _ hbs
    rw [dirLoop]
    refine .ite (fun _ => .ok trivial) fun hi => ?_
    refine idx_bind_lands (fun _ => by omega) fun entryLen => ?_
    refine .ite (fun _ => .ite (fun _ => by omega) fun _ => (ih _ _).of_fuel (by omega)) fun h0 => ?_
    refine .ite (fun _ => .err) fun hfit => ?_
    simp only [hguard, Bool.true_and, decide_eq_true_eq] at hfit
    refine slc_bind_lands (fun _ => by omega) fun _ _ => .ite (fun _ => ?_) fun _ => ?_
    · exact .bind ((dirEntryFromBytes_lands cfg true _ (wf_drop b hwf _ _ (by omega)) _).of_fuel
        fun _ => by dsimp only; omega) fun de _ => (ih _ _).of_fuel (by omega)
    · refine .bind ((parseDirEntry_lands cfg _ (wf_drop b hwf _ _ (by omega)) _).of_fuel
        fun _ => by dsimp only; omega) fun de _ => ?_
      cases de <;> exact (ih _ _).of_fuel (by omega)

end Diskfs.Parsers.Iso
