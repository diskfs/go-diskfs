/-
  C13, disk level (Model/PartDisk.lean): the start/end/size switch of gpt WriteContents keeps the byte start, so
  the streaming loops of Proofs/PartIO.lean run over the range the table names; the arms of
  Disk.WritePartitionContents; ReadContents on a partition inside the device; and the pipe of
  sync.CopyPartitionRaw, which re-cuts the chunks and keeps their concatenation.
-/
import DiskfsModel.Model.PartDisk
import DiskfsModel.Proofs.PartIO
namespace Diskfs.PartDisk
open Diskfs Diskfs.PartIO

theorem getPartition_some (ps : List P) (idx : Int) (p : P) (h : getPartition ps idx = some p) :
    p.index = idx ∧ ∃ pre post, ps = pre ++ p :: post ∧ ∀ q ∈ pre, q.index ≠ idx := by
  unfold getPartition at h
  rw [List.find?_eq_some_iff_append] at h
  obtain ⟨hp, pre, post, hps, hpre⟩ := h
  exact ⟨by simpa using hp, pre, post, hps, fun q hq => by simpa using hpre q hq⟩

theorem getPartition_none (ps : List P) (idx : Int) : getPartition ps idx = none ↔ ∀ q ∈ ps, q.index ≠ idx := by
  simp [getPartition]

theorem getPartition_unique (ps : List P) (idx : Int) (p : P) (hp : p ∈ ps) (hi : p.index = idx)
    (huniq : ∀ a ∈ ps, ∀ b ∈ ps, a.index = b.index → a = b) : getPartition ps idx = some p := by
  cases h : getPartition ps idx with
  | none => exact absurd hi ((getPartition_none ps idx).1 h p hp)
  | some q =>
    rw [huniq q (List.mem_of_find?_eq_some h) p hp (by rw [(getPartition_some ps idx q h).1, hi])]

theorem lssOf_pos (p : P) : 0 < p.lssOf := by
  unfold P.lssOf; split <;> omega

theorem pssOf_pos (p : P) : 0 < p.pssOf := by
  unfold P.pssOf; split <;> omega

theorem byteSize_gpt (p : P) (hk : p.kind = .gpt) : p.byteSize = p.size := by
  unfold P.byteSize; rw [hk]

theorem reconcile_spec (p p' : P) (h : reconcile p = some p') :
    p'.kind = p.kind ∧ p'.index = p.index ∧ p'.start = p.start ∧ p'.lss = p.lss ∧ p'.pss = p.pss ∧
    p'.byteStart = p.byteStart ∧
    (p.kind = .mbr → p' = p) ∧
    (p.kind = .gpt → (0 < p.size ∧ p'.byteSize = p.size) ∨
                      (p.size = 0 ∧ p.start ≤ p.end_ ∧ p'.byteSize = calcSize p)) := by
  unfold reconcile at h
  cases hk : p.kind with
  | mbr =>
    simp only [hk] at h
    cases h
    exact ⟨hk, rfl, rfl, rfl, rfl, rfl, fun _ => rfl, nofun⟩
  | gpt =>
    simp only [hk] at h
    -- the three accepting arms: Size as it is, Size assigned, End assigned
    split at h
    · rename_i h1
      cases h
      exact ⟨hk, rfl, rfl, rfl, rfl, rfl, nofun, fun _ => .inl ⟨h1.1, byteSize_gpt p hk⟩⟩
    · split at h
      · rename_i h2
        cases h
        exact ⟨rfl, rfl, rfl, rfl, rfl, rfl, nofun, fun _ => .inr ⟨h2.1, h2.2, byteSize_gpt _ rfl⟩⟩
      · split at h
        · rename_i h3
          cases h
          exact ⟨rfl, rfl, rfl, rfl, rfl, rfl, nofun, fun _ => .inl ⟨h3.1, byteSize_gpt _ rfl⟩⟩
        · cases h

theorem reconcile_byteStart {p p' : P} (h : reconcile p = some p') : p'.byteStart = p.byteStart :=
  (reconcile_spec p p' h).2.2.2.2.2.1

theorem calcSize_exact (p : P) (h1 : p.start ≤ p.end_) (h3 : (p.end_ - p.start + 1) * p.lssOf < two64) :
    calcSize p = (p.end_ - p.start + 1) * p.lssOf := by
  unfold calcSize
  have hle : p.end_ - p.start + 1 ≤ (p.end_ - p.start + 1) * p.lssOf := Nat.le_mul_of_pos_right _ (lssOf_pos p)
  rw [show p.end_ + two64 - p.start + 1 = (p.end_ - p.start + 1) + two64 by omega, Nat.add_mod_right,
    Nat.mod_eq_of_lt (Nat.lt_of_le_of_lt hle h3), Nat.mod_eq_of_lt h3]

set_option linter.unusedVariables false in
theorem reconcile_consistent (p : P) (hk : p.kind = .gpt) (h1 : p.start ≤ p.end_) (h2 : p.end_ < two64)
    (h3 : (p.end_ - p.start + 1) * p.lssOf < two64) (hs : p.size = (p.end_ - p.start + 1) * p.lssOf) :
    reconcile p = some p := by
  have hpos : 0 < p.size := by rw [hs]; exact Nat.mul_pos (by omega) (lssOf_pos p)
  unfold reconcile
  simp only [hk]
  rw [if_pos ⟨hpos, by rw [calcSize_exact p h1 h3, hs]⟩]

theorem writeContents_in_reconciled {p p' : P} (hr : reconcile p = some p') (chunks : List Bytes) (w : Wr)
    (hw : w ∈ (writeContents p'.byteStart p'.byteSize chunks).ws) :
    p.byteStart ≤ w.off ∧ w.off + w.data.length ≤ p.byteStart + p'.byteSize :=
  reconcile_byteStart hr ▸ writeLoop_in_range p'.byteStart p'.byteSize chunks 0 [] nofun w hw

theorem diskWrite_noTable (idx : Int) (chunks : List Bytes) : (diskWrite none idx chunks).ws = [] := rfl

theorem diskWrite_badIndex (ps : List P) (idx : Int) (chunks : List Bytes) (h : getPartition ps idx = none) :
    (diskWrite (some ps) idx chunks).ws = [] := by
  simp [diskWrite, h, DW.ws]

theorem diskWrite_unreconciled (ps : List P) (idx : Int) (chunks : List Bytes) (p : P)
    (h : getPartition ps idx = some p) (hr : reconcile p = none) : (diskWrite (some ps) idx chunks).ws = [] := by
  simp [diskWrite, h, partWrite, hr, DW.ws]

theorem diskWrite_done (ps : List P) (idx : Int) (chunks : List Bytes) (p p' : P)
    (h : getPartition ps idx = some p) (hr : reconcile p = some p') :
    diskWrite (some ps) idx chunks = .done (writeContents p'.byteStart p'.byteSize chunks) := by
  simp [diskWrite, h, partWrite, hr]

theorem diskWrite_in_partition (tbl : Option (List P)) (idx : Int) (chunks : List Bytes) (w : Wr)
    (hw : w ∈ (diskWrite tbl idx chunks).ws) :
    ∃ ps p p', tbl = some ps ∧ getPartition ps idx = some p ∧ reconcile p = some p' ∧
      p.byteStart ≤ w.off ∧ w.off + w.data.length ≤ p.byteStart + p'.byteSize := by
  cases tbl with
  | none => cases hw
  | some ps =>
    cases hg : getPartition ps idx with
    | none => rw [diskWrite_badIndex ps idx chunks hg] at hw; cases hw
    | some p =>
      cases hr : reconcile p with
      | none => rw [diskWrite_unreconciled ps idx chunks p hg hr] at hw; cases hw
      | some p' =>
        rw [diskWrite_done ps idx chunks p p' hg hr] at hw
        exact ⟨ps, p, p', rfl, hg, hr, writeContents_in_reconciled hr chunks w hw⟩

theorem oneChunk_false_of_size (p : P) (h : p.kind = .gpt → 0 < p.size) : p.oneChunk = false := by
  unfold P.oneChunk
  cases hk : p.kind with
  | mbr => rfl
  | gpt => simp [Nat.ne_of_gt (h hk)]

theorem partRead_exact (d : Dev) (devSize : Nat) (p : P) (h1 : p.oneChunk = false)
    (hdev : p.byteStart + p.byteSize ≤ devSize) :
    partRead d devSize p = (readAt d p.byteStart p.byteSize, p.byteSize) := by
  unfold partRead
  rw [h1, if_neg Bool.false_ne_true, readContents, readLoop_spec d devSize _ _ _ hdev (pssOf_pos p) 0 [] (Nat.zero_le _)]
  rfl

theorem partReadReqs_spec (devSize : Nat) (p : P) (h1 : p.oneChunk = false)
    (hdev : p.byteStart + p.byteSize ≤ devSize) :
    (∀ r ∈ partReadReqs devSize p, p.byteStart ≤ r.1 ∧ r.1 + r.2 ≤ p.byteStart + p.byteSize ∧ r.2 ≤ p.pssOf) ∧
    ((partReadReqs devSize p).map (·.2)).sum = p.byteSize ∧
    ∀ d : Dev, (partReadChunks d devSize p).flatten = readAt d p.byteStart p.byteSize := by
  obtain ⟨ext, he, hin, hsum, hfl⟩ :=
    readReqs_spec devSize p.byteStart p.byteSize p.pssOf hdev (pssOf_pos p) 0 [] (Nat.zero_le _)
  unfold partReadChunks partReadReqs
  rw [h1, if_neg Bool.false_ne_true, he]
  exact ⟨hin, hsum, hfl⟩

theorem partReadReqs_inside (devSize : Nat) (p : P) (h1 : p.oneChunk = false)
    (hdev : p.byteStart + p.byteSize ≤ devSize) :
    (∀ r ∈ partReadReqs devSize p, p.byteStart ≤ r.1 ∧ r.1 + r.2 ≤ p.byteStart + p.byteSize ∧ r.2 ≤ p.pssOf) ∧
    ((partReadReqs devSize p).map (·.2)).sum = p.byteSize :=
  have h := partReadReqs_spec devSize p h1 hdev
  ⟨h.1, h.2.1⟩

theorem splitEvery_flatten (n : Nat) (c : Bytes) (hn : 0 < n) : (splitEvery n c).flatten = c := by
  fun_induction splitEvery n c with
  | case1 c h => exact (List.eq_nil_of_length_eq_zero (by omega)).symm
  | case2 c h ih => rw [List.flatten_cons, ih, List.take_append_drop]

theorem flatMap_splitEvery_flatten (n : Nat) (hn : 0 < n) (cs : List Bytes) :
    (cs.flatMap (splitEvery n)).flatten = cs.flatten := by
  induction cs with
  | nil => rfl
  | cons c cs ih => rw [List.flatMap_cons, List.flatten_append, List.flatten_cons, ih, splitEvery_flatten n c hn]

theorem copyRaw_in_target (d : Dev) (devSize : Nat) (ps : List P) (from_ to : Int) (w : Wr)
    (hw : w ∈ (copyRaw d devSize ps from_ to).ws) :
    ∃ tp tp', getPartition ps to = some tp ∧ reconcile tp = some tp' ∧
      tp.byteStart ≤ w.off ∧ w.off + w.data.length ≤ tp.byteStart + tp'.byteSize := by
  -- whatever else happens, the WriteAt list is the one WritePartitionContents(to) produces
  unfold copyRaw at hw
  cases ht : getPartition ps to with
  | none => simp only [ht] at hw; cases hw
  | some tp =>
    cases hr : reconcile tp with
    | none => simp only [ht, hr] at hw; cases hw
    | some tp' =>
      simp only [ht, hr] at hw
      generalize getPartition ps from_ = src at hw
      cases src <;> simp only [apply_ite CopyRes.ws, ite_self] at hw <;>
        exact ⟨tp, tp', rfl, hr, writeContents_in_reconciled hr _ w hw⟩

theorem copyRaw_correct (d : Dev) (devSize : Nat) (ps : List P) (from_ to : Int) (sp tp tp' : P)
    (hs : getPartition ps from_ = some sp) (ht : getPartition ps to = some tp) (hr : reconcile tp = some tp')
    (hne : from_ ≠ to) (hpos : 0 < sp.byteSize)
    (hsdev : sp.byteStart + sp.byteSize ≤ devSize) (htdev : tp.byteStart + tp'.byteSize ≤ devSize)
    (hfit : sp.byteSize ≤ tp'.byteSize)
    (hdisj : sp.byteStart + sp.byteSize ≤ tp.byteStart ∨ tp.byteStart + tp'.byteSize ≤ sp.byteStart) :
    (copyRaw d devSize ps from_ to).out = .ok ∧
    readAt (applyWrs d (copyRaw d devSize ps from_ to).ws) tp.byteStart sp.byteSize = readAt d sp.byteStart sp.byteSize ∧
    readAt (applyWrs d (copyRaw d devSize ps from_ to).ws) sp.byteStart sp.byteSize = readAt d sp.byteStart sp.byteSize ∧
    (∀ i, i < tp.byteStart ∨ tp.byteStart + tp'.byteSize ≤ i → applyWrs d (copyRaw d devSize ps from_ to).ws i = d i) := by
  have hb : tp'.byteStart = tp.byteStart := reconcile_byteStart hr
  -- neither partition is the Size = 0 case
  have hs1 : sp.oneChunk = false := oneChunk_false_of_size sp fun hk => byteSize_gpt sp hk ▸ hpos
  have ht1 : tp'.oneChunk = false := oneChunk_false_of_size tp' fun hk => byteSize_gpt tp' hk ▸ Nat.lt_of_lt_of_le hpos hfit
  -- what travels through the pipe: the source's bytes, re-cut
  have hfl := (partReadReqs_spec devSize sp hs1 hsdev).2.2 d
  have hn : ((partReadChunks d devSize sp).map List.length).sum = sp.byteSize := by
    rw [← List.length_flatten, hfl, readAt_length]
  obtain ⟨chunks, hch⟩ : ∃ chunks, chunks = (partReadChunks d devSize sp).flatMap (splitEvery tp'.pssOf) := ⟨_, rfl⟩
  have hfl2 : chunks.flatten = readAt d sp.byteStart sp.byteSize := by
    rw [hch, flatMap_splitEvery_flatten _ (pssOf_pos tp'), hfl]
  have hn2 : (chunks.map List.length).sum = sp.byteSize := by
    rw [← List.length_flatten, hfl2, readAt_length]
  -- the write side: everything is consumed and lands at the head of the target
  obtain ⟨htot, heff⟩ := writeContents_fits tp.byteStart tp'.byteSize chunks (by omega)
  have heff := heff d
  rw [hn2] at htot heff
  rw [hfl2] at heff
  have hframe := applyWrs_frame_range d _ tp.byteStart (tp.byteStart + tp'.byteSize)
    (writeLoop_in_range tp.byteStart tp'.byteSize chunks 0 [] nofun)
  have hsrc : readAt (applyWrs d (writeContents tp.byteStart tp'.byteSize chunks).ws) sp.byteStart sp.byteSize
      = readAt d sp.byteStart sp.byteSize :=
    readAt_congr _ _ _ _ fun i h1 h2 => hframe i (by omega)
  -- the model, step by step: nothing is refused, and the verification pass reads the same bytes twice
  have hcopy : copyRaw d devSize ps from_ to = ⟨(writeContents tp.byteStart tp'.byteSize chunks).ws, .ok⟩ := by
    unfold copyRaw
    simp only [hs, ht, hr, hb, hn, ← hch, htot]
    rw [if_neg (by omega), if_neg (by simp), if_neg hne, if_neg (by omega),
      partRead_exact _ devSize sp hs1 hsdev, partRead_exact _ devSize tp' ht1 (by rw [hb]; exact htdev)]
    simp only
    rw [readAt_take_of_le _ _ _ _ (Nat.le_refl _), readAt_take_of_le _ _ _ _ hfit, hb, heff, hsrc, if_pos rfl]
  rw [hcopy]
  exact ⟨rfl, heff, hsrc, hframe⟩

end Diskfs.PartDisk
