/-
  C09, any geometry: `Gpt.read` on the flat device is the record-level reader of Proofs/GptCrash.lean,
  instantiated with the model's real decoders (`readerOf`), on the record view `viewOf` — for devices whose
  header sectors, when they validate, describe geometry `g` (`read_view`); the same for partition.Read
  (`partread_view`).  How an array is put together from its sectors is a parameter `cat` of the reader:
  `flatReaderG` assembles it bytewise (`asm`), the readers of the 512/4096 layout and of the model driver
  concatenate (`join`); the statements of Props/C09 name both, and on a record view they give the same array
  (`asm_secs`, `join_secs`).
-/
import DiskfsModel.Proofs.GptCrashView
import DiskfsModel.Proofs.GptRobust
namespace Diskfs.GptCrash
open Diskfs Diskfs.Gpt

/-- what a caller of gpt.Read observes that C09 is about: the partition list and which copy it came from -/
def outOf (r : Res Table) : Out (List Part) :=
  match r with
  | .ok t => .ok t.parts t.backup
  | _ => .err

/-- the record-level reader built from the model's real decoders for geometry `g`: `readHeader`
    (signature, revision, size, header CRC) plus the geometry — primary array at `g.aP`, backup header
    saying it lives at `g.hB` with its array at `g.aB`, `g.n` entries of 128 bytes —, the CRC of the array
    `cat` makes of the sectors, and `decodeArr` for the partition list -/
def readerOf {p : Nat} (crc : Bytes → Nat) (g : Geo) (cat : (Fin p → Bytes) → Bytes) : Reader Bytes (List Part) p :=
  { hdrP := fun s => match readHeader crc s with
      | .ok h => if h.arrLBA = g.aP ∧ h.count = g.n ∧ h.entSize = 128 then some h.arrCrc else none
      | _ => none,
    hdrB := fun s => match readHeader crc s with
      | .ok h => if h.myLBA = g.hB ∧ h.arrLBA = g.aB ∧ h.count = g.n ∧ h.entSize = 128 then some h.arrCrc else none
      | _ => none,
    crc := fun a => crc (cat a),
    parts := fun a => decodeArr (cat a) g.lss }

/-- the record-level reader built from the model's real decoders, for geometry `g`: `readerOf crc g (asm g.lss g.ab)`
    by unfolding -/
def flatReaderG (crc : Bytes → Nat) (g : Geo) : Reader Bytes (List Part) g.p :=
  { hdrP := fun s => match readHeader crc s with
      | .ok h => if h.arrLBA = g.aP ∧ h.count = g.n ∧ h.entSize = 128 then some h.arrCrc else none
      | _ => none,
    hdrB := fun s => match readHeader crc s with
      | .ok h => if h.myLBA = g.hB ∧ h.arrLBA = g.aB ∧ h.count = g.n ∧ h.entSize = 128 then some h.arrCrc else none
      | _ => none,
    crc := fun a => crc (asm g.lss g.ab a),
    parts := fun a => decodeArr (asm g.lss g.ab a) g.lss }

/-- geometry premise: a sector at LBA 1 that readGPTHeader accepts describes geometry `g` -/
def PStdG (crc : Bytes → Nat) (d : Dev) (g : Geo) : Prop :=
  ∀ h, readHeader crc (readAt d g.lss g.lss) = .ok h → h.arrLBA = g.aP ∧ h.count = g.n ∧ h.entSize = 128

/-- …and one at the backup header's LBA that says it lives there describes `g`'s backup array -/
def BStdG (crc : Bytes → Nat) (d : Dev) (g : Geo) : Prop :=
  ∀ h, readHeader crc (readAt d (g.hB * g.lss) g.lss) = .ok h → h.myLBA = g.hB →
    h.arrLBA = g.aB ∧ h.count = g.n ∧ h.entSize = 128

theorem loadEntries_atG (c : Cfg) (crc : Bytes → Nat) (dev : Dev) (size lss L n : Nat) (tt : Table)
    (hlpos : 0 < lss) (h1 : tt.firstLBA = L) (h2 : tt.arrCount = n) (h3 : tt.entSize = 128)
    (hn : 1 ≤ n) (hmax : n * 128 ≤ 67108864) (hfit : L * lss + n * 128 ≤ size) (hsz : size < two63) :
    (loadEntries c crc dev size tt lss).1 =
      if tt.arrCrc = crc (readAt dev (L * lss) (n * 128)) then
        .ok { tt with parts := decodeArr (readAt dev (L * lss) (n * 128)) lss }
      else .err true :=
  loadEntries_arr c crc dev size lss L n tt hlpos h1 h2 h3 hn hmax (Nat.lt_of_le_of_lt (Nat.le_of_add_right_le hfit) hsz) hfit

theorem loadEntries_at (c : Cfg) (crc : Bytes → Nat) (dev : Dev) (size lss L : Nat) (tt : Table)
    (hlss : lss = 512 ∨ lss = 4096) (h1 : tt.firstLBA = L) (h2 : tt.arrCount = 128) (h3 : tt.entSize = 128)
    (hfit : L * lss + 16384 ≤ size) (hsz : size < two63) :
    (loadEntries c crc dev size tt lss).1 =
      if tt.arrCrc = crc (readAt dev (L * lss) 16384) then .ok { tt with parts := decodeArr (readAt dev (L * lss) 16384) lss }
      else .err true :=
  loadEntries_atG c crc dev size lss L 128 tt (by omega) h1 h2 h3 (by omega) (by omega) hfit hsz

theorem u64sub_one (q : Nat) (h1 : 1 ≤ q) (hq : q < two64) : u64sub q 1 = q - 1 :=
  u64sub_le q 1 h1 hq

section refine
variable {p : Nat} {g : Geo} {size : Nat}

/-- what loadEntries makes of a header that describes `g`'s array at LBA `L`: the record reader's CRC test and
    decoder on the sectors of that array -/
theorem load_view (c : Cfg) (crc : Bytes → Nat) (d : Dev) (G : g.OK size)
    (cat : (Fin p → Bytes) → Bytes) (hcat : ∀ off, cat (secs d g.lss g.ab p off) = readAt d off g.ab)
    (L : Nat) (hfit : L * g.lss + g.ab ≤ size) (tt : Table)
    (h1 : tt.firstLBA = L) (h2 : tt.arrCount = g.n) (h3 : tt.entSize = 128) :
    (loadEntries c crc d size tt g.lss).1 =
      if crc (cat (secs d g.lss g.ab p (L * g.lss))) = tt.arrCrc then
        .ok { tt with parts := decodeArr (cat (secs d g.lss g.ab p (L * g.lss))) g.lss }
      else .err true := by
  have h512 := G.h512
  rw [loadEntries_atG c crc d size g.lss L g.n tt (by omega) h1 h2 h3 G.hn G.hmax hfit G.hsz, hcat]
  exact ite_congr (propext eq_comm) (fun _ => rfl) fun _ => rfl

theorem backup_view (c : Cfg) (crc : Bytes → Nat) (d : Dev) (G : g.OK size) (hp : p = g.p)
    (cat : (Fin p → Bytes) → Bytes) (hcat : ∀ off, cat (secs d g.lss g.ab p off) = readAt d off g.ab)
    (hB : BStdG crc d g) (al : List Int) :
    outOf (backupResult al (Gpt.readBackup c crc d size g.lss (u64sub (size / g.lss) 1))).1 =
      GptCrash.readBackup (readerOf crc g cat) (viewOf d g p) := by
  subst hp
  have ⟨h512, a1, _, _, _, b2⟩ := lay_of G
  obtain ⟨b3, hq⟩ := fit_of G
  have hsz := G.hsz
  have hdl : size / g.lss ≤ size := Nat.div_le_self _ _
  have hsec : u64sub (size / g.lss) 1 = g.hB := by
    rw [G.e3]; exact u64sub_one _ (by omega) (by simp only [two64, two63] at *; omega)
  rw [backupResult_fst, hsec, readBackup_fst' c crc d size g.lss g.hB (g.hB * g.lss) (toI64_mul_nat _ _ (by omega)) b3]
  have hnp := readHeader_no_panic crc (readAt d (g.hB * g.lss) g.lss) (by simp; omega)
  simp only [GptCrash.readBackup, readerOf, viewOf]
  cases hrh : readHeader crc (readAt d (g.hB * g.lss) g.lss) with
  | panic s => rw [hrh] at hnp; simp [Res.isPanic] at hnp
  | err e => simp [outOf]
  | ok h =>
    simp only
    by_cases hm : h.myLBA = g.hB
    · obtain ⟨g1, g2, g3⟩ := hB h hrh hm
      rw [load_view c crc d G cat hcat g.aB (by omega) _ g1 g2 g3]
      simp only [hm, g1, g2, g3, ne_eq, not_true_eq_false, if_false, and_self, if_true, tableOfHdr]
      by_cases hc : crc (cat (secs d g.lss g.ab g.p (g.aB * g.lss))) = h.arrCrc <;> simp [hc, outOf]
    · simp [hm, outOf]

theorem read_view (c : Cfg) (crc : Bytes → Nat) (d : Dev) (G : g.OK size) (hp : p = g.p)
    (cat : (Fin p → Bytes) → Bytes) (hcat : ∀ off, cat (secs d g.lss g.ab p off) = readAt d off g.ab)
    (hP : PStdG crc d g) (hB : BStdG crc d g) :
    outOf (Gpt.read c crc d size g.lss).1 = GptCrash.read (readerOf crc g cat) (viewOf d g p) := by
  have hbk := backup_view c crc d G hp cat hcat hB
  subst hp
  have ⟨h512, a1, _, b0, b1, b2⟩ := lay_of G
  obtain ⟨b3, hq⟩ := fit_of G
  have h2 : ¬ size < g.lss * 2 := by omega
  have hnp := readHeader_no_panic crc (readAt d g.lss g.lss) (by simp; omega)
  have hp1 := readPrimary_fst c crc d size g.lss h2
  unfold Gpt.read
  generalize hrp : Gpt.readPrimary c crc d size g.lss = rp at hp1
  obtain ⟨r, al⟩ := rp
  simp only at hp1
  simp only [GptCrash.read, readerOf, viewOf]
  cases hrh : readHeader crc (readAt d g.lss g.lss) with
  | panic s => rw [hrh] at hnp; simp [Res.isPanic] at hnp
  | err e =>
    rw [hrh] at hp1
    subst hp1
    simp only [h2, if_false]
    exact hbk al
  | ok h =>
    obtain ⟨g1, g2, g3⟩ := hP h hrh
    rw [hrh] at hp1
    simp only at hp1
    rw [load_view c crc d G cat hcat g.aP (by omega) _ g1 g2 g3] at hp1
    simp only [g1, g2, g3, and_self, if_true]
    simp only [tableOfHdr] at hp1
    by_cases hc : crc (cat (secs d g.lss g.ab g.p (g.aP * g.lss))) = h.arrCrc
    · simp only [hc, if_true] at hp1
      subst hp1
      simp [hc, outOf]
    · simp only [hc, if_false] at hp1
      subst hp1
      simp only [h2, if_false, hc]
      exact hbk al

theorem read_refinesG (c : Cfg) (crc : Bytes → Nat) (d : Dev) (size : Nat) (g : Geo) (G : g.OK size)
    (hP : PStdG crc d g) (hB : BStdG crc d g) :
    outOf (Gpt.read c crc d size g.lss).1 = GptCrash.read (flatReaderG crc g) (toDiskG d g) :=
  read_view c crc d G rfl _ (asm_secs (lay_of G) d) hP hB

/-- what mbr.Read makes of a sector-0 content: the record level's `mbrView`, instantiated with the real decoder -/
def mbrViewFlat (s : Bytes) : Option (List Mbr.Part) := (Mbr.read (fun i => s.getD i 0) 512).1

/-- what a caller of partition.Read observes: which kind of table, and its partitions -/
def outP (r : Res PartTable.Tbl) : POut (List Part) (List Mbr.Part) :=
  match r with
  | .ok (.gpt t) => .gpt t.parts
  | .ok (.mbr ps) => .mbr ps
  | _ => .err

theorem mbr_read_sector (d : Dev) (size lss : Nat) (h512 : 512 ≤ lss) (hs : 512 ≤ size) :
    (Mbr.read d size).1 = mbrViewFlat (readAt d 0 lss) := by
  have e : readAt (fun i => (readAt d 0 lss).getD i 0) 0 512 = readAt d 0 512 :=
    readAt_congr _ _ _ _ fun i _ hi => by rw [readAt_getD d 0 lss i (by omega), Nat.zero_add]
  have n1 : ¬ size < 512 := by omega
  have n2 : ¬ (512 : Nat) < 512 := by omega
  simp only [mbrViewFlat, Mbr.read, n1, n2, if_false, e]

/-- `hab`: the repaired reader, whose entry-array bound check makes gpt.Read panic-free -/
theorem partread_view (c : Cfg) (hab : c.arrayBounded = true) (crc : Bytes → Nat) (d : Dev) (G : g.OK size) (hp : p = g.p)
    (cat : (Fin p → Bytes) → Bytes) (hcat : ∀ off, cat (secs d g.lss g.ab p off) = readAt d off g.ab)
    (hP : PStdG crc d g) (hB : BStdG crc d g) :
    outP (PartTable.read c crc d size g.lss).1 = partRead (readerOf crc g cat) mbrViewFlat (viewOf d g p) := by
  have href := read_view c crc d G hp cat hcat hP hB
  obtain ⟨b3, hq⟩ := fit_of G
  have h512 := G.h512
  have hnp := (read_fixed c hab crc d size g.lss (by omega)).1
  have hm : mbrViewFlat (viewOf d g p).mbr = (Mbr.read d size).1 := (mbr_read_sector d size g.lss h512 (by omega)).symm
  unfold PartTable.read partRead
  rw [← href]
  generalize Gpt.read c crc d size g.lss = gg at hnp ⊢
  obtain ⟨r, al⟩ := gg
  cases r with
  | ok t => rfl
  | panic s => simp [Res.isPanic] at hnp
  | err e =>
    simp only [PartTable.readWith, outOf, hm]
    generalize Mbr.read d size = mr
    obtain ⟨o, al2⟩ := mr
    cases o <;> rfl

end refine

end Diskfs.GptCrash
