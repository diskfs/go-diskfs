/-
  The extent-tree node codec (Model/Ext4/ExtTree.lean: encLeaf / encIndex = toBytes, parseNode = parseExtents):
  a node is 12 + 12*max bytes and fits the block it is written to; header and entries decode to what was encoded
  (the round trip of whole nodes: Props/C04.lean, `exttree_parse_encode_*`).
-/
import DiskfsModel.Model.Ext4.ExtTree
import DiskfsModel.Proofs.Bytes
namespace Diskfs.Ext4.ExtTree
open Diskfs Diskfs.Ext4

theorem encExtent_length (e : Extent) : (encExtent e).length = 12 := by simp [encExtent]

theorem encPtr_length (k d : Nat) : (encPtr k d).length = 12 := by simp [encPtr]

theorem encHeader_length (n m d : Nat) : (encHeader n m d).length = 12 := by simp [encHeader]

theorem encNode_length {α : Type} (enc : α → Bytes) (henc : ∀ a, (enc a).length = 12) (l : List α) (max depth : Nat)
    (h : l.length ≤ max) :
    (encHeader l.length max depth ++ ((l.map enc).flatten ++ zeros (12 * (max - l.length)))).length = 12 + 12 * max := by
  simp only [List.length_append, encHeader_length, map_flatten_length enc 12 henc, zeros_length]
  omega

theorem encLeaf_length (max : Nat) (es : List Extent) (b : Bytes) (h : encLeaf max es = some b) :
    b.length = 12 + 12 * max := by
  unfold encLeaf at h
  split at h
  next hle =>
    rw [← Option.some.inj h, List.append_assoc]
    exact encNode_length encExtent encExtent_length es max 0 hle
  next => cases h

theorem encIndex_length (max depth : Nat) (ps : List (Nat × Nat)) (b : Bytes) (h : encIndex max depth ps = some b) :
    b.length = 12 + 12 * max := by
  unfold encIndex at h
  split at h
  next hle =>
    rw [← Option.some.inj h, List.append_assoc]
    exact encNode_length (fun p : Nat × Nat => encPtr p.1 p.2) (fun p => encPtr_length p.1 p.2) ps max depth hle
  next => cases h

theorem nonRootMax_fits (bs : Nat) (h : 12 ≤ bs) : 12 + 12 * nonRootMax bs ≤ bs := by
  unfold nonRootMax
  omega

/-- the fields fit their on-disk widths: file block 32 bit, start block 48 bit (281474976710656 = 2^48), length 16 bit -/
def ExtentOK (e : Extent) : Prop := e.fileBlock < 4294967296 ∧ e.start < 281474976710656 ∧ e.count < 65536

def PtrOK (p : Nat × Nat) : Prop := p.1 < 4294967296 ∧ p.2 < 281474976710656

theorem decExtent_encExtent (e : Extent) (h : ExtentOK e) : decExtent (encExtent e) = e := by
  obtain ⟨fb, st, ct⟩ := e
  obtain ⟨h1, h2, h3⟩ := h
  simp only at h1 h2 h3
  -- every slice is one field: the fields in front of it are peeled off, then it is the head of what is left
  simp (disch := simp) only [decExtent, encExtent, List.append_assoc, slice_append_right, slice_append_hit, slice_all,
    leEnc_length, Nat.reduceSub]
  rw [leDec_leEnc_of_lt 4 _ (by omega), leDec_leEnc_of_lt 4 _ (by omega), leDec_leEnc_of_lt 2 _ (by omega), leDec_leEnc_of_lt 2 _ (by omega)]
  simp only [Extent.mk.injEq, true_and, and_true]
  omega

theorem decPtr_encPtr (p : Nat × Nat) (h : PtrOK p) : decPtr (encPtr p.1 p.2) = p := by
  obtain ⟨k, d⟩ := p
  obtain ⟨h1, h2⟩ := h
  simp only at h1 h2
  simp (disch := simp) only [decPtr, encPtr, List.append_assoc, slice_append_right, slice_append_hit,
    leEnc_length, Nat.reduceSub]
  rw [leDec_leEnc_of_lt 4 _ (by omega), leDec_leEnc_of_lt 4 _ (by omega), leDec_leEnc_of_lt 2 _ (by omega)]
  simp only [Prod.mk.injEq, true_and]
  omega

theorem decEntries_enc {α : Type} (enc : α → Bytes) (dec : Bytes → α) (henc : ∀ a, (enc a).length = 12)
    (l : List α) (hrt : ∀ a ∈ l, dec (enc a) = a) (z : Bytes) :
    decEntries dec l.length ((l.map enc).flatten ++ z) = l := by
  induction l with
  | nil => rfl
  | cons a l ih =>
    simp only [List.length_cons, decEntries, List.map_cons, List.flatten_cons, List.append_assoc]
    have h1 : (enc a ++ ((l.map enc).flatten ++ z)).take 12 = enc a := by
      rw [← henc a]; simp
    have h2 : (enc a ++ ((l.map enc).flatten ++ z)).drop 12 = (l.map enc).flatten ++ z := by
      rw [← henc a]; simp
    rw [h1, h2, hrt a (by simp), ih (fun b hb => hrt b (by simp [hb]))]

theorem parseNode_enc {α : Type} (enc : α → Bytes) (henc : ∀ a, (enc a).length = 12) (l : List α) (max depth : Nat)
    (h1 : l.length ≤ max) (h2 : 1 ≤ max) (h3 : max < 65536) (hd : depth < 65536) :
    parseNode (encHeader l.length max depth ++ ((l.map enc).flatten ++ zeros (12 * (max - l.length)))) =
      if depth = 0 then .ok (.leaf max (decEntries decExtent l.length ((l.map enc).flatten ++ zeros (12 * (max - l.length)))))
      else .ok (.index max depth (decEntries decPtr l.length ((l.map enc).flatten ++ zeros (12 * (max - l.length))))) := by
  have hlen := encNode_length enc henc l max depth h1
  generalize (l.map enc).flatten ++ zeros (12 * (max - l.length)) = r at hlen ⊢
  have hdrop : (encHeader l.length max depth ++ r).drop 12 = r := by rw [← encHeader_length l.length max depth]; simp
  unfold parseNode
  rw [if_neg (by omega), hdrop, hlen]
  simp (disch := simp) only [encHeader, List.append_assoc, slice_append_right, slice_append_hit, leEnc_length, Nat.reduceSub]
  rw [leDec_leEnc_of_lt 2 _ (by omega), leDec_leEnc_of_lt 2 _ (by omega : l.length < 256 ^ 2),
    leDec_leEnc_of_lt 2 _ (by omega : max < 256 ^ 2), leDec_leEnc_of_lt 2 depth (by omega)]
  simp only [ne_eq, not_true_eq_false, if_false]
  rw [if_neg (by omega)]

end Diskfs.Ext4.ExtTree
