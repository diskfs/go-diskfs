/-
  Layer E for a tree of directories: the FAT tree model (Model/Fat/TreeFs.lean) refines the
  plain tree of named byte strings (Spec/Tree.lean) and keeps the cluster map sound with exactly
  the chains of the tree as owners.  The idea: a call inside one directory is described by
  `StepFacts eqn g rest s r sp` (`r` = what the call returned on `s`, `sp` = what the specification
  answers on the tree read back from `s`; `acc`: an accepted call refines it, `rej`: a refused one
  returns `s`, `err`: one of the specification's errors is the specification's answer), with every
  owner outside that directory's subtree as an opaque `rest`; one child is
  taken out of the owner list (`inv_child`), changed, and the directory put together again around
  it (`assemble_*`, `add_leaf`), its own chain regrown by `writeDir` (`writeDir_ok`).  This file
  goes as far as mkdir and create; the other calls, the path walk and histories are in
  Proofs/FatTreeStep.lean.  Core Lean only.
-/
import DiskfsModel.Model.Fat.TreeFs
import DiskfsModel.Proofs.FatNamed
import DiskfsModel.Proofs.FatOwned
namespace Diskfs.Fat

theorem kidsOwners_nil : kidsOwners [] = [] := by rw [kidsOwners]

theorem kidsOwners_cons (t : TNode) (ks : List TNode) :
    kidsOwners (t :: ks) = t.owners ++ kidsOwners ks := by rw [kidsOwners]

theorem kidsOwners_append (a b : List TNode) : kidsOwners (a ++ b) = kidsOwners a ++ kidsOwners b := by
  induction a with
  | nil => simp [kidsOwners_nil]
  | cons t a ih => rw [List.cons_append, kidsOwners_cons, kidsOwners_cons, ih, List.append_assoc]

theorem owners_subset_of_mem {t : TNode} {ks : List TNode} (ht : t ∈ ks) : t.owners ⊆ kidsOwners ks := by
  intro o ho
  obtain ⟨pre, post, rfl⟩ := List.append_of_mem ht
  rw [kidsOwners_append, kidsOwners_cons]
  exact List.mem_append_right _ (List.mem_append_left _ ho)

theorem owners_file (n : Spec.Name) (c : List Nat) (s : Nat) : (TNode.file n c s).owners = [c] := by
  rw [TNode.owners]

theorem owners_dir (n : Spec.Name) (c : List Nat) (ks : List TNode) :
    (TNode.dir n c ks).owners = c :: kidsOwners ks := by rw [TNode.owners]

theorem owners_rename (t : TNode) (n : Spec.Name) : (t.rename n).owners = t.owners := by
  cases t <;> simp [TNode.rename, owners_file, owners_dir]

theorem name_rename (t : TNode) (n : Spec.Name) : (t.rename n).name = n := by
  cases t <;> rfl

theorem kidsAbs_nil (d : Dev) (io : IOGeom) : kidsAbs d io [] = [] := by rw [kidsAbs]

theorem kidsAbs_cons (d : Dev) (io : IOGeom) (t : TNode) (ks : List TNode) :
    kidsAbs d io (t :: ks) = t.abs d io :: kidsAbs d io ks := by rw [kidsAbs]

theorem kidsAbs_eq_map (d : Dev) (io : IOGeom) (ks : List TNode) :
    kidsAbs d io ks = ks.map (fun t => t.abs d io) := by
  induction ks with
  | nil => rw [kidsAbs_nil]; rfl
  | cons t ks ih => rw [kidsAbs_cons, ih]; rfl

theorem abs_file (d : Dev) (io : IOGeom) (n : Spec.Name) (c : List Nat) (s : Nat) :
    (TNode.file n c s).abs d io = (n, .file (fileContent d io c s)) := by rw [TNode.abs]

theorem abs_dir (d : Dev) (io : IOGeom) (n : Spec.Name) (c : List Nat) (ks : List TNode) :
    (TNode.dir n c ks).abs d io = (n, .dir (kidsAbs d io ks)) := by rw [TNode.abs]

theorem abs_fst (d : Dev) (io : IOGeom) (t : TNode) : (t.abs d io).1 = t.name := by
  cases t <;> simp [abs_file, abs_dir, TNode.name]

theorem abs_rename (d : Dev) (io : IOGeom) (t : TNode) (n : Spec.Name) :
    (t.rename n).abs d io = (n, (t.abs d io).2) := by
  cases t <;> simp [TNode.rename, abs_file, abs_dir]

mutual
theorem TNode.abs_congr (d d' : Dev) (io : IOGeom) (t : TNode)
    (h : ∀ o ∈ t.owners, chainBytes d' io o = chainBytes d io o) : t.abs d' io = t.abs d io := by
  cases t with
  | file n c s =>
    rw [abs_file, abs_file]
    unfold fileContent
    rw [h c (by rw [owners_file]; exact List.mem_cons_self)]
  | dir n c ks =>
    rw [abs_dir, abs_dir]
    rw [kidsAbs_congr d d' io ks (fun o ho => h o (by rw [owners_dir]; exact List.mem_cons_of_mem _ ho))]
theorem kidsAbs_congr (d d' : Dev) (io : IOGeom) (ks : List TNode)
    (h : ∀ o ∈ kidsOwners ks, chainBytes d' io o = chainBytes d io o) : kidsAbs d' io ks = kidsAbs d io ks := by
  cases ks with
  | nil => rw [kidsAbs_nil, kidsAbs_nil]
  | cons t ks =>
    rw [kidsAbs_cons, kidsAbs_cons]
    rw [TNode.abs_congr d d' io t (fun o ho => h o (by rw [kidsOwners_cons]; exact List.mem_append_left _ ho)),
      kidsAbs_congr d d' io ks (fun o ho => h o (by rw [kidsOwners_cons]; exact List.mem_append_right _ ho))]
end

theorem kidsWF_nil (eqn : Spec.Name → Spec.Name → Bool) (g : TGeom) : kidsWF eqn g [] := by
  rw [kidsWF]; trivial

theorem kidsWF_cons (eqn : Spec.Name → Spec.Name → Bool) (g : TGeom) (t : TNode) (ks : List TNode) :
    kidsWF eqn g (t :: ks) ↔ t.WF eqn g ∧ (∀ u ∈ ks, eqn t.name u.name = false) ∧ kidsWF eqn g ks := by
  rw [kidsWF]

theorem kidsWF_iff (eqn : Spec.Name → Spec.Name → Bool) (g : TGeom) (ks : List TNode) :
    kidsWF eqn g ks ↔ (∀ t ∈ ks, t.WF eqn g) ∧ ks.Pairwise (fun a b => eqn a.name b.name = false) := by
  induction ks with
  | nil => simp [kidsWF_nil]
  | cons t ks ih =>
    rw [kidsWF_cons, ih, List.pairwise_cons, List.forall_mem_cons]
    exact ⟨fun ⟨h1, h2, h3, h4⟩ => ⟨⟨h1, h3⟩, h2, h4⟩, fun ⟨⟨h1, h3⟩, h2, h4⟩ => ⟨h1, h2, h3, h4⟩⟩

theorem wf_file (eqn : Spec.Name → Spec.Name → Bool) (g : TGeom) (n : Spec.Name) (c : List Nat) (s : Nat) :
    (TNode.file n c s).WF eqn g ↔ c.length = Nat.max (clusterCount g.f.io.bpc s) 1 := by rw [TNode.WF]

theorem wf_dir (eqn : Spec.Name → Spec.Name → Bool) (g : TGeom) (n : Spec.Name) (c : List Nat) (ks : List TNode) :
    (TNode.dir n c ks).WF eqn g ↔ kidsWF eqn g ks := by rw [TNode.WF]

theorem wf_rename (eqn : Spec.Name → Spec.Name → Bool) (g : TGeom) (t : TNode) (n : Spec.Name) :
    (t.rename n).WF eqn g ↔ t.WF eqn g := by
  cases t <;> simp [TNode.rename, wf_file, wf_dir]

theorem mem_kset {eqn} {ks : List TNode} {n : Spec.Name} {v t : TNode} (h : t ∈ kset eqn ks n v) :
    t = v ∨ t ∈ ks := by
  obtain ⟨u, hu, rfl⟩ := List.mem_map.1 h
  split
  · exact Or.inl rfl
  · exact Or.inr hu

theorem mem_kerase {eqn} {ks : List TNode} {n : Spec.Name} {t : TNode} (h : t ∈ kerase eqn ks n) : t ∈ ks :=
  (List.mem_filter.1 h).1

theorem mem_krename {eqn} {ks : List TNode} {o n : Spec.Name} {t : TNode} (h : t ∈ krename eqn ks o n) :
    ∃ u ∈ ks, t = u.rename n ∨ t = u := by
  obtain ⟨u, hu, rfl⟩ := List.mem_map.1 h
  refine ⟨u, hu, ?_⟩
  split
  · exact Or.inl rfl
  · exact Or.inr rfl

theorem kfind_mem {eqn} {ks : List TNode} {n : Spec.Name} {t : TNode} (h : kfind eqn ks n = some t) : t ∈ ks :=
  List.mem_of_find?_eq_some h

theorem kidsWF_pairwise {eqn g} {ks : List TNode} (h : kidsWF eqn g ks) :
    ks.Pairwise fun a b => eqn a.name b.name = false := ((kidsWF_iff eqn g _).1 h).2

theorem wf_child {eqn g} {ks : List TNode} {n : Spec.Name} {t : TNode} (h : kidsWF eqn g ks)
    (hf : kfind eqn ks n = some t) : t.WF eqn g := ((kidsWF_iff eqn g _).1 h).1 t (kfind_mem hf)

theorem kidsWF_kerase {eqn g} {ks : List TNode} (n : Spec.Name) (h : kidsWF eqn g ks) :
    kidsWF eqn g (kerase eqn ks n) := by
  rw [kidsWF_iff] at h ⊢
  exact ⟨fun t ht => h.1 t (mem_kerase ht), h.2.sublist List.filter_sublist⟩

theorem lookup_kidsAbs (eqn) (d : Dev) (io : IOGeom) (ks : List TNode) (n : Spec.Name) :
    Spec.lookup eqn (kidsAbs d io ks) n = (kfind eqn ks n).map fun t => (t.abs d io).2 := by
  rw [kidsAbs_eq_map]
  exact lookup_map _ (abs_fst d io) ks n

theorem erase_kidsAbs (eqn) (d : Dev) (io : IOGeom) (ks : List TNode) (n : Spec.Name) :
    kidsAbs d io (kerase eqn ks n) = Spec.erase eqn (kidsAbs d io ks) n := by
  rw [kidsAbs_eq_map, kidsAbs_eq_map]
  exact erase_map _ (abs_fst d io) ks n

theorem dirWrs_through (io : IOGeom) : ∀ (chain : List Nat) (img : Bytes),
    Through io chain 0 img (dirWrs io chain img)
  | [], img => .out
  | c :: cs, img => by
    rw [dirWrs, ← take_min_length]
    conv => arg 4; rw [← List.take_append_drop (min io.bpc img.length) img]
    rw [drop_min_length]
    exact .write (by rw [List.length_take]; omega)
      (.next (by rw [← drop_min_length]; exact take_full_or_drop_nil _ _ 0 (Nat.zero_add _)) (dirWrs_through io cs _))

theorem dirWrs_in (io : IOGeom) (chain : List Nat) (img : Bytes) :
    ∀ w ∈ dirWrs io chain img, ∃ c ∈ chain, InCluster io c w :=
  (dirWrs_through io chain img).inCluster

theorem frame_below (io : IOGeom) (d : Dev) (w : Wr) (o : List Nat)
    (hw : w.off + w.data.length ≤ io.start + io.dataStart) :
    chainBytes (applyWrs d [w]) io o = chainBytes d io o := by
  apply chainBytes_congr
  intro c hc i hi1 _
  apply applyWrs_frame
  intro w' hw'
  rw [List.mem_singleton] at hw'
  subst hw'
  have : io.start + io.dataStart ≤ clusterOff io c := by unfold clusterOff; omega
  omega

theorem chainOwner_cons (c : Nat) (cs : List Nat) : chainOwner (c :: cs) = [c :: cs] := rfl

theorem chainOwner_of_ne {l : List Nat} (h : l ≠ []) : chainOwner l = [l] := by
  cases l with
  | nil => exact absurd rfl h
  | cons c cs => rfl

section writeDir
variable {g : TGeom} {fuel : Nat} {m : CMap} {d : Dev} {chain : List Nat} {base : Nat} {ks : List TNode} {img : Bytes}

/-- the three ways `writeDirectoryEntries` succeeds: the fixed root has a slot for every entry; the
    chain has the clusters needed already; the chain is regrown or cut to the clusters needed -/
theorem writeDir_cases {w : WD} (hw : writeDir g fuel m d chain base ks img = .ok w) :
    (chain = [] ∧ dirSlots g base ks ≤ g.rootCap ∧
      w = ⟨m, applyWrs d [⟨g.rootOff, img.take (32 * g.rootCap)⟩], []⟩) ∨
    (chain ≠ [] ∧ dirNeed g base ks = chain.length ∧ w = ⟨m, applyWrs d (dirWrs g.f.io chain img), chain⟩) ∨
    (chain ≠ [] ∧ dirNeed g base ks ≠ 0 ∧ dirNeed g base ks ≠ chain.length ∧
      ∃ l', (falloc g.f fuel m (dirNeed g base ks * g.f.io.bpc) (chain.headD 0)).res = some l' ∧
        w = ⟨(falloc g.f fuel m (dirNeed g base ks * g.f.io.bpc) (chain.headD 0)).m,
          applyWrs d (dirWrs g.f.io (l'.take (dirNeed g base ks)) img), l'.take (dirNeed g base ks)⟩) := by
  cases chain with
  | nil =>
    simp only [writeDir] at hw
    split at hw
    · rename_i hle
      exact Or.inl ⟨rfl, hle, (Except.ok.inj hw).symm⟩
    · cases hw
  | cons c cs =>
    simp only [writeDir] at hw
    split at hw
    · cases hw
    · rename_i hn0
      split at hw
      · rename_i heq
        exact Or.inr (Or.inl ⟨List.cons_ne_nil _ _, heq, (Except.ok.inj hw).symm⟩)
      · rename_i hne
        split at hw
        · cases hw
        · rename_i l' hres
          exact Or.inr (Or.inr ⟨List.cons_ne_nil _ _, hn0, hne, l', hres, (Except.ok.inj hw).symm⟩)

theorem writeDir_dev {w : WD} (hw : writeDir g fuel m d chain base ks img = .ok w) :
    (chain ≠ [] → w.d = applyWrs d (dirWrs g.f.io w.chain img)) ∧
    (chain = [] → w.d = applyWrs d [⟨g.rootOff, img.take (32 * g.rootCap)⟩]) := by
  rcases writeDir_cases hw with ⟨rfl, _, rfl⟩ | ⟨hne, _, rfl⟩ | ⟨hne, _, _, l', _, rfl⟩ <;> dsimp only
  · exact ⟨fun hh => absurd rfl hh, fun _ => rfl⟩
  · exact ⟨fun _ => rfl, fun hh => absurd hh hne⟩
  · exact ⟨fun _ => rfl, fun hh => absurd hh hne⟩

/-- an accepted `writeDirectoryEntries`: the directory's new chain stands in the owner list where the
    old one stood, a fixed root stays fixed, the owners `R` keep their bytes, and a chained directory
    ends with exactly the clusters its entries need -/
theorem writeDir_ok {w : WD} {R : List (List Nat)}
    (hg : TGeomOk g) (hfuel : g.f.lim - 2 ≤ fuel)
    (h : Inv g.f.kind g.f.lim m (chainOwner chain ++ R))
    (hw : writeDir g fuel m d chain base ks img = .ok w) :
    Inv g.f.kind g.f.lim w.m (chainOwner w.chain ++ R) ∧ (w.chain = [] ↔ chain = []) ∧
    (∀ o ∈ R, chainBytes w.d g.f.io o = chainBytes d g.f.io o) ∧
    (chain ≠ [] → w.chain.length = dirNeed g base ks) := by
  -- a chained directory: the image goes into the clusters of the new chain `c'`, the head owner
  have key : ∀ (mF : CMap) (c' : List Nat), chain ≠ [] → dirNeed g base ks ≠ 0 → c'.length = dirNeed g base ks →
      Inv g.f.kind g.f.lim mF (c' :: R) →
      Inv g.f.kind g.f.lim mF (chainOwner c' ++ R) ∧ (c' = [] ↔ chain = []) ∧
      (∀ o ∈ R, chainBytes (applyWrs d (dirWrs g.f.io c' img)) g.f.io o = chainBytes d g.f.io o) ∧
      (chain ≠ [] → c'.length = dirNeed g base ks) := by
    intro mF c' hne hn0 hlen hinv
    have hne' : c' ≠ [] := by intro e; rw [e] at hlen; exact hn0 hlen.symm
    exact ⟨by rw [chainOwner_of_ne hne']; exact hinv, by simp [hne', hne],
      frame_head g.f.io d _ hinv (dirWrs_in _ _ _), fun _ => hlen⟩
  rcases writeDir_cases hw with ⟨rfl, _, rfl⟩ | ⟨hne, heq, rfl⟩ | ⟨hne, hn0, hneq, l', hres, rfl⟩ <;> dsimp only
  · refine ⟨h, Iff.rfl, fun o _ => frame_below _ _ _ o ?_, fun hh => absurd rfl hh⟩
    simp only [List.length_take]
    have := hg.root
    omega
  · rw [chainOwner_of_ne hne] at h
    exact key m chain hne (by rw [heq]; exact fun e => hne (List.eq_nil_of_length_eq_zero e)) heq.symm h
  · rw [chainOwner_of_ne hne] at h
    have h' : Inv g.f.kind g.f.lim m (chain :: R) := h
    have hfl : chain.length ≤ fuel := Nat.le_trans (chain_length_le h') hfuel
    unfold falloc at hres ⊢
    have hcnt := clusterCount_mul (dirNeed g base ks) hg.bpc
    by_cases hlt : chain.length < dirNeed g base ks
    · obtain ⟨hinv, hlen, _⟩ := alloc_grow_inv h' (firstFit_spec _) hg.lim hg.max hfl
        (by rw [hcnt]; omega) hres
      rw [hcnt] at hlen
      rw [show l'.take (dirNeed g base ks) = l' from by rw [← hlen, List.take_length]]
      exact key _ l' hne hn0 hlen hinv
    · obtain ⟨hres', hinv⟩ := alloc_shrink_inv (pick := firstFit g.f.lim) (size := dirNeed g base ks * g.f.io.bpc)
        h' hg.lim hg.max hg.bpc hfl (by rw [hcnt]; omega)
      rw [hcnt, show Nat.max (dirNeed g base ks) 1 = dirNeed g base ks from by show max _ 1 = _; omega] at hinv
      obtain rfl : chain = l' := by rw [hres'] at hres; exact Option.some.inj hres
      exact key _ _ hne hn0 (by rw [List.length_take]; omega) hinv

theorem writeDir_err {e : TRes}
    (hw : writeDir g fuel m d chain base ks img = .error e) :
    e ≠ .ok ∧ ∀ x, e ≠ .spec x := by
  -- the errors `writeDir` returns are `rootfull`, `other` and `nospace`
  cases chain <;> simp only [writeDir] at hw <;> (repeat' split at hw) <;> cases hw <;>
    exact ⟨nofun, nofun⟩

end writeDir

/-- `rest` = every owner of the volume outside this directory's subtree -/
structure StepFacts (eqn : Spec.Name → Spec.Name → Bool) (g : TGeom) (rest : List (List Nat))
    (s : DirSt) (r : DirSt × TRes) (sp : Spec.Tree × Spec.Res) : Prop where
  inv : Inv g.f.kind g.f.lim r.1.m (chainOwner r.1.chain ++ kidsOwners r.1.kids ++ rest)
  wf : kidsWF eqn g r.1.kids
  root : r.1.chain = [] ↔ s.chain = []
  frame : ∀ o ∈ rest, chainBytes r.1.d g.f.io o = chainBytes s.d g.f.io o
  acc : r.2 = .ok → kidsAbs r.1.d g.f.io r.1.kids = sp.1 ∧ sp.2 = .ok
  rej : r.2 ≠ .ok → r.1 = s
  err : ∀ e, r.2 = .spec e → sp.2 = e

-- `f` (a call inside one directory, or the walk to it) establishes `StepFacts` against `sf` in every
-- directory, whatever the rest of the volume owns
def LocalOk (eqn : Spec.Name → Spec.Name → Bool) (g : TGeom) (f : Nat → DirSt → DirSt × TRes)
    (sf : Spec.Tree → Spec.Tree × Spec.Res) : Prop :=
  ∀ (base : Nat) (s : DirSt) (rest : List (List Nat)),
    Inv g.f.kind g.f.lim s.m (chainOwner s.chain ++ kidsOwners s.kids ++ rest) → kidsWF eqn g s.kids →
    StepFacts eqn g rest s (f base s) (sf (kidsAbs s.d g.f.io s.kids))

theorem StepFacts.same {eqn g rest} {s : DirSt} {res : TRes} {sp : Spec.Tree × Spec.Res}
    (h : Inv g.f.kind g.f.lim s.m (chainOwner s.chain ++ kidsOwners s.kids ++ rest))
    (hwf : kidsWF eqn g s.kids)
    (hacc : res = .ok → kidsAbs s.d g.f.io s.kids = sp.1 ∧ sp.2 = .ok)
    (herr : ∀ e, res = .spec e → sp.2 = e) : StepFacts eqn g rest s (s, res) sp :=
  ⟨h, hwf, Iff.rfl, fun _ _ => rfl, hacc, fun _ => rfl, herr⟩

/-- a refusal that is not one of the specification's -/
theorem StepFacts.refused {eqn g rest} {s : DirSt} {res : TRes} {sp : Spec.Tree × Spec.Res}
    (h : Inv g.f.kind g.f.lim s.m (chainOwner s.chain ++ kidsOwners s.kids ++ rest))
    (hwf : kidsWF eqn g s.kids) (h1 : res ≠ .ok) (h2 : ∀ x, res ≠ .spec x) :
    StepFacts eqn g rest s (s, res) sp :=
  StepFacts.same h hwf (fun e => absurd e h1) (fun e he => absurd he (h2 e))

section local_ops
variable {eqn : Spec.Name → Spec.Name → Bool} {g : TGeom} {fuel : Nat}

theorem StepFacts.dirErr {rest} {s : DirSt} {sp : Spec.Tree × Spec.Res} {m : CMap} {d : Dev}
    {chain : List Nat} {base : Nat} {ks : List TNode} {img : Bytes} {e : TRes}
    (h : Inv g.f.kind g.f.lim s.m (chainOwner s.chain ++ kidsOwners s.kids ++ rest))
    (hwf : kidsWF eqn g s.kids) (hw : writeDir g fuel m d chain base ks img = .error e) :
    StepFacts eqn g rest s (s, e) sp :=
  .refused h hwf (writeDir_err hw).1 (writeDir_err hw).2

/-- a refusal with the error the specification prescribes -/
theorem StepFacts.specErr {rest} {s : DirSt} {e : Spec.Res} {sp : Spec.Tree × Spec.Res}
    (h : Inv g.f.kind g.f.lim s.m (chainOwner s.chain ++ kidsOwners s.kids ++ rest))
    (hwf : kidsWF eqn g s.kids) (hsp : sp.2 = e) : StepFacts eqn g rest s (s, .spec e) sp :=
  StepFacts.same h hwf (fun hh => by cases hh) (fun e' he' => by cases he'; exact hsp)

theorem StepFacts.noop {rest} {s : DirSt} {sp : Spec.Tree × Spec.Res}
    (h : Inv g.f.kind g.f.lim s.m (chainOwner s.chain ++ kidsOwners s.kids ++ rest))
    (hwf : kidsWF eqn g s.kids) (hsp : sp = (kidsAbs s.d g.f.io s.kids, .ok)) : StepFacts eqn g rest s (s, .ok) sp :=
  StepFacts.same h hwf (fun _ => by rw [hsp]; exact ⟨rfl, rfl⟩) (fun e he => by cases he)

theorem perm_owner_front {α : Type} [DecidableEq α] (C P T Q R : List α) :
    List.Perm (C ++ (P ++ (T ++ Q)) ++ R) (T ++ (C ++ (P ++ Q ++ R))) := by
  rw [List.perm_iff_count]
  intro a
  simp only [List.count_append]
  omega

theorem inv_child (he : EqnOk eqn) {k : Kind} {lim : Nat} {m : CMap} {c : List Nat} {K : List TNode}
    {rest : List (List Nat)} {n : Spec.Name} {t : TNode} (hwf : kidsWF eqn g K) (hf : kfind eqn K n = some t)
    (h : Inv k lim m (chainOwner c ++ kidsOwners K ++ rest)) :
    Inv k lim m (t.owners ++ (chainOwner c ++ (kidsOwners (kerase eqn K n) ++ rest))) := by
  obtain ⟨pre, post, rfl, hfn, hpre, hpost⟩ := find_split he (kidsWF_pairwise hwf) hf
  rw [kerase, erase_mid hfn hpre hpost]
  simp only [kidsOwners_append, kidsOwners_cons] at h ⊢
  exact inv_perm (perm_owner_front ..) h

/-- descending into the subdirectory found under `n`: its subtree's owners first, everything
    else of the volume as the rest -/
theorem inv_subdir (he : EqnOk eqn) {k : Kind} {lim : Nat} {m : CMap} {c0 : List Nat} {K : List TNode}
    {rest : List (List Nat)} {n nm : Spec.Name} {c : List Nat} {ks : List TNode} (hwf : kidsWF eqn g K)
    (hf : kfind eqn K n = some (.dir nm c ks)) (h : Inv k lim m (chainOwner c0 ++ kidsOwners K ++ rest)) :
    c ≠ [] ∧ Inv k lim m (chainOwner c ++ kidsOwners ks ++ (chainOwner c0 ++ (kidsOwners (kerase eqn K n) ++ rest))) := by
  have hhead := inv_child he hwf hf h
  rw [owners_dir] at hhead
  have hc : c ≠ [] := inv_owner_ne_nil hhead List.mem_cons_self
  rw [chainOwner_of_ne hc]
  exact ⟨hc, hhead⟩

/-- the directory put together again around the child `x` that stands where `t` stood -/
theorem assemble_mid {s : DirSt} {rest : List (List Nat)} {pre post : List TNode}
    {t x : TNode} (mF : CMap) (dF : Dev) (cF : List Nat)
    (hwf : kidsWF eqn g (pre ++ t :: post))
    (hxpre : ∀ a ∈ pre, eqn a.name x.name = false) (hxpost : ∀ b ∈ post, eqn x.name b.name = false)
    (hxwf : x.WF eqn g)
    (hinv : Inv g.f.kind g.f.lim mF (x.owners ++ (chainOwner cF ++ (kidsOwners pre ++ kidsOwners post ++ rest))))
    (hroot : cF = [] ↔ s.chain = [])
    (hfr : ∀ o ∈ kidsOwners pre ++ kidsOwners post ++ rest, chainBytes dF g.f.io o = chainBytes s.d g.f.io o)
    {sp : Spec.Tree × Spec.Res}
    (hsp : sp = (kidsAbs s.d g.f.io pre ++ x.abs dF g.f.io :: kidsAbs s.d g.f.io post, .ok)) :
    StepFacts eqn g rest s (⟨mF, dF, cF, pre ++ x :: post⟩, .ok) sp := by
  refine ⟨?_, ?_, hroot, fun o ho => hfr o (List.mem_append_right _ ho), fun _ => ?_,
    fun hh => absurd rfl hh, fun e he => by cases he⟩
  · simp only [kidsOwners_append, kidsOwners_cons]
    exact inv_perm (perm_owner_front ..).symm hinv
  · rw [kidsWF_iff] at hwf ⊢
    exact ⟨forall_mem_mid hwf.1 hxwf, pairwise_mid hwf.2 hxpre hxpost⟩
  · subst hsp
    refine ⟨?_, rfl⟩
    simp only
    rw [kidsAbs_eq_map, List.map_append, List.map_cons, ← kidsAbs_eq_map, ← kidsAbs_eq_map]
    rw [kidsAbs_congr s.d dF g.f.io pre (fun o ho => hfr o (List.mem_append_left _ (List.mem_append_left _ ho))),
      kidsAbs_congr s.d dF g.f.io post (fun o ho => hfr o (List.mem_append_left _ (List.mem_append_right _ ho)))]

/-- `assemble_mid` for `kset`: the child found under `n` becomes `x` of the same name; on the
    specification side that is `Spec.replace` -/
theorem assemble_kset (he : EqnOk eqn) {s : DirSt}
    {rest : List (List Nat)} {n : Spec.Name} {t x : TNode} (mF : CMap) (dF : Dev) (cF : List Nat)
    (hwf : kidsWF eqn g s.kids) (hf : kfind eqn s.kids n = some t) (hxn : x.name = t.name) (hxwf : x.WF eqn g)
    (hinv : Inv g.f.kind g.f.lim mF (x.owners ++ (chainOwner cF ++ (kidsOwners (kerase eqn s.kids n) ++ rest))))
    (hroot : cF = [] ↔ s.chain = [])
    (hfr : ∀ o ∈ kidsOwners (kerase eqn s.kids n) ++ rest, chainBytes dF g.f.io o = chainBytes s.d g.f.io o)
    {sp : Spec.Tree × Spec.Res}
    (hsp : sp = (Spec.replace eqn (kidsAbs s.d g.f.io s.kids) n (x.abs dF g.f.io).2, .ok)) :
    StepFacts eqn g rest s (⟨mF, dF, cF, kset eqn s.kids n x⟩, .ok) sp := by
  obtain ⟨pre, post, hsplit, hfn, hpre, hpost⟩ := find_split he (kidsWF_pairwise hwf) hf
  rw [hsplit] at hwf
  obtain ⟨hn1, hn2⟩ := mid_names (kidsWF_pairwise hwf)
  rw [hsplit, kerase, erase_mid hfn hpre hpost, kidsOwners_append] at hinv hfr
  rw [hsplit, kset, map_mid _ hfn hpre hpost]
  refine assemble_mid mF dF cF hwf (by rwa [hxn]) (by rwa [hxn]) hxwf hinv hroot hfr ?_
  have hx : x.abs dF g.f.io = (t.name, (x.abs dF g.f.io).2) := by rw [← hxn, ← abs_fst dF g.f.io x]
  rw [hsp, hsplit, kidsAbs_eq_map, replace_split _ (abs_fst s.d g.f.io) _ hfn hpre hpost,
    ← kidsAbs_eq_map, ← kidsAbs_eq_map, ← hx]

theorem writeDir_head {m : CMap} {d : Dev} {chain : List Nat} {base : Nat}
    {ks : List TNode} {img : Bytes} {w : WD} {T : List Nat} {R : List (List Nat)}
    (hg : TGeomOk g) (hfuel : g.f.lim - 2 ≤ fuel)
    (h : Inv g.f.kind g.f.lim m (T :: (chainOwner chain ++ R)))
    (hw : writeDir g fuel m d chain base ks img = .ok w) :
    Inv g.f.kind g.f.lim w.m (T :: (chainOwner w.chain ++ R)) ∧ (w.chain = [] ↔ chain = []) ∧
    (∀ o ∈ T :: R, chainBytes w.d g.f.io o = chainBytes d g.f.io o) := by
  obtain ⟨hinv, hroot, hfr, _⟩ := writeDir_ok (R := T :: R) hg hfuel (inv_perm List.perm_middle.symm h) hw
  exact ⟨inv_perm List.perm_middle hinv, hroot, hfr⟩

/-- a new leaf (file or empty directory owning the fresh chain `l`) appended to the directory -/
theorem add_leaf (hg : TGeomOk g) (hfuel : g.f.lim - 2 ≤ fuel) {s : DirSt} {rest : List (List Nat)}
    {base : Nat} {n : Spec.Name} {img : Bytes} (x : TNode) (l : List Nat) (m1 : CMap) (d1 : Dev)
    (hxo : x.owners = [l]) (hxn : x.name = n) (hxwf : x.WF eqn g)
    (hwf : kidsWF eqn g s.kids) (hn : kfind eqn s.kids n = none)
    (hnew : Inv g.f.kind g.f.lim m1 (l :: (chainOwner s.chain ++ kidsOwners s.kids ++ rest)))
    (hd1 : ∀ o ∈ chainOwner s.chain ++ kidsOwners s.kids ++ rest, chainBytes d1 g.f.io o = chainBytes s.d g.f.io o)
    {w : WD} (hw : writeDir g fuel m1 d1 s.chain base (s.kids ++ [x]) img = .ok w)
    {sp : Spec.Tree × Spec.Res}
    (hsp : sp = (kidsAbs s.d g.f.io s.kids ++ [x.abs w.d g.f.io], .ok)) :
    StepFacts eqn g rest s (⟨w.m, w.d, w.chain, s.kids ++ [x]⟩, .ok) sp := by
  rw [List.append_assoc] at hnew hd1
  obtain ⟨hinv, hroot, hfr⟩ := writeDir_head hg hfuel hnew hw
  have hfr2 : ∀ o ∈ kidsOwners s.kids ++ rest, chainBytes w.d g.f.io o = chainBytes s.d g.f.io o := by
    intro o ho
    rw [hfr o (List.mem_cons_of_mem _ ho)]
    exact hd1 o (List.mem_append_right _ ho)
  refine ⟨?_, ?_, hroot, fun o ho => hfr2 o (List.mem_append_right _ ho), fun _ => ?_,
    fun hh => absurd rfl hh, fun e he => by cases he⟩
  · simp only [kidsOwners_append, kidsOwners_cons, kidsOwners_nil, hxo]
    refine inv_perm ?_ hinv
    rw [List.perm_iff_count]
    intro a
    simp only [List.count_append, List.count_cons, List.count_nil]
    omega
  · rw [kidsWF_iff] at hwf ⊢
    exact ⟨List.forall_mem_append.2 ⟨hwf.1, List.forall_mem_singleton.2 hxwf⟩,
      pairwise_snoc hwf.2 (by rw [hxn]; exact find_none hn)⟩
  · subst hsp
    refine ⟨?_, rfl⟩
    simp only
    rw [kidsAbs_eq_map, List.map_append, ← kidsAbs_eq_map, List.map_cons, List.map_nil]
    rw [kidsAbs_congr s.d w.d g.f.io s.kids (fun o ho => hfr2 o (List.mem_append_left _ ho))]

theorem local_mkdir (hg : TGeomOk g) (hfuel : g.f.lim - 2 ≤ fuel) (d0 : List Spec.Name)
    (n : Spec.Name) (img img2 : Bytes) :
    LocalOk eqn g (dMkdir eqn g fuel n img img2) (Spec.stepDir eqn (.mkdir d0 n)) := by
  intro base s rest h hwf
  unfold dMkdir
  simp only [Spec.stepDir, lookup_kidsAbs]
  split
  · rename_i nm c ks hf
    simp only [hf, Option.map_some, abs_dir]
    exact .noop h hwf rfl
  · rename_i nm c sz hf
    simp only [hf, Option.map_some, abs_file]
    exact .specErr h hwf rfl
  · rename_i hf
    simp only [hf, Option.map_none]
    split
    · exact .refused h hwf (by simp) (by simp)
    · rename_i l hres
      unfold falloc at hres
      obtain ⟨hnew, hlen⟩ := alloc_new_inv h (firstFit_spec _) hg.bpc (by decide) hres
      split
      · exact .dirErr h hwf ‹_›
      · rename_i w hw
        refine add_leaf hg hfuel (.dir n l []) l _ _ (by rw [owners_dir, kidsOwners_nil]) rfl
          (by rw [wf_dir]; exact kidsWF_nil _ _) hwf hf hnew ?_ hw ?_
        · exact frame_head g.f.io s.d _ hnew (dirWrs_in _ _ _)
        · rw [abs_dir, kidsAbs_nil]

theorem local_create (hg : TGeomOk g) (hfuel : g.f.lim - 2 ≤ fuel) (d0 : List Spec.Name)
    (n : Spec.Name) (img : Bytes) :
    LocalOk eqn g (dCreate eqn g fuel n img) (Spec.stepDir eqn (.create d0 n)) := by
  intro base s rest h hwf
  unfold dCreate
  simp only [Spec.stepDir, lookup_kidsAbs]
  split
  · rename_i t hf
    simp only [hf, Option.map_some]
    exact .noop h hwf rfl
  · rename_i hf
    simp only [hf, Option.map_none]
    split
    · exact .refused h hwf (by simp) (by simp)
    · rename_i l hres
      unfold falloc at hres
      obtain ⟨hnew, hlen⟩ := alloc_new_inv h (firstFit_spec _) hg.bpc (by decide) hres
      have hlen1 : l.length = 1 := hlen.trans (clusterCount_one hg.bpc)
      split
      · exact .dirErr h hwf ‹_›
      · rename_i w hw
        refine add_leaf hg hfuel (.file n l 0) l _ _ (by rw [owners_file]) rfl
          (by rw [wf_file, clusterCount_zero, hlen1]; rfl) hwf hf hnew (fun _ _ => rfl) hw ?_
        rw [abs_file]
        simp [fileContent]

end local_ops

end Diskfs.Fat
