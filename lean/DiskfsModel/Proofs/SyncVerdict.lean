/-
  CompareFS (Model/Sync.lean) judged against the tree spec: it returns nil exactly when the two
  trees minus excluded names denote the same at every path, and each of its errors is true.
-/
import DiskfsModel.Proofs.Sync
import DiskfsModel.Model.Sync
namespace Diskfs.Sync
open Forest

theorem Cfg.wf_iff {c : Cfg} : c.wf = true ↔ 0 < c.chunk ∧ 0 < c.cmpBuf ∧ c.excluded.contains "." = false := by
  simp only [Cfg.wf, Bool.and_eq_true, decide_eq_true_eq, Bool.not_eq_true', and_assoc]

/-- by cases on the constructors: `walkX` and `strip` branch alike on each, so this is shorter than stating an
    entry form of `walkX` for `entry_induction` first -/
theorem walkX_eq (ex : List String) (pre : Path) (f : Forest) :
    walkX ex pre f = (f.strip ex true).flatAt pre := by
  induction f generalizing pre with
  | nil => rfl
  | file n d r ih => simp only [walkX, strip]; split <;> simp [flatAt, ih]
  | dir n s r ihs ih => simp only [walkX, strip]; split <;> simp [flatAt, ih, ihs]
  | link n t r ih => simp only [walkX, strip]; split <;> simp [flatAt, ih]
  | other n r ih => simp only [walkX, strip, Bool.not_true, Bool.or_false]; split <;> simp [flatAt, ih]

theorem mem_walkRoot {ex : List String} (hdot : ex.contains "." = false) (f : Forest) (hwf : f.wf = true)
    (p : Path) (it : Item) : (p, it) ∈ walkRoot ex f ↔ (f.strip ex true).lookup p = some it := by
  rw [walkRoot, if_neg (by rw [hdot]; exact Bool.false_ne_true), walkX_eq, List.mem_cons, mem_flatAt_root _ (wf_strip ex true f hwf)]
  cases p with
  | nil => simp [lookup_nil_path, eq_comm]
  | cons c ps => simp

theorem firstErr_eq_ok_iff (l : List CmpResult) : firstErr l = .ok ↔ ∀ r ∈ l, r = .ok := by
  induction l with
  | nil => simp [firstErr]
  | cons x xs ih => cases x <;> simp [firstErr, ih]

theorem firstErr_mem (l : List CmpResult) (h : firstErr l ≠ .ok) : firstErr l ∈ l := by
  induction l with
  | nil => simp [firstErr] at h
  | cons x xs ih =>
    cases x with
    | ok => exact List.mem_cons_of_mem _ (ih h)
    | _ => exact List.mem_cons_self ..

/-- `if err != nil { return err }` between the two walks: the first error of both, in order -/
theorem andThen_firstErr (l1 l2 : List CmpResult) :
    (firstErr l1).andThen (fun _ => firstErr l2) = firstErr (l1 ++ l2) := by
  induction l1 with
  | nil => rfl
  | cons x xs ih => cases x <;> first | exact ih | rfl

theorem readStep_full {r : ReaderBehaviour} {buf : Nat} (h : FullReads r buf) (data : Bytes) (call : Nat) :
    ∃ eof, readStep r buf data call = (data.take buf, data.drop buf, eof) ∧
      (data = [] → eof = true) ∧ (eof = true → data.drop buf = []) := by
  unfold readStep
  cases data with
  | nil => exact ⟨true, by simp, fun _ => rfl, fun _ => List.drop_nil⟩
  | cons x xs =>
    simp only [List.isEmpty_cons, Bool.false_eq_true, if_false, h _ _, ← List.take_eq_take_min,
      ← List.drop_eq_drop_min]
    refine ⟨_, rfl, (fun e => by cases e), fun e => ?_⟩
    simp only [Bool.and_eq_true, decide_eq_true_eq] at e
    exact List.drop_eq_nil_of_le (by omega)

theorem cmpLoop_full (buf : Nat) (ra rb : ReaderBehaviour) (ha : FullReads ra buf) (hb : FullReads rb buf)
    (hbuf : 0 < buf) : ∀ (fuel : Nat) (da db : Bytes) (call : Nat), da.length + db.length + 1 ≤ fuel →
      cmpLoop buf ra rb fuel da db call = decide (da = db)
  | 0, _, _, _, h => by omega
  | fuel + 1, da, db, call, hf => by
    obtain ⟨ea, hra, ha0, hea⟩ := readStep_full ha da call
    obtain ⟨eb, hrb, hb0, heb⟩ := readStep_full hb db call
    have hsplit : da = db ↔ da.take buf = db.take buf ∧ da.drop buf = db.drop buf :=
      ⟨fun e => e ▸ ⟨rfl, rfl⟩, fun e => by rw [← List.take_append_drop buf da, e.1, e.2, List.take_append_drop]⟩
    unfold cmpLoop
    simp only [hra, hrb]
    by_cases ht : da.take buf = db.take buf
    · rw [if_neg (fun h => h ht)]
      split
      · rename_i he
        rw [Bool.and_eq_true] at he
        exact (decide_eq_true (hsplit.2 ⟨ht, (hea he.1).trans (heb he.2).symm⟩)).symm
      · rename_i he
        have hne : da ≠ [] ∨ db ≠ [] := by
          apply Classical.byContradiction
          intro hn
          rw [not_or, Classical.not_not, Classical.not_not] at hn
          exact he (by rw [ha0 hn.1, hb0 hn.2]; rfl)
        rw [cmpLoop_full buf ra rb ha hb hbuf fuel _ _ _ (by
          simp only [List.length_drop]
          rcases hne with h | h <;> have := List.length_pos_iff.2 h <;> omega)]
        exact decide_eq_decide.2 ⟨fun e => hsplit.2 ⟨ht, e⟩, fun e => (hsplit.1 e).2⟩
    · rw [if_pos ht]
      exact (decide_eq_false fun e => ht (hsplit.1 e).1).symm

theorem cmpContents_full (buf : Nat) (ra rb : ReaderBehaviour) (ha : FullReads ra buf) (hb : FullReads rb buf)
    (hbuf : 0 < buf) (da db : Bytes) : cmpContents buf ra rb da db = true ↔ da = db := by
  unfold cmpContents
  rw [cmpLoop_full buf ra rb ha hb hbuf _ da db 0 (by omega)]
  simp

/-- what each verdict claims about the two trees (minus excluded names) -/
def VerdictTrue (ex : List String) (a b : Forest) : CmpResult → Prop
  | .ok => stripExcluded ex a ≈ stripExcluded ex b
  | .missing p => p ≠ [] ∧ (∃ it, (stripExcluded ex a).lookup p = some it) ∧ (stripExcluded ex b).lookup p = none
  | .typeMismatch p =>
    ((stripExcluded ex a).lookup p = some .dir ∧ ∃ d, (stripExcluded ex b).lookup p = some (.file d)) ∨
    ((∃ d, (stripExcluded ex a).lookup p = some (.file d)) ∧ (stripExcluded ex b).lookup p = some .dir)
  | .sizeMismatch p => ∃ da db, (stripExcluded ex a).lookup p = some (.file da) ∧
      (stripExcluded ex b).lookup p = some (.file db) ∧ da.length ≠ db.length
  | .contentMismatch p => ∃ da db, (stripExcluded ex a).lookup p = some (.file da) ∧
      (stripExcluded ex b).lookup p = some (.file db) ∧ da.length = db.length ∧ da ≠ db
  | .extra p => p ≠ [] ∧ (∃ it, (stripExcluded ex b).lookup p = some it) ∧ (stripExcluded ex a).lookup p = none
  | .unsupported _ => False

/-- what the walk of the original visits: a clean path, denoting a file or a directory -/
theorem walked_entry {ex : List String} {a : Forest} (hpa : a.plain = true) {p : Path} {it : Item}
    (h : (a.strip ex true).lookup p = some it) :
    (∀ b : Forest, (b.strip ex true).lookup p = b.lookup p) ∧ (it = .dir ∨ ∃ d, it = .file d) := by
  rw [lookup_strip] at h
  split at h
  · rename_i hcl
    exact ⟨fun b => by rw [lookup_strip, if_pos hcl], plain_lookup a hpa p it h⟩
  · cases h

theorem checkEntry_verdict (c : Cfg) (ra rb : ReaderBehaviour) (hfa : FullReads ra c.cmpBuf)
    (hfb : FullReads rb c.cmpBuf) (hbuf : 0 < c.cmpBuf) {a b : Forest} (hpa : a.plain = true) (hpb : b.plain = true)
    {p : Path} {it : Item} (hA : (stripExcluded c.excluded a).lookup p = some it) :
    checkEntry c ra rb b p it = .ok ∨ VerdictTrue c.excluded a b (checkEntry c ra rb b p it) := by
  obtain ⟨hB, hit⟩ := walked_entry hpa hA
  unfold checkEntry
  cases hl : b.lookup p with
  | none => exact Or.inr ⟨ne_nil_of_lookup_none hl, ⟨it, hA⟩, (hB b).trans hl⟩
  | some tb =>
    rcases hit with rfl | ⟨da, rfl⟩ <;> rcases plain_lookup b hpb p tb hl with rfl | ⟨db, rfl⟩
    · exact Or.inl rfl
    · exact Or.inr (Or.inl ⟨hA, db, (hB b).trans hl⟩)
    · exact Or.inr (Or.inr ⟨⟨da, hA⟩, (hB b).trans hl⟩)
    · simp only
      by_cases hlen : da.length = db.length
      · rw [if_neg (fun h => h hlen)]
        split
        · exact Or.inl rfl
        · rename_i hcm
          exact Or.inr ⟨da, db, hA, (hB b).trans hl, hlen, fun e => hcm ((cmpContents_full c.cmpBuf ra rb hfa hfb hbuf da db).2 e)⟩
      · rw [if_pos hlen]
        exact Or.inr ⟨da, db, hA, (hB b).trans hl, hlen⟩

theorem checkEntry_ok_iff (c : Cfg) (ra rb : ReaderBehaviour) (hfa : FullReads ra c.cmpBuf)
    (hfb : FullReads rb c.cmpBuf) (hbuf : 0 < c.cmpBuf) (target : Forest) (p : Path) (it : Item)
    (hit : it = .dir ∨ ∃ d, it = .file d) :
    checkEntry c ra rb target p it = .ok ↔ target.lookup p = some it := by
  unfold checkEntry
  cases target.lookup p with
  | none => simp
  | some tb =>
    rcases hit with rfl | ⟨da, rfl⟩
    · cases tb <;> simp
    · cases tb with
      | file db =>
        have := cmpContents_full c.cmpBuf ra rb hfa hfb hbuf da db
        by_cases hd : da = db
        · subst hd; simp [this.2 rfl]
        · have : cmpContents c.cmpBuf ra rb da db = false := by simpa [hd] using this
          by_cases hl : da.length = db.length <;> simp [hl, this, Ne.symm hd]
      | _ => simp

/-- an error of CompareFS is the callback's answer for one entry of one of the two walks -/
theorem compareFS_err {c : Cfg} {ra rb : ReaderBehaviour} {a b : Forest} (h : compareFS c ra rb a b ≠ .ok) :
    (∃ e ∈ walkRoot c.excluded a, compareFS c ra rb a b = checkEntry c ra rb b e.1 e.2) ∨
    ∃ e ∈ walkRoot c.excluded b, ((walkRoot c.excluded a).map (·.1)).contains e.1 = false ∧
      compareFS c ra rb a b = .extra e.1 := by
  rw [compareFS, andThen_firstErr] at h ⊢
  rcases List.mem_append.1 (firstErr_mem _ h) with hm | hm <;> obtain ⟨e, he, hm⟩ := List.mem_map.1 hm
  · exact .inl ⟨e, he, hm.symm⟩
  · refine .inr ⟨e, he, ?_⟩
    rw [← hm] at h ⊢
    by_cases hs : ((walkRoot c.excluded a).map (·.1)).contains e.1 = true
    · rw [if_pos hs] at h; exact absurd rfl h
    · rw [if_neg hs]; exact ⟨Bool.eq_false_iff.2 hs, rfl⟩

theorem compareFS_ok_iff (c : Cfg) (hc : c.wf = true) (ra rb : ReaderBehaviour)
    (hfa : FullReads ra c.cmpBuf) (hfb : FullReads rb c.cmpBuf) (a b : Forest)
    (hwa : a.wf = true) (hwb : b.wf = true) (hpa : a.plain = true) :
    compareFS c ra rb a b = .ok ↔ stripExcluded c.excluded a ≈ stripExcluded c.excluded b := by
  obtain ⟨_, hbuf, hdot⟩ := Cfg.wf_iff.1 hc
  unfold compareFS TreeEq stripExcluded
  simp only [andThen_firstErr, firstErr_eq_ok_iff, List.forall_mem_append, List.forall_mem_map, Prod.forall,
    mem_walkRoot hdot _ hwa, mem_walkRoot hdot _ hwb]
  constructor
  · rintro ⟨h1, h2⟩ p
    cases hA : (a.strip c.excluded true).lookup p with
    | some it =>
      rw [(walked_entry hpa hA).1 b]
      exact ((checkEntry_ok_iff c ra rb hfa hfb hbuf b p it (walked_entry hpa hA).2).1 (h1 p it hA)).symm
    | none =>
      cases hB : (b.strip c.excluded true).lookup p with
      | none => rfl
      | some it =>
        have := h2 p it hB
        rw [if_neg] at this
        · cases this
        · rw [List.contains_iff_mem, List.mem_map]
          rintro ⟨⟨q, it'⟩, hm, rfl⟩
          rw [mem_walkRoot hdot _ hwa, hA] at hm
          cases hm
  · intro h
    refine ⟨fun p it hA => ?_, fun p it hB => ?_⟩
    · rw [checkEntry_ok_iff c ra rb hfa hfb hbuf b p it (walked_entry hpa hA).2, ← (walked_entry hpa hA).1 b, ← h p, hA]
    · rw [if_pos]
      rw [List.contains_iff_mem, List.mem_map]
      exact ⟨(p, it), (mem_walkRoot hdot _ hwa _ _).2 (by rw [h p, hB]), rfl⟩

end Diskfs.Sync
