/-
  C18 parsers — ext4 `directoryEntryFromBytes`, `parseDirEntriesLinear`, `parseExtents`.
-/
import DiskfsModel.Proofs.ParsersBase
namespace Diskfs.Parsers.Ext4
open Diskfs.Parsers Out

variable {F C : Prop}

/-- `hname` is what the caller has checked: `0x8+int(b[i+0x6]) <= int(length)` -/
theorem dirEntryFromBytes_lands (b : GS) (hwf : b.wf) (hname : 8 + (b.buf.getD 6 0).toNat ≤ b.len) :
    Lands F C (fun _ => True) (dirEntryFromBytes b) := by
  unfold GS.wf at hwf
  unfold dirEntryFromBytes minDirEntryLength maxDirEntryLength
  refine .ite (fun _ => .err) fun _ => ?_
  -- `b[:263]` keeps the buffer
  obtain ⟨n, hn, hb'⟩ : ∃ n, 12 ≤ n ∧ (if b.len > 263 then GS.mk b.buf 263 else b) = ⟨b.buf, n⟩ := by
    split
    · exact ⟨263, by omega, rfl⟩
    · exact ⟨b.len, by omega, rfl⟩
  rw [hb']
  refine .bind (idx_lands fun _ => by dsimp only; omega) fun nl hnl => ?_
  obtain rfl := hnl
  refine slc_bind_lands (fun _ => by dsimp only; omega) fun _ _ => ?_
  refine le_bind_lands (fun _ => by dsimp only; omega) fun _ => ?_
  exact idx_bind_lands (fun _ => by dsimp only; omega) fun _ => .pure trivial

/-- the loop advances by at least 12 bytes per iteration: `(len - i) / 12 + 1` iterations suffice from position `i`,
    and as many entries at most are appended -/
theorem dirLoop_lands (b : GS) (hwf : b.wf) :
    ∀ (fuel i : Nat) (acc : List DirEnt), i ≤ b.len → Lands (b.len + 12 ≤ i + 12 * fuel) C
      (fun l => 12 * l.length ≤ 12 * acc.length + (b.len - i)) (dirLoop true b fuel i acc) := by
  have hcap := hwf
  unfold GS.wf at hcap
  have h12 : minDirEntryLength = 12 := rfl
  intro fuel
  induction fuel with
  | zero => intro i acc _; exact .fuel (by omega)
  | succ n ih =>
    intro i acc hle
    rw [dirLoop]
    simp only [Bool.true_and, Bool.not_true, Bool.false_eq_true, if_false, decide_eq_true_eq]
    refine .ite (fun _ => .ok (by omega)) fun hi => .ite (fun _ => .err) fun hhdr => ?_
    refine le_bind_lands (fun _ => by omega) fun length => ?_
    -- `bad = false` is what the three checks on `rec_len` and the name length establish
    refine .bind (Q := fun bad => bad = false →
        12 ≤ length ∧ i + length ≤ b.len ∧ 8 + (b.buf.getD (i + 6) 0).toNat ≤ length) ?_ fun bad hbad => ?_
    · refine .ite (fun _ => .pure nofun) fun _ => .ite (fun _ => .pure nofun) fun _ => ?_
      refine .bind (idx_lands fun _ => by omega) fun nl hnl => .pure fun h => ?_
      simp only [decide_eq_false_iff_not] at h
      omega
    · refine .ite (fun _ => .err) fun hb => ?_
      obtain ⟨h1, h2, h3⟩ := hbad (by simpa using hb)
      refine slc_bind_lands (fun _ => by omega) fun _ _ => ?_
      refine .bind (dirEntryFromBytes_lands _ (wf_drop b hwf _ _ (by omega)) (by rw [getD_drop]; dsimp only; omega))
        fun de _ => (ih _ _ (by omega)).mono (by omega) fun l hl => ?_
      simp only [List.length_append, List.length_cons, List.length_nil] at hl
      omega

/-- the hypothesis is what the `eh_entries` check of `parseExtents` establishes -/
theorem leafLoop_lands (b : GS) (hwf : b.wf) : ∀ (n i : Nat) (acc : List ExtRow), 12 + (i + n) * 12 ≤ b.len →
    Lands F C (fun l => l.length = acc.length + n) (leafLoop b n i acc) := by
  unfold GS.wf at hwf
  intro n
  induction n with
  | zero => intro i acc _; exact .ok rfl
  | succ n ih =>
    intro i acc h
    rw [leafLoop]
    refine slc_bind_lands (fun _ => by omega) fun _ _ => slc_bind_lands (fun _ => by omega) fun _ _ => ?_
    refine le_bind_lands (fun _ => by omega) fun _ => le_bind_lands (fun _ => by omega) fun _ => ?_
    exact (ih _ _ (by omega)).mono id fun l hl => by rw [hl, List.length_append, List.length_singleton]; omega

theorem intLoop_lands (b : GS) (hwf : b.wf) : ∀ (n i : Nat) (acc : List ExtRow), 12 + (i + n) * 12 ≤ b.len →
    Lands F C (fun l => l.length = acc.length + n) (intLoop b n i acc) := by
  unfold GS.wf at hwf
  intro n
  induction n with
  | zero => intro i acc _; exact .ok rfl
  | succ n ih =>
    intro i acc h
    rw [intLoop]
    refine slc_bind_lands (fun _ => by omega) fun _ _ => slc_bind_lands (fun _ => by omega) fun _ _ => ?_
    refine le_bind_lands (fun _ => by omega) fun _ => ?_
    exact (ih _ _ (by omega)).mono id fun l hl => by rw [hl, List.length_append, List.length_singleton]; omega

theorem fixCountsAux_length (last : Nat) (l : List ExtRow) : (fixCountsAux last l).length = l.length := by
  induction l with
  | nil => rfl
  | cons r rest ih => simp only [fixCountsAux, List.length_cons, ih]

theorem parseExtents_lands (b : GS) (hwf : b.wf) (start count : Nat) :
    Lands F C (fun n => n.rows.length = n.entries ∧ 12 + 12 * n.entries ≤ b.len) (parseExtents true b start count) := by
  have hcap := hwf
  unfold GS.wf at hcap
  unfold parseExtents
  refine .ite (fun _ => .err) fun _ => le_bind_lands (fun _ => by omega) fun _ => .ite (fun _ => .err) fun _ => ?_
  refine le_bind_lands (fun _ => by omega) fun entries => le_bind_lands (fun _ => by omega) fun _ => ?_
  refine le_bind_lands (fun _ => by omega) fun _ => .ite (fun _ => .err) fun hfit => ?_
  simp only [Bool.true_and, decide_eq_true_eq] at hfit
  refine .ite (fun _ => ?_) fun _ => ?_
  · exact .bind (leafLoop_lands b hwf entries 0 [] (by omega)) fun l hl => .pure ⟨by simpa using hl, by dsimp only; omega⟩
  · exact .bind (intLoop_lands b hwf entries 0 [] (by omega)) fun l hl =>
      .pure ⟨by simpa [fixCounts, fixCountsAux_length] using hl, by dsimp only; omega⟩

end Diskfs.Parsers.Ext4
