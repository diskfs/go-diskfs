/-
  The superblock codec of Model/Sqfs/Codec.lean round-trips on well-formed superblocks.
  `split_leEnc` is the step every field-by-field decoder of the squashfs family takes: `split`
  hands back the `leEnc` field that was appended in front.
-/
import DiskfsModel.Model.Sqfs.Codec
namespace Diskfs.Sqfs

theorem split_leEnc (k n : Nat) (rest : Bytes) : split k (leEnc k n ++ rest) = (leEnc k n, rest) := by
  simp [split]

theorem encodeSB_length (s : Superblock) : (encodeSB s).length = 96 := by simp [encodeSB]

theorem decode_encodeSB (s : Superblock) (h : s.WF) : decodeSB (encodeSB s) = some s := by
  obtain ⟨h1, h2, h3, h4, h5, h6, h7, h8, h9, h10, h11, h12, h13, h14, h15⟩ := h
  have hlog : Nat.log2 s.blocksize < 2 ^ 16 := by
    by_cases h0 : s.blocksize = 0
    · rw [h0]; decide
    · exact Nat.lt_trans ((Nat.log2_lt h0).2 h3) (by decide)
  have hl : split 8 (leEnc 8 s.exportStart) = (leEnc 8 s.exportStart, []) := by simpa using split_leEnc 8 s.exportStart []
  unfold decodeSB
  rw [encodeSB_length]
  simp only [encodeSB, split_leEnc, hl, leDec_leEnc_of_lt 4 _ h1, leDec_leEnc_of_lt 4 _ h2, leDec_leEnc_of_lt 4 _ h3,
    leDec_leEnc_of_lt 4 _ h4, leDec_leEnc_of_lt 2 _ h5, leDec_leEnc_of_lt 2 _ h6, leDec_leEnc_of_lt 2 _ h7,
    leDec_leEnc_of_lt 8 _ h8, leDec_leEnc_of_lt 8 _ h9, leDec_leEnc_of_lt 8 _ h10, leDec_leEnc_of_lt 8 _ h11,
    leDec_leEnc_of_lt 8 _ h12, leDec_leEnc_of_lt 8 _ h13, leDec_leEnc_of_lt 8 _ h14, leDec_leEnc_of_lt 8 _ h15,
    leDec_leEnc_of_lt 2 _ hlog, leDec_leEnc_of_lt 4 sbMagic (by decide), leDec_leEnc_of_lt 2 4 (by decide),
    leDec_leEnc_of_lt 2 0 (by decide)]
  simp

end Diskfs.Sqfs
