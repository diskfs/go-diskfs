/-
  Arithmetic of the layout model: `seqAlloc` puts extents one behind the other; `placeRec` pads to the
  next block exactly when a record would reach into it (or end on the boundary), which is what keeps
  every record of `dirOffsets` inside one block.
-/
import DiskfsModel.Model.Iso.Layout
import DiskfsModel.Proofs.Arith
namespace Diskfs.Iso

theorem seqAlloc_inside (s : Nat) (l : List Nat) :
    ∀ e ∈ seqAlloc s l, s ≤ e.1 ∧ e.1 + e.2 ≤ s + l.sum := by
  induction l generalizing s with
  | nil => intro e h; simp [seqAlloc] at h
  | cons b bs ih =>
    intro e h
    simp only [seqAlloc, List.mem_cons] at h
    rcases h with rfl | h
    · simp only [List.sum_cons]; omega
    · have := ih (s + b) e h
      simp only [List.sum_cons]; omega

theorem seqAlloc_pairwise (s : Nat) (l : List Nat) :
    (seqAlloc s l).Pairwise (fun a b => a.1 + a.2 ≤ b.1) := by
  induction l generalizing s with
  | nil => simp [seqAlloc]
  | cons b bs ih =>
    simp only [seqAlloc, List.pairwise_cons]
    refine ⟨?_, ih (s + b)⟩
    intro e he
    exact (seqAlloc_inside (s + b) bs e he).1

theorem seqAlloc_length (s : Nat) (l : List Nat) : (seqAlloc s l).length = l.length := by
  induction l generalizing s with
  | nil => rfl
  | cons b bs ih => simp [seqAlloc, ih]

theorem blocksFor_covers (size bs : Nat) (h : 0 < bs) :
    size ≤ blocksFor size bs * bs ∧ blocksFor size bs * bs < size + bs :=
  divUp_bounds size bs h

theorem blocksFor_mul (k bs : Nat) (hbs : 0 < bs) : blocksFor (k * bs) bs = k :=
  divUp_mul k bs hbs

theorem blocksFor_one (n bs : Nat) (h0 : 0 < n) (h : n ≤ bs) : blocksFor n bs = 1 :=
  divUp_one n bs h0 h

theorem placeRec_ge (bs acc r : Nat) : acc ≤ placeRec bs acc r := by
  unfold placeRec; split <;> omega

theorem placeRec_cases (bs pos r : Nat) :
    placeRec bs pos r = pos ∨ placeRec bs pos r = pos + (bs - pos % bs) := by
  unfold placeRec; split <;> simp

theorem placeRec_pad_le (bs pos r : Nat) (hbs : 0 < bs) : placeRec bs pos r - pos ≤ r := by
  unfold placeRec
  split
  · rename_i h
    have h1 := Nat.div_add_mod' pos bs
    have h2 := (Nat.le_div_iff_mul_le hbs).1 (show pos / bs + 1 ≤ (pos + r) / bs from h)
    rw [Nat.add_mul, Nat.one_mul] at h2
    omega
  · omega

theorem placeRec_no_cross (bs acc r : Nat) (hbs : 0 < bs) (hr : 0 < r) (hrb : r ≤ bs) :
    placeRec bs acc r / bs = (placeRec bs acc r + r - 1) / bs := by
  -- a record that lies inside block `q` starts and ends in it
  have key : ∀ x q, q * bs ≤ x → x + r ≤ (q + 1) * bs → x / bs = (x + r - 1) / bs := fun x q h1 h2 => by
    rw [Nat.div_eq_of_lt_le (k := q) h1 (by omega), Nat.div_eq_of_lt_le (k := q) (by omega) (by omega)]
  have hd := Nat.div_add_mod' acc bs
  have hm := Nat.mod_lt acc hbs
  unfold placeRec
  split
  · exact key _ (acc / bs + 1) (by simp only [Nat.add_mul, Nat.one_mul]; omega) (by simp only [Nat.add_mul, Nat.one_mul]; omega)
  · rename_i hn
    have := (Nat.div_lt_iff_lt_mul hbs).1 (Nat.lt_add_one_of_le (Nat.le_of_not_gt hn))
    exact key _ (acc / bs) (by omega) (by omega)

theorem dirOffsets_ordered (bs : Nat) (rs : List Nat) (acc : Nat) :
    (∀ p ∈ dirOffsets bs rs acc, acc ≤ p.1 ∧ p.1 + p.2 ≤ dirSize bs rs acc) ∧
    (dirOffsets bs rs acc).Pairwise (fun a b => a.1 + a.2 ≤ b.1) ∧ acc ≤ dirSize bs rs acc := by
  induction rs generalizing acc with
  | nil => simp [dirOffsets, dirSize]
  | cons r rs ih =>
    have IH := ih (placeRec bs acc r + r)
    have hg := placeRec_ge bs acc r
    simp only [dirOffsets, dirSize, List.pairwise_cons, List.mem_cons]
    refine ⟨?_, ⟨?_, IH.2.1⟩, by omega⟩
    · intro p hp
      rcases hp with rfl | hp
      · simp only; omega
      · have := IH.1 p hp; omega
    · intro p hp
      have := IH.1 p hp; omega

end Diskfs.Iso
