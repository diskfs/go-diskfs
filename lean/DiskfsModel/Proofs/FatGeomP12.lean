/-
  FAT12 and FAT16 geometry, parametric in the cluster-size table (see Proofs/FatGeomP.lean): no case
  split over table rows or values — sectors per cluster is any `v` with 1 ≤ v ≤ 128.  The two
  `Create`s differ in reserved sectors, root directory and FAT entry width only; what they share
  is `geom1x_wf`.
-/
import DiskfsModel.Proofs.FatGeomP
namespace Diskfs.Fat

/-- The uint32 data-sector count of fat12/fat16.Create did not wrap if the cluster count passed the
    upper check: a wrapped count is close to 2^32, and divided by at most 128 sectors per cluster
    still far above any FAT16 cluster count.  4194304 sectors are the 2 GiB fat16.Create accepts at most,
    36 = 4 reserved + 32 root-directory sectors (FAT16; FAT12 has 1 + 14). -/
theorem sub32_chain_nowrap {ts res rds s v M : Nat} (hts : ts ≤ 4194304) (ha : res + rds ≤ 36)
    (hs : s < 65536) (hv1 : 1 ≤ v) (hv : v ≤ 128) (hM : M ≤ 65525)
    (h : sub32 (sub32 (sub32 ts res) rds) (u32 (2 * s)) / v < M) :
    res + rds + 2 * s ≤ ts := by
  have h1 := (Nat.div_lt_iff_lt_mul hv1).1 h
  have h2 : M * v ≤ 65525 * 128 := Nat.mul_le_mul hM hv
  simp only [sub32, u32] at h1
  omega

/-- `Geom.WF` for the FAT12/FAT16 geometry (512-byte sectors) that passed Create's cluster-count
    checks `c1`, `c2`.  `spfGo`: Create's sectors-per-FAT formula, applied (`hs`) to the first-pass
    cluster count, which the final one does not exceed; `hfat`: it sizes the FAT for any count. -/
theorem geom1x_wf {k : Kind} {v res s re size rds M : Nat} {spfGo : Nat → Nat}
    (hfat : ∀ nc, nc ≤ size / 512 → nc + 2 ≤ Geom.fatEntries ⟨k, 512, v, res, spfGo nc, re, size / 512⟩)
    (hs : spfGo (sub32 (sub32 (size / 512) res) rds / v) = s) (hlt : s < 65536)
    (hr : (re * 32 + 511) / 512 = rds) (hsz : size / 512 ≤ 4194304) (hres : res + rds ≤ 36)
    (hv1 : 1 ≤ v) (hv : v ≤ 128) (hM : M ≤ 65525)
    (c1 : sub32 (sub32 (sub32 (size / 512) res) rds) (u32 (2 * s)) / v < M)
    (c2 : sub32 (sub32 (sub32 (size / 512) res) rds) (u32 (2 * s)) / v ≠ 0) :
    let g : Geom := ⟨k, 512, v, res, s, re, size / 512⟩
    g.WF size ∧ g.clusters = sub32 (sub32 (sub32 (size / 512) res) rds) (u32 (2 * s)) / v := by
  have hnw := sub32_chain_nowrap hsz hres hlt hv1 hv hM c1
  have hcl : sub32 (sub32 (sub32 (size / 512) res) rds) (u32 (2 * s)) / v =
      (size / 512 - res - 2 * s - rds) / v := by
    rw [u32_of_lt (by omega), sub32_of_le (a := size / 512) (by omega) (by omega),
      sub32_of_le (b := rds) (by omega) (by omega), sub32_of_le (by omega) (by omega)]
    congr 1
    omega
  rw [hcl] at c2 ⊢
  have hg : Geom.clusters ⟨k, 512, v, res, s, re, size / 512⟩ = (size / 512 - res - 2 * s - rds) / v := by
    rw [← hr]; rfl
  rw [sub32_of_le (a := size / 512) (by omega) (by omega), sub32_of_le (b := rds) (by omega) (by omega)] at hs
  have h1 := hfat _ (Nat.le_trans (Nat.div_le_self (size / 512 - res - rds) v) (by omega))
  rw [hs] at h1
  refine ⟨Geom.wf_of_clusters (Nat.zero_lt_succ 511) rfl (hg ▸ Nat.pos_of_ne_zero c2)
    (Nat.le_trans (Nat.add_le_add_right ?_ 2) h1), hg⟩
  rw [hg]
  exact Nat.div_le_div_right (by omega)

theorem spf12_holds {nc : Nat} (h : nc ≤ 262144) :
    nc + 2 ≤ u16 (sub32 (u32 (u32 (u32 ((nc + 2) * 3) / 2 + 1) + 512)) 1 / 512) * 512 * 2 / 3 := by
  rw [u32_of_lt (x := (nc + 2) * 3) (by omega), u32_of_lt (x := (nc + 2) * 3 / 2 + 1) (by omega),
    u32_of_lt (x := (nc + 2) * 3 / 2 + 1 + 512) (by omega), sub32_of_le (by omega) (by omega),
    u16_of_lt (by omega)]
  omega

theorem spf16_holds {nc : Nat} (h : nc ≤ 4194304) :
    nc + 2 ≤ u16 (sub32 (u32 (u32 ((nc + 2) * 2) + 512)) 1 / 512) * 512 / 2 := by
  rw [u32_of_lt (x := (nc + 2) * 2) (by omega), u32_of_lt (x := (nc + 2) * 2 + 512) (by omega),
    sub32_of_le (by omega) (by omega), u16_of_lt (by omega)]
  omega

theorem mkGeom12_wf_tbl (tbl : List (Nat × Nat)) (hT : ClusterTableWF spcAllowed tbl = true)
    (size : Nat) (g : Geom) (h : mkGeom12 tbl size = some g) :
    g.WF size ∧ g.kind = .f12 ∧ g.clusters < 4085 := by
  have hv1 := lookup_spc_range hT size
  unfold mkGeom12 at h
  generalize sizeTableLookup tbl size = v at hv1 h
  simp only [ite_none_eq_some, Option.some.injEq, MB] at h
  obtain ⟨hhi, hlo, c1, c2, rfl⟩ := h
  rw [u8_of_lt (by omega), u32_of_lt (x := size / 512) (by omega)] at c1 c2 ⊢
  generalize hre : (if size ≤ 512 * KB then 112 else 224) = re at c1 c2 ⊢
  have hre' : re = 112 ∨ re = 224 := by split at hre <;> omega
  have := geom1x_wf (k := .f12) (M := 4085)
    (fun nc hnc => show nc + 2 ≤ _ * 512 * 2 / 3 from spf12_holds (by omega)) rfl (u16_lt _) rfl
    (by omega) (by omega) hv1.1 hv1.2 (by decide) (Nat.not_le.1 c1) c2
  exact ⟨this.1, rfl, Nat.lt_of_le_of_lt (Nat.le_of_eq this.2) (Nat.not_le.1 c1)⟩

theorem mkGeom16_wf_tbl (tbl : List (Nat × Nat)) (hT : ClusterTableWF spcAllowed tbl = true)
    (size : Nat) (g : Geom) (h : mkGeom16 tbl size = some g) :
    g.WF size ∧ g.kind = .f16 ∧ 4085 ≤ g.clusters ∧ g.clusters < 65525 := by
  have hv1 := lookup_spc_range hT size
  unfold mkGeom16 at h
  generalize sizeTableLookup tbl size = v at hv1 h
  simp only [show (512 * 32 + 511) / 512 = 32 by decide, GB, ite_none_eq_some, Option.some.injEq] at h
  obtain ⟨hhi, hlo, c1, c2, rfl⟩ := h
  rw [u8_of_lt (by omega), u32_of_lt (x := size / 512) (by omega)] at c1 c2 ⊢
  have := geom1x_wf (k := .f16) (re := 512) (M := 65525) (fun nc hnc => show nc + 2 ≤ _ * 512 / 2 from spf16_holds (by omega)) rfl
    (u16_lt _) rfl (by omega) (Nat.le_refl 36) hv1.1 hv1.2 (by decide) (Nat.not_le.1 c1)
    (Nat.ne_of_gt (Nat.lt_of_lt_of_le (by decide) (Nat.not_lt.1 c2)))
  exact ⟨this.1, rfl, Nat.le_trans (Nat.not_lt.1 c2) (Nat.le_of_eq this.2.symm), Nat.lt_of_le_of_lt (Nat.le_of_eq this.2) (Nat.not_le.1 c1)⟩

end Diskfs.Fat
