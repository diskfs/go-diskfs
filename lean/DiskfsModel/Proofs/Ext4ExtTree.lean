/-
  Lemmas about the extent-tree mirror (Model/Ext4/ExtTree.lean): what a successful `extend` (extendExtentTree) does to
  the extent list the tree denotes and to the shape of the tree (fan-out bounds, uniform depth).
-/
import DiskfsModel.Model.Ext4.ExtTree
namespace Diskfs.Ext4.ExtTree
open Diskfs Diskfs.Ext4

/-- file blocks strictly increasing (`DirGrow.SortedFB` of the directory code allows equal ones) -/
def SortedFB (es : List Extent) : Prop := es.Pairwise (fun a b => a.fileBlock < b.fileBlock)

theorem insertFB_of_lt (e : Extent) (es : List Extent) (h : ∀ x ∈ es, e.fileBlock < x.fileBlock) :
    insertFB e es = e :: es := by
  cases es with
  | nil => rfl
  | cons x xs => simp [insertFB, h x (by simp)]

theorem sortFB_of_sorted (es : List Extent) (h : SortedFB es) : sortFB es = es := by
  induction es with
  | nil => rfl
  | cons e es ih =>
    have h' := List.pairwise_cons.mp h
    simp only [sortFB, ih h'.2]
    exact insertFB_of_lt e es h'.1

theorem insertFB_length (e : Extent) (es : List Extent) : (insertFB e es).length = es.length + 1 := by
  induction es with
  | nil => rfl
  | cons x xs ih =>
    simp only [insertFB]
    split <;> simp [ih]

theorem sortFB_length (es : List Extent) : (sortFB es).length = es.length := by
  induction es with
  | nil => rfl
  | cons e es ih => simp [sortFB, insertFB_length, ih]

theorem SortedFB.of_append_right {a b : List Extent} (h : SortedFB (a ++ b)) : SortedFB b :=
  (List.pairwise_append.mp h).2.1

theorem SortedFB.of_append_left {a b : List Extent} (h : SortedFB (a ++ b)) : SortedFB a :=
  (List.pairwise_append.mp h).1

theorem flattenKids_append (a b : Kids) : flattenKids (a ++ b) = flattenKids a ++ flattenKids b := by
  induction a with
  | nil => rfl
  | cons p ps ih =>
    obtain ⟨k, c⟩ := p
    simp [flattenKids, ih]

theorem flattenKids_map (f : Node → Nat) (nodes : List Node) :
    flattenKids (nodes.map fun n => (f n, n)) = (nodes.map flatten).flatten := by
  induction nodes with
  | nil => rfl
  | cons n ns ih => simp only [List.map_cons, flattenKids, List.flatten_cons, ih]

theorem treeBlocksKids_append (a b : Kids) : treeBlocksKids (a ++ b) = treeBlocksKids a ++ treeBlocksKids b := by
  induction a with
  | nil => rfl
  | cons p ps ih =>
    obtain ⟨k, c⟩ := p
    simp [treeBlocksKids, ih]

/- Three predicates on nodes, each what one theorem needs and no more.  `wf` makes `findChild` land on the last child
   (`last_child`): enough to say what a successful call does to the extent list (`extend_ok`, first half), for the code as
   found or repaired and any allocator.  `okNode` / `okRoot` (fan-out, uniform depth) are kept without it (second half).
   `good` / `goodRoot` of Proofs/Ext4ExtInv.lean have both and block numbers that are not 0; with sorted file blocks and
   distinct blocks they make every lookup of a call succeed, which is what progress needs (`extendIx_good`).  `goodB` of
   Model/Ext4/ExtTreeInv.lean decides `good` (Proofs/Ext4ExtInvDec.lean). -/

/-- what the library builds: nodes are not empty and every pointer key is the first file block of the node it points to -/
def wf : Node → Prop
  | .leaf _ _ es => es ≠ []
  | .index _ _ _ ks => ks ≠ [] ∧ wfKids ks
where wfKids : Kids → Prop
  | [] => True
  | (k, c) :: ks => c.firstKey = some k ∧ wf c ∧ wfKids ks

theorem wfKids_mem {ks : Kids} (h : wf.wfKids ks) {p : Nat × Node} (hp : p ∈ ks) : p.2.firstKey = some p.1 ∧ wf p.2 := by
  induction ks with
  | nil => cases hp
  | cons q qs ih =>
    obtain ⟨k, c⟩ := q
    rcases List.mem_cons.mp hp with rfl | hp'
    · exact ⟨h.1, h.2.1⟩
    · exact ih h.2.2 hp'

theorem firstKey_flatten : ∀ (c : Node) (k : Nat), wf c → c.firstKey = some k →
    ∃ e rest, flatten c = e :: rest ∧ e.fileBlock = k
  | .leaf _ _ [], _, hw, _ => absurd rfl hw
  | .leaf _ _ (e :: es), k, _, hf => ⟨e, es, rfl, by simpa [Node.firstKey] using hf⟩
  | .index _ _ _ [], _, hw, _ => absurd rfl hw.1
  | .index _ _ _ ((k0, c0) :: ks), k, hw, hf => by
    have hk : k0 = k := by simpa [Node.firstKey] using hf
    obtain ⟨e, rest, he, hfb⟩ := firstKey_flatten c0 k0 hw.2.2.1 hw.2.1
    exact ⟨e, rest ++ flattenKids ks, by simp [flatten, flattenKids, he], hk ▸ hfb⟩

theorem flatten_sub_flattenKids {ks : Kids} {p : Nat × Node} (hp : p ∈ ks) : ∀ e ∈ flatten p.2, e ∈ flattenKids ks := by
  induction ks with
  | nil => cases hp
  | cons q qs ih =>
    obtain ⟨k, c⟩ := q
    intro e he
    simp only [flattenKids, List.mem_append]
    rcases List.mem_cons.mp hp with rfl | hp'
    · exact Or.inl he
    · exact Or.inr (ih hp' e he)

theorem keys_lt_of_sorted {ks : Kids} {e : Extent} {rest : List Extent} (hw : wf.wfKids ks)
    (hs : SortedFB (flattenKids ks ++ e :: rest)) {p : Nat × Node} (hp : p ∈ ks) : p.1 < e.fileBlock := by
  obtain ⟨hk, hwp⟩ := wfKids_mem hw hp
  obtain ⟨e', r', he', hfb⟩ := firstKey_flatten p.2 p.1 hwp hk
  rw [← hfb]
  exact (List.pairwise_append.mp hs).2.2 e' (flatten_sub_flattenKids hp e' (by rw [he']; simp)) e (by simp)

theorem findChildAux_all_le (fb : Nat) (keys : List Nat) (i : Nat) (h : ∀ k ∈ keys, k ≤ fb) :
    findChildAux fb keys i = if i + keys.length = 0 then none else some (i + keys.length - 1) := by
  induction keys generalizing i with
  | nil => simp [findChildAux]
  | cons k ks ih =>
    have hk : ¬ fb < k := Nat.not_lt.mpr (h k (by simp))
    simp only [findChildAux, hk, if_false]
    rw [ih (i + 1) (fun k' hk' => h k' (by simp [hk'])), List.length_cons, Nat.add_right_comm, Nat.add_assoc]

theorem findChild_all_le (fb : Nat) (keys : List Nat) (h : ∀ k ∈ keys, k ≤ fb) :
    findChild keys fb = if keys.length = 0 then none else some (keys.length - 1) := by
  simpa [findChild] using findChildAux_all_le fb keys 0 h

theorem last_child {idx : Nat} {kids : Kids} {p : Nat × Node} {e : Extent} {rest : List Extent} (hw : wf.wfKids kids)
    (hs : SortedFB (flattenKids kids ++ e :: rest)) (hf : findChild (kids.map (·.1)) e.fileBlock = some idx)
    (hg : kids[idx]? = some p) : ∃ init, kids = init ++ [p] ∧ idx = init.length := by
  have hk : ∀ q ∈ kids, q.1 ≤ e.fileBlock := fun q hq => Nat.le_of_lt (keys_lt_of_sorted hw hs hq)
  rw [findChild_all_le _ _ (by simpa using hk)] at hf
  rcases List.eq_nil_or_concat kids with rfl | ⟨init, q, rfl⟩
  · cases hf
  · rw [List.concat_eq_append] at *
    simp only [List.map_append, List.length_append, List.length_map, List.length_cons,
      List.length_nil, Nat.add_eq_zero_iff, Nat.succ_ne_self, and_false, if_false, Option.some.injEq] at hf
    subst hf
    simp only [Nat.add_sub_cancel, List.getElem?_concat_length, Option.some.injEq] at hg
    exact ⟨init, by rw [hg], rfl⟩

/-- a node that lives in a block: `max` is the fan-out of a block, it has at most `max` entries, and every child
    of an index node is one level below it (leaves are at depth 0) -/
def okNode (bs : Nat) : Node → Prop
  | .leaf max _ es => max = nonRootMax bs ∧ es.length ≤ max
  | .index max _ depth ks => max = nonRootMax bs ∧ ks.length ≤ max ∧ okKids bs depth ks
where okKids (bs : Nat) (depth : Nat) : Kids → Prop
  | [] => True
  | (_, c) :: ks => c.depth + 1 = depth ∧ okNode bs c ∧ okKids bs depth ks

/-- the root in the inode: at most `max` entries (4), the nodes below it well-shaped -/
def okRoot (bs : Nat) : Node → Prop
  | .leaf max _ es => es.length ≤ max
  | .index max _ depth ks => ks.length ≤ max ∧ okNode.okKids bs depth ks

theorem okKids_iff (bs d : Nat) (ks : Kids) :
    okNode.okKids bs d ks ↔ ∀ p ∈ ks, p.2.depth + 1 = d ∧ okNode bs p.2 := by
  induction ks with
  | nil => simp [okNode.okKids]
  | cons p ps ih => simp [okNode.okKids, ih, and_assoc]

theorem okKids_append (bs d : Nat) (a b : Kids) :
    okNode.okKids bs d (a ++ b) ↔ okNode.okKids bs d a ∧ okNode.okKids bs d b := by
  simp only [okKids_iff, List.mem_append, or_imp]
  exact forall_and

theorem okKids_take_drop (bs d : Nat) (ks : Kids) (n : Nat) (h : okNode.okKids bs d ks) :
    okNode.okKids bs d (ks.take n) ∧ okNode.okKids bs d (ks.drop n) := by
  rw [← List.take_append_drop n ks, okKids_append] at h
  exact h

theorem okKids_set (bs d : Nat) (ks : Kids) (i : Nat) (q : Nat × Node) (h : okNode.okKids bs d ks)
    (hq : q.2.depth + 1 = d ∧ okNode bs q.2) : okNode.okKids bs d (ks.set i q) := by
  rw [okKids_iff] at h ⊢
  intro p hp
  rcases List.mem_or_eq_of_mem_set hp with hp | rfl
  · exact h p hp
  · exact hq

theorem splitLeaf_ok {σ : Type} {fx : Bool} {A : Allocator σ} {s s' : σ} {bs disk m : Nat} {all : List Extent} {a b : Node}
    (h : splitLeaf fx A s bs disk all = .ok (a, b, m, s')) :
    flatten a ++ flatten b = sortFB all ∧ (a.depth = 0 ∧ okNode bs a) ∧ (b.depth = 0 ∧ okNode bs b) := by
  unfold splitLeaf at h
  simp only at h
  split at h
  · cases h
  · split at h
    · cases h
    · split at h
      · cases h
      · rename_i hfit
        simp only [Res.ok.injEq, Prod.mk.injEq] at h
        obtain ⟨rfl, rfl, _⟩ := h
        simp only [flatten, List.take_append_drop, okNode, Node.depth, List.length_take, List.length_drop, true_and]
        omega

theorem mkRoot_one {n : Node} {k : Nat} (hn : n.firstKey = some k) : mkRoot [n] = .ok (.index 4 0 (n.depth + 1) [(k, n)]) := by
  simp [mkRoot, hn]

theorem mkRoot_two {a b : Node} {ka kb : Nat} (ha : a.firstKey = some ka) (hb : b.firstKey = some kb) :
    mkRoot [a, b] = .ok (.index 4 0 (a.depth + 1) [(ka, a), (kb, b)]) := by
  simp [mkRoot, ha, hb]

theorem mkRoot_ok {nodes : List Node} {r : Node} (h : mkRoot nodes = .ok r) :
    flatten r = (nodes.map flatten).flatten ∧
      ∀ {bs d : Nat}, nodes.length ≤ 4 → (∀ n ∈ nodes, n.depth = d ∧ okNode bs n) → okRoot bs r := by
  unfold mkRoot at h
  split at h
  · cases h
  · rename_i n0 rest
    simp only at h
    split at h
    · cases h
    · simp only [Res.ok.injEq, List.map_map] at h
      subst h
      refine ⟨flattenKids_map _ _, fun {bs d} hl hn => ⟨by simpa using hl, ?_⟩⟩
      rw [(hn n0 (by simp)).1]
      generalize (n0 :: rest) = ns at hn
      induction ns with
      | nil => trivial
      | cons n ns ih =>
        exact ⟨by rw [(hn n (by simp)).1], (hn n (by simp)).2, ih (fun x hx => hn x (by simp [hx]))⟩

theorem splitIndex_ok {σ : Type} {A : Allocator σ} {s s' : σ} {bs depth m m' : Nat} {isRoot : Bool} {kids : Kids} {r : Node}
    (h : splitIndex A s bs depth isRoot kids m = .ok (r, m', s')) :
    isRoot = true ∧ flatten r = flattenKids kids ∧ (okNode.okKids bs depth kids → okRoot bs r) := by
  unfold splitIndex at h
  simp only at h
  split at h
  · cases h
  · split at h
    · cases h
    · rename_i hfit
      split at h
      · rename_i hroot
        split at h
        · rename_i r0 hr
          simp only [Res.ok.injEq, Prod.mk.injEq] at h
          obtain ⟨hf, hs⟩ := mkRoot_ok (h.1 ▸ hr)
          refine ⟨hroot, by rw [hf]; simp [flatten, ← flattenKids_append], fun hk => ?_⟩
          have htd := okKids_take_drop bs depth kids (kids.length / 2) hk
          exact hs (d := depth) (by simp) (List.forall_mem_cons.2
            ⟨⟨rfl, rfl, by rw [List.length_take]; omega, htd.1⟩,
              List.forall_mem_singleton.2 ⟨rfl, rfl, by rw [List.length_drop]; omega, htd.2⟩⟩)
        all_goals cases h
      · cases h

/-- `extendLeafNode` on a root leaf: the extents are appended in place, moved into one leaf in a block, or split over two -/
theorem extendRootLeaf_ok {σ : Type} {fx : Bool} {A : Allocator σ} {s s' : σ} {bs max disk m : Nat} {exts added : List Extent}
    {t' : Node} (h : extendRootLeaf fx A s bs max disk exts added = .ok (t', m, s')) :
    (SortedFB (exts ++ added) → flatten t' = exts ++ added) ∧ okRoot bs t' := by
  unfold extendRootLeaf at h
  split at h
  · rename_i hfit
    simp only [Res.ok.injEq, Prod.mk.injEq] at h
    rw [← h.1]
    exact ⟨fun _ => rfl, by simpa [okRoot] using hfit⟩
  · split at h
    · rename_i hfit
      split at h
      · cases h
      · split at h
        · rename_i r0 hr
          simp only [Res.ok.injEq, Prod.mk.injEq] at h
          obtain ⟨hf, hs⟩ := mkRoot_ok (h.1 ▸ hr)
          exact ⟨fun hso => by simp [hf, flatten, sortFB_of_sorted _ hso],
            hs (d := 0) (by simp) (List.forall_mem_singleton.2 ⟨rfl, rfl, by simpa [sortFB_length] using hfit⟩)⟩
        all_goals cases h
    · split at h
      · rename_i hsp
        split at h
        · rename_i r0 hr
          simp only [Res.ok.injEq, Prod.mk.injEq] at h
          obtain ⟨hf, hs⟩ := mkRoot_ok (h.1 ▸ hr)
          obtain ⟨hab, ha, hb⟩ := splitLeaf_ok hsp
          exact ⟨fun hso => by simp [hf, hab, sortFB_of_sorted _ hso],
            hs (d := 0) (by simp) (List.forall_mem_cons.2 ⟨ha, List.forall_mem_singleton.2 hb⟩)⟩
        all_goals cases h
      all_goals cases h

/-- The successful runs of `extendInternalNode`, as an induction principle: the child for the first added file block
    is a leaf that takes the extents (`append`), a leaf that is split, after which the node has room for both halves
    or goes through `splitIndex` (`split`), or an index node into which the call descends (`descend`). -/
theorem extendIx_ok_cases {σ : Type} {fx : Bool} {A : Allocator σ} {bs : Nat} {a0 : Extent} {rest : List Extent}
    {motive : Option (List (Nat × Nat)) → (max disk depth : Nat) → Kids → Node → Prop}
    (append : ∀ plist max disk depth kids idx key cmax cdisk cexts,
      findChild (kids.map (·.1)) a0.fileBlock = some idx →
      kids[idx]? = some (key, .leaf cmax cdisk cexts) → cexts.length + (a0 :: rest).length ≤ cmax →
      ¬ (kids.set idx ((Node.leaf cmax cdisk (cexts ++ a0 :: rest)).firstKey.getD 0,
          .leaf cmax cdisk (cexts ++ a0 :: rest))).length > max →
      motive plist max disk depth kids
        (.index max disk depth (kids.set idx ((Node.leaf cmax cdisk (cexts ++ a0 :: rest)).firstKey.getD 0,
          .leaf cmax cdisk (cexts ++ a0 :: rest)))))
    (split : ∀ plist max disk depth kids idx key cmax cdisk cexts s a b m0 s0 ka kb t' m s',
      findChild (kids.map (·.1)) a0.fileBlock = some idx →
      kids[idx]? = some (key, .leaf cmax cdisk cexts) →
      splitLeaf fx A s bs cdisk (cexts ++ a0 :: rest) = .ok (a, b, m0, s0) → a.firstKey = some ka → b.firstKey = some kb →
      (if (kids.take idx ++ [(ka, a), (kb, b)] ++ kids.drop (idx + 1)).length > max
        then splitIndex A s0 bs depth plist.isNone (kids.take idx ++ [(ka, a), (kb, b)] ++ kids.drop (idx + 1)) m0
        else .ok (.index max disk depth (kids.take idx ++ [(ka, a), (kb, b)] ++ kids.drop (idx + 1)), m0, s0)) =
          .ok (t', m, s') →
      motive plist max disk depth kids t')
    (descend : ∀ plist max disk depth kids idx key cmax cdisk cdepth ckids x1 x2 x3 k0 n0 ck,
      findChild (kids.map (·.1)) a0.fileBlock = some idx →
      kids[idx]? = some (key, .index cmax cdisk cdepth ckids) →
      motive (some (kids.map fun p => (p.1, p.2.disk))) cmax cdisk cdepth ckids (.index x1 x2 x3 ((k0, n0) :: ck)) →
      ¬ (kids.set idx (k0, .index x1 x2 x3 ((k0, n0) :: ck))).length > max →
      motive plist max disk depth kids (.index max disk depth (kids.set idx (k0, .index x1 x2 x3 ((k0, n0) :: ck)))))
    {fuel : Nat} {s s' : σ} {plist : Option (List (Nat × Nat))} {max disk depth m : Nat} {kids : Kids} {t' : Node}
    (h : extendIx fx A bs fuel s plist max disk depth kids (a0 :: rest) = .ok (t', m, s')) :
    motive plist max disk depth kids t' := by
  generalize hadd : a0 :: rest = added at h
  fun_induction extendIx fx A bs fuel s plist max disk depth kids added generalizing t' m s'
  all_goals try (cases h; done)
  all_goals cases hadd
  -- `h` is evaluated along the branch of the case; what is left are the three successes, and two refusals
  all_goals simp +zetaDelta only [*, ne_eq, if_true, if_false, not_false_eq_true, and_true, true_and, and_false] at h
  all_goals try (cases h; done)
  -- the leaf child takes the extents, both write-backs find their blocks
  case case14 => cases h; apply append <;> assumption
  -- the leaf child is split under a node in a block that then has more than `max` pointers: refused or toBytes panics
  case case21 => split at h <;> cases h
  -- the leaf child is split and the node overflows: `splitIndex`
  case case22 =>
    split at h
    · cases h
    · exact split _ _ _ _ _ _ _ _ _ _ _ _ _ _ _ _ _ _ _ _ ‹_› ‹_› ‹_› ‹_› ‹_› (by rw [if_pos ‹_›]; exact h)
  -- the leaf child is split and the node has room for both halves
  case case23 => exact split _ _ _ _ _ _ _ _ _ _ _ _ _ _ _ _ _ _ _ _ ‹_› ‹_› ‹_› ‹_› ‹_› (by rw [if_neg ‹_›]; exact h)
  -- the child is an index node: the call descends, the refreshed pointer is put back
  case case35 ih => cases h; exact descend _ _ _ _ _ _ _ _ _ _ _ _ _ _ _ _ _ ‹_› ‹_› (ih rfl ‹_›) ‹_›

theorem extendIx_ok {σ : Type} {fx : Bool} {A : Allocator σ} {bs : Nat} {a0 : Extent} {rest : List Extent}
    {fuel : Nat} {s s' : σ} {plist : Option (List (Nat × Nat))} {max disk depth m : Nat} {kids : Kids} {t' : Node}
    (h : extendIx fx A bs fuel s plist max disk depth kids (a0 :: rest) = .ok (t', m, s')) :
    (wf.wfKids kids → SortedFB (flattenKids kids ++ a0 :: rest) → flatten t' = flattenKids kids ++ a0 :: rest) ∧
    (okNode.okKids bs depth kids →
      (∃ kids', t' = .index max disk depth kids' ∧ kids'.length ≤ max ∧ okNode.okKids bs depth kids') ∨
        (plist.isNone = true ∧ okRoot bs t')) := by
  refine extendIx_ok_cases (motive := fun plist max disk depth kids t' =>
    (wf.wfKids kids → SortedFB (flattenKids kids ++ a0 :: rest) → flatten t' = flattenKids kids ++ a0 :: rest) ∧
    (okNode.okKids bs depth kids →
      (∃ kids', t' = .index max disk depth kids' ∧ kids'.length ≤ max ∧ okNode.okKids bs depth kids') ∨
        (plist.isNone = true ∧ okRoot bs t'))) ?_ ?_ ?_ h
  · intro _ max _ depth kids idx key cmax cdisk cexts hidx hget hfit hlen
    refine ⟨fun hw hs => ?_, fun hk => ?_⟩
    · obtain ⟨init, rfl, rfl⟩ := last_child hw hs hidx hget
      simp [flatten, flattenKids_append, flattenKids]
    · have hc := (okKids_iff bs depth kids).1 hk _ (List.mem_of_getElem? hget)
      exact Or.inl ⟨_, rfl, by omega, okKids_set bs depth kids idx _ hk ⟨hc.1, hc.2.1, by simpa using hfit⟩⟩
  · intro _ max disk depth kids idx key cmax cdisk cexts s a b m0 s0 ka kb t' m s' hidx hget hsp _ _ h
    obtain ⟨hab, ⟨hda, hoa⟩, hdb, hob⟩ := splitLeaf_ok (bs := bs) hsp
    refine ⟨fun hw hs => ?_, fun hk => ?_⟩
    · obtain ⟨init, rfl, rfl⟩ := last_child hw hs hidx hget
      simp only [flattenKids_append, flattenKids, flatten, List.append_nil, List.append_assoc] at hs ⊢
      rw [sortFB_of_sorted _ hs.of_append_right] at hab
      have hfl : flattenKids (init ++ [(ka, a), (kb, b)]) = flattenKids init ++ (cexts ++ a0 :: rest) := by
        simp [flattenKids_append, flattenKids, hab]
      have hd : List.drop (init.length + 1) (init ++ [(key, Node.leaf cmax cdisk cexts)]) = [] := by simp
      rw [List.take_left' rfl, hd, List.append_nil] at h
      split at h
      · rw [(splitIndex_ok h).2.1, hfl]
      · cases h; exact hfl
    · have hc := (okKids_iff bs depth kids).1 hk _ (List.mem_of_getElem? hget)
      have hk' : okNode.okKids bs depth (kids.take idx ++ [(ka, a), (kb, b)] ++ kids.drop (idx + 1)) :=
        (okKids_append ..).2 ⟨(okKids_append ..).2 ⟨(okKids_take_drop bs depth kids idx hk).1,
          by rw [hda]; exact hc.1, hoa, by rw [hdb]; exact hc.1, hob, trivial⟩,
          (okKids_take_drop bs depth kids (idx + 1) hk).2⟩
      split at h
      · exact Or.inr ⟨(splitIndex_ok h).1, (splitIndex_ok h).2.2 hk'⟩
      · cases h
        exact Or.inl ⟨_, rfl, by omega, hk'⟩
  · intro _ max _ depth kids idx key cmax cdisk cdepth ckids x1 x2 x3 k0 n0 ck hidx hget ih hlen
    refine ⟨fun hw hs => ?_, fun hk => ?_⟩
    · obtain ⟨init, rfl, rfl⟩ := last_child hw hs hidx hget
      have hwc : wf.wfKids ckids := (wfKids_mem hw (p := (key, .index cmax cdisk cdepth ckids)) (by simp)).2.2
      have ih := ih.1
      simp only [flattenKids_append, flattenKids, flatten, List.append_nil, List.append_assoc] at hs ih ⊢
      simp [flattenKids_append, flattenKids, flatten, ih hwc hs.of_append_right]
    · have hc := (okKids_iff bs depth kids).1 hk _ (List.mem_of_getElem? hget)
      rcases ih.2 hc.2.2.2 with ⟨kids', heq, hl', hok'⟩ | ⟨hnone, _⟩
      · refine Or.inl ⟨_, rfl, by omega, okKids_set bs depth kids idx _ hk ?_⟩
        rw [heq]
        exact ⟨hc.1, hc.2.1, hl', hok'⟩
      · cases hnone

/- not `wf t`: the root leaf of a new file is empty -/
theorem extend_ok {σ : Type} {fx : Bool} {A : Allocator σ} {s s' : σ} {bs m : Nat} {t t' : Node} {added : List Extent}
    (h : extend fx A s bs (some t) added = .ok (t', m, s')) :
    ((∀ max disk depth kids, t = .index max disk depth kids → wf.wfKids kids) → SortedFB (flatten t ++ added) →
      flatten t' = flatten t ++ added) ∧ (okRoot bs t → okRoot bs t') := by
  cases t with
  | leaf max disk exts => exact ⟨fun _ hs => (extendRootLeaf_ok (bs := bs) h).1 hs, fun _ => (extendRootLeaf_ok h).2⟩
  | index max disk depth kids =>
    cases added with
    | nil => cases depth <;> simp [extend, extendIx] at h
    | cons a0 rest =>
      obtain ⟨hf, hsh⟩ := extendIx_ok (bs := bs) h
      refine ⟨fun hw hs => hf (hw _ _ _ _ rfl) hs, fun hr => ?_⟩
      rcases hsh hr.2 with ⟨kids', rfl, hl, hok⟩ | ⟨_, h2⟩
      · exact ⟨hl, hok⟩
      · exact h2

end Diskfs.Ext4.ExtTree
