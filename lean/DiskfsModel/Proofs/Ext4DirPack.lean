/-
  The ext4 linear-directory block packing (Model/Ext4/DirPack.lean).  A directory's bytes are described as an `image`:
  a list of blocks, each a list of records (an entry with the size `toBytes` is given), finished by the checksum tail.
  `Directory.toBytes` writes an image whose blocks are tiled by their records, each at its natural size but the last,
  which is stretched to the end of the block (`pack_image`); `parseDirEntriesLinear` reads every image back whose
  names have at most 247 bytes, whatever slack the records carry (`parse_image`); the rec_len chain of a block is that
  of its records (`block_tile`).  Length, tiling and read-back of what `toBytes` writes (`dirpack_parse`) follow.
  A name of 248…255 bytes is written but not read back by the reader the model mirrors (the code before fix eea36c2),
  since `directoryEntryFromBytes` added `0x8+nameLength` in uint8: shown for the record (`decodeEntry_wrap`) and for a
  directory of one such entry (`parse_pack_wrap`).
  `BsOK` excludes bs = 65536, where without checksum the Go `uint16(blockLimit)` rec_len wraps to 0.
-/
import DiskfsModel.Model.Ext4.DirPack
namespace Diskfs.Ext4.DirPack

/-- an entry `Directory.toBytes` can be given: a name of 1…255 bytes, inode number and file type within their fields -/
def EntryOK (e : Entry) : Prop :=
  0 < e.name.length ∧ e.name.length ≤ 255 ∧ e.inode < 2^32 ∧ e.ftype < 256

/-- the entries `directoryEntryFromBytes` can read back (see the uint8 wrap in the model header) -/
def EntryParseOK (e : Entry) : Prop := EntryOK e ∧ e.name.length ≤ 247

theorem entryLen_bounds (e : Entry) (h : EntryOK e) :
    12 ≤ entryLen e ∧ entryLen e ≤ 264 ∧ 8 + e.name.length ≤ entryLen e := by
  obtain ⟨h1, h2, _, _⟩ := h
  unfold entryLen
  rw [Nat.mod_eq_of_lt (by omega : e.name.length < 256)]
  omega

theorem entryLen_mod4 (e : Entry) : entryLen e % 4 = 0 := by
  unfold entryLen; omega

@[simp] theorem encEntry_length (e : Entry) (w : Nat) : (encEntry e w).length = recLenOf e w := by
  simp only [encEntry, List.length_take, List.length_append, leEnc_length, zeros_length,
    List.length_cons, List.length_nil]
  omega

theorem encEntry_append_length (e : Entry) (w : Nat) (rest : Bytes) :
    (encEntry e w ++ rest).length = recLenOf e w + rest.length := by simp

@[simp] theorem recLenOf_zero (e : Entry) : recLenOf e 0 = entryLen e := by simp [recLenOf]
theorem recLenOf_pos (e : Entry) (w : Nat) (h : 0 < w) : recLenOf e w = w := by simp [recLenOf, h]

theorem encEntry_append (e : Entry) (w : Nat) (rest : Bytes) (h : 8 + e.name.length ≤ recLenOf e w) :
    encEntry e w ++ rest = leEnc 4 e.inode ++ (leEnc 2 (recLenOf e w) ++
      (UInt8.ofNat (e.name.length % 256) :: UInt8.ofNat e.ftype ::
        (e.name ++ (zeros (recLenOf e w - 8 - e.name.length) ++ rest)))) := by
  unfold encEntry
  simp only []
  rw [List.take_of_length_le]
  · simp
  · simp; omega

theorem recLen_enc (e : Entry) (w : Nat) (rest : Bytes) (h : 8 + e.name.length ≤ recLenOf e w)
    (h2 : recLenOf e w < 65536) : leDec (((encEntry e w ++ rest).drop 4).take 2) = recLenOf e w := by
  rw [encEntry_append e w rest h, List.drop_left' (by simp), List.take_left' (by simp),
    leDec_leEnc_of_lt 2 _ (by omega)]

theorem nameLen_enc (e : Entry) (w : Nat) (rest : Bytes) (h : 8 + e.name.length ≤ recLenOf e w) :
    ((encEntry e w ++ rest).getD 6 0).toNat = e.name.length % 256 := by
  rw [encEntry_append e w rest h]
  simp [leEnc, UInt8.toNat_ofNat']

/-- `directoryEntryFromBytes` reads back what `toBytes` wrote, for names of at most 247 bytes -/
theorem decodeEntry_enc (e : Entry) (w : Nat) (rest : Bytes) (hn : e.name.length ≤ 247)
    (hi : e.inode < 2^32) (hf : e.ftype < 256) (h : 8 + e.name.length ≤ recLenOf e w)
    (h12 : 12 ≤ recLenOf e w) : decodeEntry (encEntry e w ++ rest) (recLenOf e w) = some e := by
  have hlen := encEntry_append_length e w rest
  have hnl := nameLen_enc e w rest h
  rw [Nat.mod_eq_of_lt (by omega)] at hnl
  unfold decodeEntry
  simp only [hnl, Nat.mod_eq_of_lt (show 8 + e.name.length < 256 by omega), hlen, Nat.add_sub_cancel_left]
  rw [if_neg (by omega), if_neg (by omega), if_neg (by omega), encEntry_append e w rest h]
  rw [List.take_left' (leEnc_length 4 _), leDec_leEnc_of_lt 4 _ (by omega)]
  simp [leEnc, UInt8.toNat_ofNat', Nat.mod_eq_of_lt hf]

/-- the uint8 wrap: a name of 248…255 bytes is written but cannot be read back -/
theorem decodeEntry_wrap (e : Entry) (w : Nat) (rest : Bytes)
    (h1 : 248 ≤ e.name.length) (h2 : e.name.length ≤ 255) (hr : entryLen e ≤ recLenOf e w) :
    decodeEntry (encEntry e w ++ rest) (recLenOf e w) = none := by
  have hfit : 8 + e.name.length ≤ recLenOf e w := by
    unfold entryLen at hr
    rw [Nat.mod_eq_of_lt (by omega : e.name.length < 256)] at hr
    omega
  have hlen := encEntry_append_length e w rest
  have hnl := nameLen_enc e w rest hfit
  rw [Nat.mod_eq_of_lt (by omega)] at hnl
  unfold decodeEntry
  simp only [hnl, hlen]
  rw [if_neg (by omega), if_neg (by omega), if_pos (by omega)]

theorem walk_succ (f : Nat) (b : Bytes) (h : 6 ≤ b.length) :
    walk (f + 1) b = match decodeEntry b (leDec ((b.drop 4).take 2)) with
      | none => none
      | some e => (walk f (b.drop (leDec ((b.drop 4).take 2)))).map (e :: ·) := by
  cases b with
  | nil => simp at h
  | cons x xs => simp only [walk, if_neg (Nat.not_lt.2 h)]; rfl

theorem chain_succ (f : Nat) (b : Bytes) (h : 6 ≤ b.length) :
    chain (f + 1) b =
      if leDec ((b.drop 4).take 2) < 12 ∨ leDec ((b.drop 4).take 2) > b.length then none
      else (chain f (b.drop (leDec ((b.drop 4).take 2)))).map (leDec ((b.drop 4).take 2) :: ·) := by
  cases b with
  | nil => simp at h
  | cons x xs => simp only [chain, if_neg (Nat.not_lt.2 h)]

/-- a record: an entry with the size argument `toBytes` is given (0: its natural size) -/
abbrev Rec := Entry × Nat
/-- the rec_len `toBytes` writes into it -/
def Rec.len (r : Rec) : Nat := recLenOf r.1 r.2

/-- the record covers its name, has the minimum size and a rec_len that fits uint16: the rec_len chain passes over it -/
def RecOK (r : Rec) : Prop := 8 + r.1.name.length ≤ r.len ∧ 12 ≤ r.len ∧ r.len < 65536

/-- the bytes of a run of records -/
def encRecs (rs : List Rec) : Bytes := (rs.map fun r => encEntry r.1 r.2).flatten

@[simp] theorem encRecs_nil : encRecs [] = [] := rfl
@[simp] theorem encRecs_cons (r : Rec) (rs : List Rec) : encRecs (r :: rs) = encEntry r.1 r.2 ++ encRecs rs := by
  simp [encRecs]
@[simp] theorem encRecs_append (a b : List Rec) : encRecs (a ++ b) = encRecs a ++ encRecs b := by
  simp [encRecs]
theorem encRecs_length (rs : List Rec) : (encRecs rs).length = (rs.map Rec.len).sum := by
  induction rs with
  | nil => rfl
  | cons r rs ih => simp [ih, Rec.len]

/-- `parseDirEntriesLinear`'s entry loop, with fuel for the bytes, reads a run of records back whose entries
    `directoryEntryFromBytes` can read, whatever slack each of them carries -/
theorem walk_recs (rs : List Rec)
    (hok : ∀ r ∈ rs, RecOK r ∧ r.1.name.length ≤ 247 ∧ r.1.inode < 2^32 ∧ r.1.ftype < 256) :
    ∀ f, (encRecs rs).length ≤ f → walk f (encRecs rs) = some (rs.map (·.1)) := by
  induction rs with
  | nil => intro f _; cases f <;> rfl
  | cons r rs ih =>
    obtain ⟨⟨hn, h12, h16⟩, h247, hi, hf⟩ := hok r (List.mem_cons_self ..)
    have ih := ih fun x hx => hok x (List.mem_cons_of_mem _ hx)
    intro f hfuel
    rw [encRecs_cons] at hfuel ⊢
    have hlen := encEntry_append_length r.1 r.2 (encRecs rs)
    obtain ⟨f, rfl⟩ : ∃ f', f = f' + 1 := ⟨f - 1, by unfold Rec.len at h12; omega⟩
    rw [walk_succ f _ (by unfold Rec.len at h12; omega), recLen_enc r.1 r.2 _ hn h16,
      decodeEntry_enc r.1 r.2 _ h247 hi hf hn h12, List.drop_left' (encEntry_length r.1 r.2),
      ih f (by unfold Rec.len at h12; omega)]
    rfl

theorem chain_recs (rs : List Rec) (hok : ∀ r ∈ rs, RecOK r) :
    ∀ f, (encRecs rs).length ≤ f → chain f (encRecs rs) = some (rs.map Rec.len) := by
  induction rs with
  | nil => intro f _; cases f <;> rfl
  | cons r rs ih =>
    obtain ⟨hn, h12, h16⟩ := hok r (List.mem_cons_self ..)
    have ih := ih fun x hx => hok x (List.mem_cons_of_mem _ hx)
    intro f hfuel
    rw [encRecs_cons] at hfuel ⊢
    have hlen := encEntry_append_length r.1 r.2 (encRecs rs)
    obtain ⟨f, rfl⟩ : ∃ f', f = f' + 1 := ⟨f - 1, by unfold Rec.len at h12; omega⟩
    rw [chain_succ f _ (by unfold Rec.len at h12; omega), recLen_enc r.1 r.2 _ hn h16,
      if_neg (by unfold Rec.len at h12; omega), List.drop_left' (encEntry_length r.1 r.2),
      ih f (by unfold Rec.len at h12; omega)]
    rfl

/-- `blockLimit` of `Directory.toBytes`: what a block holds in front of the checksum tail (the model writes the
    expression out in `pack` and `recLens`) -/
def blockLimit (bs : Nat) (csum : Bool) : Nat := bs - (if csum then 12 else 0)

/-- block sizes covered: Go's minDirEntryLength + maxDirEntryLength + the checksum tail; what the proofs use of the
    lower bound is `264 ≤ bs - 12`, the largest natural entry (8 + 255 rounded up to 4) fits an empty block -/
def BsOK (bs : Nat) : Prop := 12 + 263 + 12 ≤ bs ∧ bs < 65536
/-- all the theorems ask of the checksum function: with checksums on it appends 12 bytes -/
def TailOK (csum : Bool) (tail : Bytes → Bytes) : Prop := csum = true → ∀ x, (tail x).length = 12

theorem blockLimit_bounds (bs : Nat) (csum : Bool) (h : BsOK bs) :
    264 ≤ blockLimit bs csum ∧ blockLimit bs csum < 65536 ∧
    blockLimit bs csum + (if csum then 12 else 0) = bs := by
  unfold blockLimit BsOK at *
  cases csum <;> simp <;> omega

/-- the bytes of a directory whose blocks hold the records `bodies`: each body finished by the checksum tail -/
def image (csum : Bool) (tail : Bytes → Bytes) (bodies : List (List Rec)) : Bytes :=
  (bodies.map fun b => fin csum tail (encRecs b)).flatten

@[simp] theorem image_nil (csum : Bool) (tail : Bytes → Bytes) : image csum tail [] = [] := rfl
@[simp] theorem image_cons (csum : Bool) (tail : Bytes → Bytes) (b : List Rec) (bodies : List (List Rec)) :
    image csum tail (b :: bodies) = fin csum tail (encRecs b) ++ image csum tail bodies := by simp [image]
@[simp] theorem image_append (csum : Bool) (tail : Bytes → Bytes) (a b : List (List Rec)) :
    image csum tail (a ++ b) = image csum tail a ++ image csum tail b := by simp [image]

/-- the records tile `limit` bytes: what every block of an image `Directory.toBytes` writes looks like -/
def Tiles (limit : Nat) (b : List Rec) : Prop :=
  (b.map Rec.len).sum = limit ∧ ∀ r ∈ b, RecOK r ∧ (limit % 4 = 0 → r.len % 4 = 0)

/-- every block of the image is tiled by its records -/
def Tiled (bs : Nat) (csum : Bool) (bodies : List (List Rec)) : Prop := ∀ b ∈ bodies, Tiles (blockLimit bs csum) b

theorem Tiled.tail {bs : Nat} {csum : Bool} {b : List Rec} {bodies : List (List Rec)} (h : Tiled bs csum (b :: bodies)) :
    Tiled bs csum bodies := fun x hx => h x (List.mem_cons_of_mem _ hx)

theorem fin_length (bs : Nat) (csum : Bool) (tail : Bytes → Bytes) (hbs : BsOK bs)
    (ht : TailOK csum tail) (b : List Rec) (hb : Tiles (blockLimit bs csum) b) :
    (fin csum tail (encRecs b)).length = bs := by
  have := blockLimit_bounds bs csum hbs
  have hl := encRecs_length b
  rw [hb.1] at hl
  cases csum with
  | false => simp [fin, hl] at *; omega
  | true => simp [fin, hl, ht rfl] at *; omega

theorem image_length (bs : Nat) (csum : Bool) (tail : Bytes → Bytes) (hbs : BsOK bs)
    (ht : TailOK csum tail) (bodies : List (List Rec)) (hf : Tiled bs csum bodies) :
    (image csum tail bodies).length = bs * bodies.length := by
  induction bodies with
  | nil => rfl
  | cons b bodies ih =>
    rw [image_cons, List.length_append, fin_length bs csum tail hbs ht b (hf b (List.mem_cons_self ..)),
      ih hf.tail, List.length_cons, Nat.mul_add]
    omega

theorem stripBlocks_step (bs : Nat) (tail : Bytes → Bytes) (f : Nat) (B rest : Bytes)
    (hbs : 12 ≤ bs) (hB : B.length = bs - 12) (ht : (tail B).length = 12) :
    stripBlocks bs tail (f+1) (B ++ tail B ++ rest)
      = (stripBlocks bs tail f rest).map (B ++ ·) := by
  have hBt : (B ++ tail B).length = bs := by rw [List.length_append, hB, ht]; omega
  have htake : (B ++ tail B ++ rest).take bs = B ++ tail B := List.take_left' hBt
  have hdrop : (B ++ tail B ++ rest).drop bs = rest := List.drop_left' hBt
  have hlen : (B ++ tail B ++ rest).length = bs + rest.length := by rw [List.length_append, hBt]
  have hbody : (B ++ tail B).take (bs - 12) = B := List.take_left' hB
  have hst : (B ++ tail B).drop (bs - 4) = (tail B).drop 8 := by
    rw [List.drop_append, List.drop_of_length_le (by omega), hB, List.nil_append]
    congr 1; omega
  generalize B ++ tail B ++ rest = X at *
  cases X with
  | nil => simp at hlen; omega
  | cons x xs =>
    simp only [stripBlocks, htake, hbody, hdrop, hst, if_true]
    rw [if_neg (by omega)]

theorem stripBlocks_image (bs : Nat) (tail : Bytes → Bytes) (hbs : BsOK bs) (ht : TailOK true tail)
    (bodies : List (List Rec)) (hf : Tiled bs true bodies) :
    ∀ f, bodies.length ≤ f → stripBlocks bs tail f (image true tail bodies) = some (encRecs bodies.flatten) := by
  induction bodies with
  | nil => intro f _; cases f <;> rfl
  | cons b bodies ih =>
    intro f hfuel
    obtain ⟨f, rfl⟩ : ∃ f', f = f' + 1 := ⟨f - 1, by simp at hfuel; omega⟩
    have hb : (encRecs b).length = bs - 12 := by rw [encRecs_length, (hf b (List.mem_cons_self ..)).1]; rfl
    rw [image_cons, fin, if_pos rfl, stripBlocks_step bs tail f _ _ (by unfold BsOK at hbs; omega) hb (ht rfl _),
      ih hf.tail f (by simpa using hfuel)]
    simp

theorem image_false (tail : Bytes → Bytes) (bodies : List (List Rec)) :
    image false tail bodies = encRecs bodies.flatten := by
  induction bodies with
  | nil => rfl
  | cons b bodies ih => simp [fin, ih]

/-- `parseDirEntriesLinear` reads every directory image back: the entries of all records, in order -/
theorem parse_image (bs : Nat) (csum : Bool) (tail : Bytes → Bytes) (hbs : BsOK bs) (ht : TailOK csum tail)
    (bodies : List (List Rec)) (hf : Tiled bs csum bodies)
    (hok : ∀ r ∈ bodies.flatten, r.1.name.length ≤ 247 ∧ r.1.inode < 2^32 ∧ r.1.ftype < 256) :
    parse bs csum tail (image csum tail bodies) = some (bodies.flatten.map (·.1)) := by
  have hw := walk_recs bodies.flatten fun r hr =>
    have ⟨b, hb, hrb⟩ := List.mem_flatten.1 hr
    ⟨((hf b hb).2 r hrb).1, hok r hr⟩
  unfold parse
  cases csum with
  | false => rw [if_neg (by simp), image_false]; exact hw _ (Nat.le_refl _)
  | true =>
    -- the fuel (the length in bytes) covers the number of blocks
    rw [if_pos rfl, stripBlocks_image bs tail hbs ht bodies hf _ (by
      rw [image_length bs true tail hbs ht bodies hf]
      exact Nat.le_mul_of_pos_left _ (by unfold BsOK at hbs; omega))]
    exact hw _ (Nat.le_refl _)

/-- the entries at their natural sizes, one after the other: the block under construction in `packLoop` -/
def natEnc (es : List Entry) : Bytes := (es.map (encEntry · 0)).flatten
/-- the length of `natEnc es` -/
def sumLen (es : List Entry) : Nat := (es.map entryLen).sum

@[simp] theorem natEnc_nil : natEnc [] = [] := rfl
@[simp] theorem natEnc_cons (e : Entry) (es : List Entry) :
    natEnc (e :: es) = encEntry e 0 ++ natEnc es := by simp [natEnc]
@[simp] theorem natEnc_append (a b : List Entry) : natEnc (a ++ b) = natEnc a ++ natEnc b := by
  simp [natEnc]
@[simp] theorem sumLen_nil : sumLen [] = 0 := rfl
@[simp] theorem sumLen_cons (e : Entry) (es : List Entry) :
    sumLen (e :: es) = entryLen e + sumLen es := by simp [sumLen]
@[simp] theorem sumLen_append (a b : List Entry) : sumLen (a ++ b) = sumLen a + sumLen b := by
  simp [sumLen]
@[simp] theorem natEnc_length (es : List Entry) : (natEnc es).length = sumLen es := by
  induction es with
  | nil => rfl
  | cons e es ih => simp [ih]

theorem sumLen_mod4 (xs : List Entry) : sumLen xs % 4 = 0 := by
  induction xs with
  | nil => rfl
  | cons e es ih => have := entryLen_mod4 e; simp; omega

theorem natEnc_snoc_take (cur : List Entry) (p : Entry) :
    (natEnc (cur ++ [p])).take (sumLen (cur ++ [p]) - entryLen p) = natEnc cur := by
  simp only [natEnc_append, natEnc_cons, natEnc_nil, List.append_nil]
  apply List.take_left'
  simp

/-- the records of a block as the loop closes it: `cur` at their natural sizes, `p` stretched to the limit -/
def packed (limit : Nat) (cur : List Entry) (p : Entry) : List Rec := cur.map (·, 0) ++ [(p, limit - sumLen cur)]

@[simp] theorem encRecs_packed (limit : Nat) (cur : List Entry) (p : Entry) :
    encRecs (packed limit cur p) = natEnc cur ++ encEntry p (limit - sumLen cur) := by
  simp [packed, encRecs, natEnc, Function.comp_def]

@[simp] theorem packed_entries (limit : Nat) (cur : List Entry) (p : Entry) :
    (packed limit cur p).map (·.1) = cur ++ [p] := by
  simp [packed, Function.comp_def]

theorem tiles_packed (limit : Nat) (hl : limit < 65536) (cur : List Entry) (p : Entry)
    (hok : ∀ e ∈ cur ++ [p], EntryOK e) (hfit : sumLen cur + entryLen p ≤ limit) :
    Tiles limit (packed limit cur p) := by
  have hb := entryLen_bounds p (hok p (by simp))
  have hw : Rec.len (p, limit - sumLen cur) = limit - sumLen cur := recLenOf_pos _ _ (by omega)
  have hnat : (cur.map (·, 0)).map Rec.len = cur.map entryLen := by simp [Rec.len, Function.comp_def]
  refine ⟨by simp only [packed, List.map_append, hnat, List.sum_append, List.map_cons, hw]; simp [sumLen] at hfit ⊢; omega,
    fun r hr => ?_⟩
  simp only [packed, List.mem_append, List.mem_map, List.mem_singleton] at hr
  rcases hr with ⟨e, he, rfl⟩ | rfl
  · have := entryLen_bounds e (hok e (by simp [he]))
    exact ⟨by simp [RecOK, Rec.len]; omega, fun _ => by simpa [Rec.len] using entryLen_mod4 e⟩
  · have := sumLen_mod4 cur
    exact ⟨by simp only [RecOK, hw]; omega, fun _ => by rw [hw]; omega⟩

/-- the loop of `Directory.toBytes` with the entries `blk` in the block under construction (none at the start):
    the rest of the output is an image, the first body of which begins with `blk` -/
theorem packLoop_spec (limit : Nat) (csum : Bool) (tail : Bytes → Bytes)
    (hl : 264 ≤ limit) (hl2 : limit < 65536) :
    ∀ (es blk : List Entry) (done : Bytes), es ≠ [] →
      (∀ e ∈ blk ++ es, EntryOK e) → sumLen blk ≤ limit →
      ∃ bodies : List (List Rec),
        packLoop limit csum tail es done (natEnc blk) ((blk.getLast?.map entryLen).getD 0) blk.getLast?
          = some (done ++ image csum tail bodies) ∧
        (∀ b ∈ bodies, Tiles limit b) ∧ bodies.flatten.map (·.1) = blk ++ es := by
  intro es
  induction es with
  | nil => intro _ _ h; exact absurd rfl h
  | cons e rest ih =>
    intro blk done _ hok hsum
    have hbe := entryLen_bounds e (hok e (by simp))
    unfold packLoop
    simp only [encEntry_length, recLenOf_zero, natEnc_length]
    by_cases hfit : sumLen blk + entryLen e > limit
    · -- `e` does not fit: the block is closed, its last entry stretched
      obtain ⟨cur, p, rfl⟩ : ∃ cur p, blk = cur ++ [p] := by
        rcases List.eq_nil_or_concat blk with rfl | ⟨cur, p, h⟩
        · simp at hfit; omega
        · exact ⟨cur, p, by simpa using h⟩
      rw [if_pos hfit]
      simp only [List.getLast?_concat, Option.map_some, Option.getD_some, natEnc_snoc_take, natEnc_length]
      rw [Nat.mod_eq_of_lt (by omega : limit - sumLen cur < 65536), Nat.mod_eq_of_lt hl2]
      have hcur := tiles_packed limit hl2 cur p (fun x hx => hok x (List.mem_append_left _ hx)) (by simpa using hsum)
      cases rest with
      | nil =>
        refine ⟨[packed limit cur p, packed limit [] e], by simp [packLoop], ?_, by simp⟩
        simp only [List.forall_mem_cons, List.not_mem_nil, false_imp_iff, implies_true, and_true]
        exact ⟨hcur, tiles_packed limit hl2 [] e (fun x hx => hok x (by simp at hx ⊢; exact .inr (.inr hx))) (by simp; omega)⟩
      | cons r rest' =>
        rw [if_neg (by simp)]
        obtain ⟨bodies, h1, h2, h3⟩ := ih [e] (done ++ fin csum tail (encRecs (packed limit cur p)))
          (by simp) (fun x hx => hok x (List.mem_append_right _ (by simpa using hx))) (by simp; omega)
        refine ⟨packed limit cur p :: bodies, ?_, List.forall_mem_cons.2 ⟨hcur, h2⟩, by simp [h3]⟩
        simp only [natEnc_cons, natEnc_nil, List.append_nil, List.getLast?_singleton, Option.map_some,
          Option.getD_some, encRecs_packed] at h1
        rw [h1]
        simp
    · rw [if_neg hfit, Nat.mod_eq_of_lt (by omega : limit - sumLen blk < 65536)]
      cases rest with
      | nil =>
        exact ⟨[packed limit blk e], by simp [packLoop],
          by simpa using tiles_packed limit hl2 blk e hok (by omega), by simp⟩
      | cons r rest' =>
        rw [if_neg (by simp)]
        obtain ⟨bodies, h1, h2, h3⟩ := ih (blk ++ [e]) done
          (by simp) (fun x hx => hok x (by simpa using hx)) (by simp at hfit ⊢; omega)
        refine ⟨bodies, ?_, h2, by simp [h3]⟩
        simp only [natEnc_append, natEnc_cons, natEnc_nil, List.append_nil, List.getLast?_concat, Option.map_some,
          Option.getD_some] at h1
        rw [h1]

theorem pack_image (bs : Nat) (csum : Bool) (tail : Bytes → Bytes) (es : List Entry)
    (hbs : BsOK bs) (ht : TailOK csum tail) (hes : es ≠ []) (hok : ∀ e ∈ es, EntryOK e) :
    ∃ bodies : List (List Rec),
      pack bs csum tail es = image csum tail bodies ∧
      Tiled bs csum bodies ∧ bodies.flatten.map (·.1) = es := by
  have hbl := blockLimit_bounds bs csum hbs
  obtain ⟨bodies, h1, h2, h3⟩ := packLoop_spec (blockLimit bs csum) csum tail hbl.1 hbl.2.1 es [] [] hes hok
    (Nat.zero_le _)
  replace h1 : packLoop (blockLimit bs csum) csum tail es [] [] 0 none = some (image csum tail bodies) := h1
  refine ⟨bodies, ?_, h2, h3⟩
  have hlen := image_length bs csum tail hbs ht bodies h2
  unfold blockLimit at h1
  unfold pack
  cases es with
  | nil => exact absurd rfl hes
  | cons e rest =>
    simp only [List.isEmpty_cons, Bool.false_eq_true, if_false, h1, hlen, Nat.mul_mod_right]
    simp

theorem dirpack_parse (bs : Nat) (csum : Bool) (tail : Bytes → Bytes) (es : List Entry)
    (hbs : BsOK bs) (ht : TailOK csum tail) (hes : es ≠ []) (hok : ∀ e ∈ es, EntryParseOK e) :
    parse bs csum tail (pack bs csum tail es) = some es := by
  obtain ⟨bodies, h1, h2, h3⟩ := pack_image bs csum tail es hbs ht hes (fun e he => (hok e he).1)
  rw [h1, parse_image bs csum tail hbs ht bodies h2 fun r hr =>
    have he := hok _ (h3 ▸ List.mem_map_of_mem hr)
    ⟨he.2, he.1.2.2⟩, h3]

theorem image_block (bs : Nat) (csum : Bool) (tail : Bytes → Bytes) (hbs : BsOK bs)
    (ht : TailOK csum tail) (bodies : List (List Rec))
    (hf : Tiled bs csum bodies) :
    ∀ k (hk : k < bodies.length),
      ((image csum tail bodies).drop (k * bs)).take bs = fin csum tail (encRecs bodies[k]) := by
  induction bodies with
  | nil => intro k hk; simp at hk
  | cons b bodies ih =>
    intro k hk
    have hb := fin_length bs csum tail hbs ht b (hf b (List.mem_cons_self ..))
    cases k with
    | zero => simp; exact List.take_left' hb
    | succ k =>
      have : (k + 1) * bs = (fin csum tail (encRecs b)).length + k * bs := by rw [Nat.add_mul, hb]; omega
      simp only [image_cons, this, List.getElem_cons_succ]
      rw [← List.drop_drop, List.drop_left' rfl]
      exact ih hf.tail k (by simpa using hk)

theorem block_tile (bs : Nat) (csum : Bool) (tail : Bytes → Bytes) (hbs : BsOK bs) (b : List Rec)
    (hb : Tiles (blockLimit bs csum) b) :
    recLens bs csum (fin csum tail (encRecs b)) = some (b.map Rec.len) ∧
      (b.map Rec.len).sum = blockLimit bs csum ∧
      (∀ r ∈ b.map Rec.len, 12 ≤ r) ∧
      (bs % 4 = 0 → ∀ r ∈ b.map Rec.len, r % 4 = 0) ∧
      (csum = true →
        (fin csum tail (encRecs b)).drop (bs - 12) = tail ((fin csum tail (encRecs b)).take (bs - 12))) := by
  have hbl := blockLimit_bounds bs csum hbs
  have hB : (encRecs b).length = blockLimit bs csum := by rw [encRecs_length, hb.1]
  have htake : (fin csum tail (encRecs b)).take (blockLimit bs csum) = encRecs b := by
    cases csum with
    | false => simp only [fin, Bool.false_eq_true, if_false]; exact List.take_of_length_le (by omega)
    | true => simp only [fin, if_true]; exact List.take_left' hB
  refine ⟨?_, hb.1, ?_, fun h4 => ?_, ?_⟩
  · unfold recLens
    simp only []
    have hdef : (bs - if csum = true then 12 else 0) = blockLimit bs csum := rfl
    rw [hdef, htake]
    exact chain_recs b (fun r hr => (hb.2 r hr).1) _ (Nat.le_refl _)
  · exact List.forall_mem_map.2 fun r hr => (hb.2 r hr).1.2.1
  · have h4' : blockLimit bs csum % 4 = 0 := by
      unfold blockLimit BsOK at *
      cases csum <;> simp <;> omega
    exact List.forall_mem_map.2 fun r hr => (hb.2 r hr).2 h4'
  · intro hc
    subst hc
    have h12 : bs - 12 = blockLimit bs true := by simp [blockLimit]
    rw [h12, htake]
    simp only [fin, if_true]
    exact List.drop_left' hB

theorem pack_single (bs : Nat) (tail : Bytes → Bytes) (e : Entry) (hbs : BsOK bs) (hok : EntryOK e) :
    pack bs false tail [e] = encEntry e bs := by
  have hb := entryLen_bounds e hok
  obtain ⟨h1, h2⟩ : 12 + 263 + 12 ≤ bs ∧ bs < 65536 := hbs
  have h3 : ¬ entryLen e > bs := by omega
  simp [pack, packLoop, fin, h3, Nat.mod_eq_of_lt h2, recLenOf_pos e bs (by omega)]

/-- a directory with one entry whose name has 248…255 bytes: `Directory.toBytes` writes it,
    `parseDirEntriesLinear` fails on the result -/
theorem parse_pack_wrap (bs : Nat) (tail : Bytes → Bytes) (e : Entry) (hbs : BsOK bs) (hok : EntryOK e)
    (h : 248 ≤ e.name.length) : parse bs false tail (pack bs false tail [e]) = none := by
  have hb := entryLen_bounds e hok
  obtain ⟨h1, h2⟩ : 12 + 263 + 12 ≤ bs ∧ bs < 65536 := hbs
  have hw : recLenOf e bs = bs := recLenOf_pos e bs (by omega)
  have hwrap := decodeEntry_wrap e bs [] h hok.2.1 (by omega)
  have hrl := recLen_enc e bs [] (by omega) (by omega)
  rw [List.append_nil, hw] at hwrap hrl
  rw [pack_single bs tail e ⟨h1, h2⟩ hok]
  simp only [parse, Bool.false_eq_true, if_false, encEntry_length, hw]
  obtain ⟨f, rfl⟩ : ∃ f, bs = f + 1 := ⟨bs - 1, by omega⟩
  rw [walk_succ f _ (by rw [encEntry_length, hw]; omega), hrl, hwrap]

instance : DecidablePred EntryOK := fun e => by unfold EntryOK; infer_instance
instance : DecidablePred EntryParseOK := fun e => by unfold EntryParseOK; infer_instance

def exTail : Bytes → Bytes := fun b => [0, 0, 0, 0, 12, 0, 0, 0xde, UInt8.ofNat b.length, 1, 2, 3]
def exEntries : List Entry :=
  [⟨2, [46], 2⟩, ⟨2, [46, 46], 2⟩, ⟨11, [97, 98, 99, 100, 101], 1⟩, ⟨12, [120], 1⟩]

example : BsOK 1024 ∧ BsOK 4096 ∧ TailOK true exTail ∧ (∀ e ∈ exEntries, EntryParseOK e) := by
  refine ⟨by unfold BsOK; omega, by unfold BsOK; omega, fun _ _ => rfl, ?_⟩
  decide

-- tiny blocks (outside `BsOK`, the code still behaves): two blocks, with and without tail
example : parse 40 false exTail (pack 40 false exTail exEntries) = some exEntries := by decide
example : parse 40 true exTail (pack 40 true exTail exEntries) = some exEntries := by decide
example : (pack 40 true exTail exEntries).length = 80 := by decide
example : recLens 40 true (pack 40 true exTail exEntries) = some [12, 16] := by decide
example : recLens 40 true ((pack 40 true exTail exEntries).drop 40) = some [16, 12] := by decide
-- a corrupted checksum byte is rejected
example : parse 40 true exTail ((pack 40 true exTail exEntries).set 37 9) = none := by decide
-- realistic block size, long names around the uint8 wrap: 247 reads back, 248 does not
set_option maxRecDepth 20000 in
example : parse 1024 true exTail (pack 1024 true exTail
    [⟨2, [46], 2⟩, ⟨7, List.replicate 247 65, 1⟩, ⟨8, List.replicate 200 66, 1⟩]) =
    some [⟨2, [46], 2⟩, ⟨7, List.replicate 247 65, 1⟩, ⟨8, List.replicate 200 66, 1⟩] :=
  dirpack_parse 1024 true exTail _ (by unfold BsOK; omega) (fun _ _ => rfl) (by simp)
    (by simp only [List.forall_mem_cons, EntryParseOK, EntryOK, List.length_replicate, List.length_cons,
      List.length_nil]; simp)

/-- a legal 248-byte name is packed by `Directory.toBytes`, and `parseDirEntriesLinear` as found fails on it (`none`
    is error or panic; in the code before fix eea36c2 it was the slice panic) -/
theorem cex_dirent_namelen_wrap : EntryOK ⟨7, List.replicate 248 65, 1⟩ ∧
    parse 1024 false exTail (pack 1024 false exTail [⟨7, List.replicate 248 65, 1⟩]) = none :=
  have hok : EntryOK ⟨7, List.replicate 248 65, 1⟩ := by simp only [EntryOK, List.length_replicate]; omega
  ⟨hok, parse_pack_wrap 1024 exTail _ (by unfold BsOK; omega) hok (by simp only [List.length_replicate]; omega)⟩

-- the first entry does not fit: Go dereferences a nil previousEntry
example : packLoop 8 false exTail exEntries [] [] 0 none = none := by decide

end Diskfs.Ext4.DirPack
