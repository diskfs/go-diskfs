/-
  The path walk of Model/Ext4/PathWalk.lean finds what the plain tree says: for every directory structure on disk
  that represents a tree (every directory's entries are ".", ".." and its children, in any order of children) and
  every path whose components are none of ".", "..": the walk reaches exactly the directory the tree lookup
  reaches (`walk_spec`); from it Props/C04.lean derives that `getEntryAndParent` returns exactly the child entry the
  tree has under that name.
-/
import DiskfsModel.Model.Ext4.PathWalk
namespace Diskfs.Ext4.PathWalk
open Diskfs

/-- the entries "." and ".." every directory starts with -/
def dots (self parent : Nat) : List DEntry := [⟨[46], self, 2⟩, ⟨[46, 46], parent, 2⟩]

def entryOf (k : Bytes × Tree) : DEntry := ⟨k.1, k.2.ino, k.2.ftype⟩

def entriesOf (kids : List (Bytes × Tree)) : List DEntry := kids.map entryOf

/-- the directories on disk represent the tree `t` whose parent directory is `parent` -/
def Represents (dirs : Dirs) : Nat → Tree → Prop
  | _, .file _ => True
  | _, .link _ => True
  | parent, .dir ino kids => dirs ino = some (dots ino parent ++ entriesOf kids) ∧ repKids dirs ino kids
where repKids (dirs : Dirs) (self : Nat) : List (Bytes × Tree) → Prop
  | [] => True
  | (_, t) :: ks => Represents dirs self t ∧ repKids dirs self ks

theorem repKids_mem {dirs : Dirs} {self : Nat} {kids : List (Bytes × Tree)} (h : Represents.repKids dirs self kids)
    {k : Bytes × Tree} (hk : k ∈ kids) : Represents dirs self k.2 := by
  induction kids with
  | nil => cases hk
  | cons q qs ih =>
    obtain ⟨n, t⟩ := q
    rcases List.mem_cons.mp hk with rfl | hk'
    · exact h.1
    · exact ih h.2 hk'

/-- a component the io/fs path rules allow below the root -/
def validComp (c : Bytes) : Prop := c ≠ [46] ∧ c ≠ [46, 46]

/-- tree lookup that also tells the parent directory's inode number -/
def walkSpec : Nat → Tree → List Bytes → Option (Nat × Tree)
  | p, t, [] => some (p, t)
  | _, .dir ino kids, c :: cs =>
    match kids.find? (fun k => k.1 == c) with
    | some k => walkSpec ino k.2 cs
    | none => none
  | _, .file _, _ :: _ => none
  | _, .link _, _ :: _ => none

theorem walkSpec_specLookup : ∀ (cs : List Bytes) (p : Nat) (t : Tree), (walkSpec p t cs).map (·.2) = specLookup t cs
  | [], p, t => by simp [walkSpec, specLookup]
  | c :: cs, p, .file _ => by simp [walkSpec, specLookup]
  | c :: cs, p, .link _ => by simp [walkSpec, specLookup]
  | c :: cs, p, .dir ino kids => by
    simp only [walkSpec, specLookup]
    cases kids.find? (fun k => k.1 == c) with
    | none => rfl
    | some k => exact walkSpec_specLookup cs ino k.2

def Walk.isDir? : Walk → Option (Nat × List DEntry)
  | .dir i es => some (i, es)
  | _ => none

theorem lookup_isDir (dirs : Dirs) (parent : List Bytes) (base : Bytes) :
    lookup dirs parent base =
      match (readDir dirs parent).isDir? with
      | some (_, es) =>
        (match es.find? (fun e => e.name == base) with
          | some e => .entry e
          | none => .absent)
      | none => .noParent := by
  unfold lookup
  cases readDir dirs parent <;> rfl

/-- what the walk should reach: the directory the tree lookup reaches, with its entries as they are on disk -/
def reached : Option (Nat × Tree) → Option (Nat × List DEntry)
  | some (p, .dir ino kids) => some (ino, dots ino p ++ entriesOf kids)
  | _ => none

theorem find_entries (p ino : Nat) (kids : List (Bytes × Tree)) (c : Bytes) (hc : validComp c) :
    (dots ino p ++ entriesOf kids).find? (fun e => e.name == c) = (kids.find? (fun k => k.1 == c)).map entryOf := by
  have h1 : (([46] : Bytes) == c) = false := by
    rw [beq_eq_false_iff_ne]; exact fun h => hc.1 h.symm
  have h2 : (([46, 46] : Bytes) == c) = false := by
    rw [beq_eq_false_iff_ne]; exact fun h => hc.2 h.symm
  simp only [dots, List.cons_append, List.nil_append, List.find?_cons, h1, h2, entriesOf]
  induction kids with
  | nil => rfl
  | cons k ks ih =>
    simp only [List.map_cons, List.find?_cons, entryOf]
    cases (k.1 == c) with
    | true => rfl
    | false => exact ih

theorem walk_spec (dirs : Dirs) : ∀ (cs : List Bytes) (p ino : Nat) (kids : List (Bytes × Tree)) (i : Nat),
    Represents dirs p (.dir ino kids) → (∀ c ∈ cs, validComp c) →
    (walk dirs ino (dots ino p ++ entriesOf kids) cs i).isDir? = reached (walkSpec p (.dir ino kids) cs)
  | [], p, ino, kids, i, _, _ => by simp [walk, Walk.isDir?, walkSpec, reached]
  | c :: cs, p, ino, kids, i, hrep, hv => by
    have hc := hv c (by simp)
    simp only [walk, walkSpec, find_entries p ino kids c hc]
    cases hf : kids.find? (fun k => k.1 == c) with
    | none => simp [Walk.isDir?, reached]
    | some k =>
      have hk : k ∈ kids := List.mem_of_find?_eq_some hf
      have hrk := repKids_mem hrep.2 hk
      obtain ⟨nm, t⟩ := k
      simp only [Option.map_some, entryOf]
      cases t with
      | file j =>
        simp only [Tree.ftype, Tree.ino]
        cases cs <;> simp [Walk.isDir?, reached, walkSpec]
      | link j =>
        simp only [Tree.ftype, Tree.ino]
        cases cs <;> simp [Walk.isDir?, reached, walkSpec]
      | dir j kids' =>
        simp only [Tree.ftype, Tree.ino, ne_eq, not_true_eq_false, if_false, hrk.1]
        exact walk_spec dirs cs ino j kids' (i + 1) hrk (fun c' hc' => hv c' (by simp [hc']))

end Diskfs.Ext4.PathWalk
