/-
  The directory-entry codec of `Model/Fat/DirCodec.lean` (mirror of filesystem/fat12/directoryentry.go):
  an 8.3 entry and a run of long-name slots are read back field by field from what `toBytes` wrote,
  hence `parseDir (serDir bpc es) = es`; the numeric-tail search always finds a fresh short name.
  Core Lean only.
-/
import DiskfsModel.Model.Fat.DirCodec
import DiskfsModel.Proofs.Bytes
namespace Diskfs.Fat

theorem time_roundtrip (h mi s : Nat) (h1 : h < 32) (h2 : mi < 64) (h3 : s < 64) :
    unpackTime (packTime h mi s) = (h, mi, s / 2 * 2) := by
  unfold unpackTime packTime
  refine Prod.ext ?_ (Prod.ext ?_ ?_) <;> simp only [] <;> omega

theorem cex_date_2108 : (unpackDate (packDate 2108 1 1)).1 ≠ 2108 := by decide

theorem padTo_length (n : Nat) (l : List Nat) : (padTo n l).length = n := by
  unfold padTo
  simp only [List.length_take, List.length_append, List.length_replicate]
  omega

theorem natsToBytes_length (l : List Nat) : (natsToBytes l).length = l.length := by
  simp [natsToBytes]

theorem dosBytes_length (e : DirEntry) : (dosBytes e).length = 32 := by
  simp [dosBytes, natsToBytes_length, padTo_length]

theorem dosBytes_getD_attr (e : DirEntry) : (dosBytes e).getD 11 0 = UInt8.ofNat e.attr := by
  simp [dosBytes, List.getD_eq_getElem?_getD, padTo_length, natsToBytes_length]

theorem bytesToNats_natsToBytes (l : List Nat) (h : ∀ c ∈ l, c < 256) :
    bytesToNats (natsToBytes l) = l := by
  induction l with
  | nil => rfl
  | cons a l ih =>
    simp only [bytesToNats, natsToBytes, List.map_cons, List.map_map] at *
    rw [ih (fun c hc => h c (List.mem_cons_of_mem _ hc))]
    have := h a (List.mem_cons_self ..)
    rw [ofNat_toNat_of_lt _ (by omega)]

theorem padTo_eq (n : Nat) (l : List Nat) (h : l.length ≤ n) :
    padTo n l = l ++ List.replicate (n - l.length) 32 := by
  unfold padTo
  apply List.take_of_length_le
  simp; omega

theorem dropWhile_replicate_append (k : Nat) (r : List Nat) (h : r.head? ≠ some 32) :
    (List.replicate k 32 ++ r).dropWhile (· = 32) = r := by
  rw [List.dropWhile_append_of_pos fun a ha => by simp [(List.mem_replicate.1 ha).2]]
  cases r with
  | nil => rfl
  | cons a r =>
    have : a ≠ 32 := fun h' => h (by simp [h'])
    simp [this]

theorem stripSpaces_append_replicate (l : List Nat) (k : Nat) (h : l.getLast? ≠ some 32) :
    stripSpaces (l ++ List.replicate k 32) = l := by
  unfold stripSpaces
  rw [List.reverse_append, List.reverse_replicate, dropWhile_replicate_append _ _ (by rwa [List.head?_reverse]),
    List.reverse_reverse]

theorem strip_pad (n : Nat) (l : List Nat) (hl : l.length ≤ n) (hc : ∀ c ∈ l, c < 256)
    (hs : l.getLast? ≠ some 32) : stripSpaces (bytesToNats (natsToBytes (padTo n l))) = l := by
  rw [padTo_eq n l hl, bytesToNats_natsToBytes, stripSpaces_append_replicate _ _ hs]
  intro c hc'
  rw [List.mem_append] at hc'
  rcases hc' with h | h
  · exact hc c h
  · rw [List.mem_replicate] at h; omega

/-- reading a record field by field: what is left after the next field, and the field itself -/
theorem drop_next {s a r : Bytes} {k j : Nat} (n : Nat) (hs : s.drop k = a ++ r) (ha : a.length = j)
    (hn : n = k + j) : s.drop n = r := by
  rw [hn, ← List.drop_drop, hs, List.drop_left' ha]

theorem take_next {s a r : Bytes} {k j : Nat} (hs : s.drop k = a ++ r) (ha : a.length = j) :
    (s.drop k).take j = a := by
  rw [hs, List.take_left' ha]

theorem parseDos_dosBytes (e : DirEntry) (lfn : Name) (h : e.WF) :
    parseDos (dosBytes e) lfn = { e with long := lfn } := by
  have a1 : ∀ a, a < 64 → a % 2 ^ 8 % 64 = a := by omega
  have a2 : ∀ c, c = 0 ∨ c = 8 ∨ c = 16 ∨ c = 24 → c % 2 ^ 8 / 8 % 4 * 8 = c := by omega
  obtain ⟨hsl, hel, hsc, hec, _, hs32, he32, _, _, hattr, _, hlc, hct, hcd, had, hmt, hmd, hcl, hsz, _⟩ := h
  have l8 := natsToBytes_length (padTo 8 e.short)
  have l3 := natsToBytes_length (padTo 3 e.ext)
  rw [padTo_length] at l8 l3
  have d0 : (dosBytes e).drop 0 = dosBytes e := rfl
  conv at d0 => rhs; simp only [dosBytes, List.append_assoc]
  have d8 := drop_next 8 d0 l8 rfl
  have d11 := drop_next 11 d8 l3 rfl
  have d14 := drop_next 14 d11 (j := 3) rfl rfl
  have d16 := drop_next 16 d14 (leEnc_length ..) rfl
  have d18 := drop_next 18 d16 (leEnc_length ..) rfl
  have d20 := drop_next 20 d18 (leEnc_length ..) rfl
  have d22 := drop_next 22 d20 (leEnc_length ..) rfl
  have d24 := drop_next 24 d22 (leEnc_length ..) rfl
  have d26 := drop_next 26 d24 (leEnc_length ..) rfl
  have d28 := drop_next 28 d26 (leEnc_length ..) rfl
  have f0 := take_next d0 l8
  rw [List.drop_zero] at f0
  have f3 : (dosBytes e).getD 12 0 = UInt8.ofNat e.lcase := by
    simpa using congrArg (fun l => l.getD 1 0) d11
  unfold parseDos parseDos.byteAtD
  rw [f0, take_next d8 l3, dosBytes_getD_attr, f3, take_next d14 (leEnc_length ..), take_next d16 (leEnc_length ..),
    take_next d18 (leEnc_length ..), take_next d20 (leEnc_length ..), take_next d22 (leEnc_length ..),
    take_next d24 (leEnc_length ..), take_next d26 (leEnc_length ..), d28,
    List.take_of_length_le (l := leEnc 4 e.size) (by simp),
    strip_pad 8 _ hsl hsc hs32, strip_pad 3 _ hel hec he32,
    leDec_leEnc_of_lt 2 _ hct, leDec_leEnc_of_lt 2 _ hcd, leDec_leEnc_of_lt 2 _ had,
    leDec_leEnc_of_lt 2 _ hmt, leDec_leEnc_of_lt 2 _ hmd, leDec_leEnc_of_lt 4 _ hsz,
    leDec_leEnc_of_lt 2 (e.cluster % 65536) (by omega), leDec_leEnc_of_lt 2 (e.cluster / 65536) (by omega),
    UInt8.toNat_ofNat', UInt8.toNat_ofNat', a1 _ hattr, a2 _ hlc, Nat.mod_add_div]

theorem unitsBytes_length (u : List Nat) : (unitsBytes u).length = 2 * u.length := by
  rw [unitsBytes, List.flatMap_def, map_flatten_length _ 2 (leEnc_length 2)]

theorem lfnSlot_length (seq cks : Nat) (u : List Nat) (h : u.length = 13) :
    (lfnSlot seq cks u).length = 32 := by
  unfold lfnSlot
  simp only [List.length_append, unitsBytes_length, List.length_take, List.length_drop, List.length_cons,
    List.length_nil, h]
  omega

theorem lfnSlot_fields (seq cks : Nat) (u : List Nat) (h : u.length = 13) :
    (lfnSlot seq cks u).getD 11 0 = 0x0F ∧
    ((lfnSlot seq cks u).drop 1).take 10 ++ ((lfnSlot seq cks u).drop 14).take 12
      ++ ((lfnSlot seq cks u).drop 28).take 4 = unitsBytes u := by
  have l1 : (unitsBytes (u.take 5)).length = 10 := by rw [unitsBytes_length, List.length_take]; omega
  have l2 : (unitsBytes ((u.drop 5).take 6)).length = 12 := by
    rw [unitsBytes_length, List.length_take, List.length_drop]; omega
  have l3 : (unitsBytes ((u.drop 11).take 2)).length = 4 := by
    rw [unitsBytes_length, List.length_take, List.length_drop]; omega
  have d0 : (lfnSlot seq cks u).drop 0 = lfnSlot seq cks u := rfl
  conv at d0 => rhs; simp only [lfnSlot, List.append_assoc]
  have d1 := drop_next 1 d0 (j := 1) rfl rfl
  have d11 := drop_next 11 d1 l1 rfl
  have d14 := drop_next 14 d11 (j := 3) rfl rfl
  have d26 := drop_next 26 d14 l2 rfl
  have d28 := drop_next 28 d26 (j := 2) rfl rfl
  refine ⟨by simpa using congrArg (fun l => l.getD 0 0) d11, ?_⟩
  rw [take_next d1 l1, take_next d14 l2, d28, List.take_of_length_le (Nat.le_of_eq l3), unitsBytes, unitsBytes,
    unitsBytes, ← List.flatMap_append, ← List.flatMap_append, List.append_assoc]
  congr 1
  rw [List.take_of_length_le (l := u.drop 11) (by rw [List.length_drop]; omega),
    show u.drop 11 = (u.drop 5).drop 6 by rw [List.drop_drop], List.take_append_drop, List.take_append_drop]

theorem lfnSlotUnits_lfnSlot (seq cks : Nat) (u : List Nat) (h : u.length = 13) (hu : ∀ x ∈ u, x < 65536) :
    lfnSlotUnits (lfnSlot seq cks u) = u.takeWhile (· ≠ 0) := by
  rw [lfnSlotUnits, (lfnSlot_fields seq cks u h).2, ← h]
  congr 1
  apply List.ext_getElem (by simp)
  intro i h1 _
  rw [List.length_map, List.length_range] at h1
  rw [List.getElem_map, List.getElem_range, unitsBytes, List.flatMap_def,
    map_flatten_get _ 2 (leEnc_length 2) u i h1, leDec_leEnc_of_lt 2 _ (hu _ (List.getElem_mem h1))]

theorem lfnUnits_length (long : Name) (slots : Nat) : (lfnUnits long slots).length = slots * 13 := by
  simp [lfnUnits]

theorem lfnChunk_length (long : Name) (slots j : Nat) (hj : j < slots) :
    (((lfnUnits long slots).drop (j * 13)).take 13).length = 13 := by
  rw [List.length_take, List.length_drop, lfnUnits_length]
  have : (j + 1) * 13 ≤ slots * 13 := Nat.mul_le_mul_right 13 hj
  omega

theorem lfnUnits_lt (long : Name) (slots : Nat) : ∀ x ∈ lfnUnits long slots, x < 65536 := by
  intro x hx
  simp only [lfnUnits, List.mem_map, List.mem_range] at hx
  obtain ⟨i, _, rfl⟩ := hx
  split
  · exact Nat.mod_lt _ (by decide)
  · split <;> decide

theorem lfnBytes_length (long : Name) (short ext : List Nat) :
    (lfnBytes long short ext).length = 32 * calculateSlots long := by
  rw [lfnBytes, List.length_flatMap, List.map_congr_left (g := fun _ => 32), List.map_const',
    List.sum_replicate_nat, List.length_reverse, List.length_range, Nat.mul_comm]
  intro j hj
  rw [List.mem_reverse, List.mem_range] at hj
  exact lfnSlot_length _ _ _ (lfnChunk_length long _ j hj)

/-- behind the name `lfnUnits` lays out nothing (the name fills its slots) or one 0x0000, then 0xFFFF -/
theorem lfnUnits_eq (long : Name) (slots : Nat) (hl : ∀ r ∈ long, r < 65536) (hs : long.length ≤ slots * 13) :
    ∃ pad, lfnUnits long slots = long ++ pad ∧ (pad = [] ∨ ∃ t, pad = 0 :: t) := by
  refine ⟨(lfnUnits long slots).drop long.length, ?_, ?_⟩
  · conv => lhs; rw [← List.take_append_drop long.length (lfnUnits long slots)]
    congr 1
    apply List.ext_getElem (by rw [List.length_take, lfnUnits_length]; omega)
    intro i _ hi
    simp only [lfnUnits, List.getElem_take, List.getElem_map, List.getElem_range]
    rw [if_pos hi, getD_eq_of_lt _ _ _ hi, Nat.mod_eq_of_lt (hl _ (List.getElem_mem hi))]
  · by_cases h : long.length < slots * 13
    · right
      rw [List.drop_eq_getElem_cons (by rw [lfnUnits_length]; exact h)]
      exact ⟨_, congrArg (· :: _) (by simp [lfnUnits])⟩
    · exact .inl (List.drop_of_length_le (by rw [lfnUnits_length]; omega))

/-- a name without 0x0000, padded as `lfnUnits` pads it, is the concatenation of its 13-unit chunks each cut at
    its first 0x0000 -/
theorem chunks_concat (s : Nat) (long pad : List Nat) (hl : ∀ r ∈ long, r ≠ 0)
    (hp : pad = [] ∨ ∃ t, pad = 0 :: t) (hlen : (long ++ pad).length = s * 13) (hpl : pad.length < 13) :
    (List.range s).flatMap (fun j => (((long ++ pad).drop (j * 13)).take 13).takeWhile (· ≠ 0)) = long := by
  induction s generalizing long with
  | zero =>
    simp at hlen
    simp [hlen.1]
  | succ s ih =>
    rw [List.range_succ_eq_map, List.flatMap_cons, List.flatMap_map]
    simp only [Nat.zero_mul, List.drop_zero]
    rw [List.length_append] at hlen
    by_cases h13 : 13 ≤ long.length
    · have e1 : (long ++ pad).take 13 = long.take 13 := List.take_append_of_le_length h13
      have e2 : ∀ j, (long ++ pad).drop ((j + 1) * 13) = (long.drop 13 ++ pad).drop (j * 13) := by
        intro j
        rw [Nat.add_mul, Nat.one_mul, Nat.add_comm, ← List.drop_drop, List.drop_append_of_le_length h13]
      simp only [e1, e2]
      rw [ih (long.drop 13) (fun r hr => hl r (List.mem_of_mem_drop hr))
        (by rw [List.length_append, List.length_drop]; omega)]
      rw [takeWhile_ne_of_not_mem 0 _ fun h0 => hl 0 (List.mem_of_mem_take h0) rfl, List.take_append_drop]
    · have hs : s = 0 := by omega
      subst hs
      have h0 : 0 ∉ long := fun h0 => hl 0 h0 rfl
      simp only [List.range_zero, List.flatMap_nil, List.append_nil]
      rw [List.take_of_length_le (by rw [List.length_append]; omega)]
      rcases hp with rfl | ⟨t, rfl⟩
      · rw [List.append_nil, takeWhile_ne_of_not_mem 0 long h0]
      · exact takeWhile_ne_append_cons 0 long t h0

theorem parseSlots_step (fuel : Nat) (s rest : Bytes) (lfn : Name) (hs : s.length = 32) :
    parseSlots (fuel + 1) (s ++ rest) lfn =
      if (s.getD 0 0).toNat = 0 then []
      else if (s.getD 0 0).toNat = 0xE5 then parseSlots fuel rest lfn
      else if (s.getD 11 0).toNat = 0x0F then
        parseSlots fuel rest (lfnSlotUnits s ++ (if (s.getD 0 0).toNat / 64 % 2 = 1 then [] else lfn))
      else parseDos s lfn :: parseSlots fuel rest [] := by
  rw [parseSlots]
  have h1 : ¬ ((s ++ rest).length < 32) := by rw [List.length_append]; omega
  have h2 : (s ++ rest).take 32 = s := by rw [← hs, List.take_left']; rfl
  have h3 : (s ++ rest).drop 32 = rest := by rw [← hs, List.drop_left']; rfl
  rw [if_neg h1]
  simp only [h2, h3]

theorem parse_dos_step (fuel : Nat) (e : DirEntry) (rest : Bytes) (lfn : Name) (h : e.WF) :
    parseSlots (fuel + 1) (dosBytes e ++ rest) lfn = { e with long := lfn } :: parseSlots fuel rest [] := by
  rw [parseSlots_step _ _ _ _ (dosBytes_length e), parseDos_dosBytes e lfn h]
  obtain ⟨hsl, _, hsc, _, hne, _, _, hh0, hhe5, hattr, hattr15, _⟩ := h
  obtain ⟨a, t, hst⟩ := List.exists_cons_of_ne_nil hne
  have f0 : (dosBytes e).getD 0 0 = UInt8.ofNat a := by
    simp [dosBytes, hst, padTo, natsToBytes]
  have ha : a < 256 := hsc a (by simp [hst])
  have ha0 : a ≠ 0 := fun h' => hh0 (by simp [hst, h'])
  have hae5 : a ≠ 0xE5 := fun h' => hhe5 (by simp [hst, h'])
  rw [f0, dosBytes_getD_attr, UInt8.toNat_ofNat', UInt8.toNat_ofNat']
  rw [if_neg (by omega), if_neg (by omega), if_neg (by omega)]

theorem parse_lfn_step (fuel seq cks : Nat) (u : List Nat) (rest : Bytes) (lfn : Name)
    (hu : u.length = 13) (hlt : ∀ x ∈ u, x < 65536) (h0 : 0 < seq) (h1 : seq < 128) :
    parseSlots (fuel + 1) (lfnSlot seq cks u ++ rest) lfn =
      parseSlots fuel rest (u.takeWhile (· ≠ 0) ++ (if seq / 64 % 2 = 1 then [] else lfn)) := by
  rw [parseSlots_step _ _ _ _ (lfnSlot_length seq cks u hu), lfnSlotUnits_lfnSlot seq cks u hu hlt]
  have g0 : (lfnSlot seq cks u).getD 0 0 = UInt8.ofNat seq := by
    simp [lfnSlot]
  rw [g0, (lfnSlot_fields seq cks u hu).1, UInt8.toNat_ofNat']
  have : seq % 2 ^ 8 = seq := by omega
  rw [this, if_neg (by omega), if_neg (by omega), if_pos (by decide)]

/-- the slots `k-1 … 0` of a long name in the order `longFilenameBytes` emits them: the parser gathers the chunks
    `0 … k-1`, each cut at its first 0x0000; the slot flagged 0x40, which comes first when all `slots` are there,
    discards what was gathered before it -/
theorem parse_lfn_run (long : Name) (slots cks : Nat) (hs : slots < 64) (h0 : 0 < slots) (rest : Bytes) (fuel : Nat)
    (k : Nat) (hk : k ≤ slots) (acc : Name) :
    parseSlots (fuel + k)
      (((List.range k).reverse.flatMap fun j =>
        lfnSlot (if j + 1 = slots then (j + 1) + 64 else j + 1) cks (((lfnUnits long slots).drop (j * 13)).take 13))
        ++ rest) acc =
    parseSlots fuel rest
      (((List.range k).flatMap fun j => (((lfnUnits long slots).drop (j * 13)).take 13).takeWhile (· ≠ 0))
        ++ if k = slots then [] else acc) := by
  induction k generalizing acc with
  | zero => rw [if_neg (by omega)]; rfl
  | succ k ih =>
    have hflag : (if (if k + 1 = slots then k + 1 + 64 else k + 1) / 64 % 2 = 1 then [] else acc)
        = if k + 1 = slots then [] else acc := by
      by_cases h : k + 1 = slots
      · rw [if_pos h, if_pos h, if_pos (by omega)]
      · rw [if_neg h, if_neg h, if_neg (by omega)]
    rw [List.range_succ, List.reverse_append, List.reverse_singleton, List.singleton_append, List.flatMap_cons,
      List.append_assoc, ← Nat.add_assoc,
      parse_lfn_step _ _ _ _ _ _ (lfnChunk_length long slots k (by omega))
        (fun x hx => lfnUnits_lt long slots x (List.mem_of_mem_drop (List.mem_of_mem_take hx)))
        (by split <;> omega) (by split <;> omega),
      hflag, ih (by omega), if_neg (by omega), List.flatMap_append, List.flatMap_singleton, List.append_assoc]

theorem parse_lfnBytes (long : Name) (short ext : List Nat) (hne : long ≠ [])
    (hl : ∀ r ∈ long, 0 < r ∧ r < 65536) (hlen : long.length ≤ 255)
    (hslots : calculateSlots long = (long.length + 12) / 13) (rest : Bytes) (fuel : Nat) (acc : Name) :
    parseSlots (fuel + calculateSlots long) (lfnBytes long short ext ++ rest) acc =
      parseSlots fuel rest long := by
  have hpos : 0 < long.length := List.length_pos_iff.mpr hne
  obtain ⟨pad, hu, hp⟩ := lfnUnits_eq long (calculateSlots long) (fun r hr => (hl r hr).2) (by omega)
  have hul := lfnUnits_length long (calculateSlots long)
  unfold lfnBytes
  simp only []
  rw [parse_lfn_run long _ _ (by omega) (by omega) rest fuel _ (Nat.le_refl _), if_pos rfl, List.append_nil, hu,
    chunks_concat _ long pad (fun r hr => by have := hl r hr; omega) hp (by rw [← hu]; exact hul)
      (by rw [hu, List.length_append] at hul; omega)]

theorem parse_ser_entry (e : DirEntry) (fuel : Nat) (rest : Bytes) (h : e.WF) :
    parseSlots (fuel + calculateSlots e.long + 1) (serEntry e ++ rest) [] = e :: parseSlots fuel rest [] := by
  unfold serEntry
  by_cases hl : e.long = []
  · have hc : calculateSlots e.long = 0 := by rw [hl]; decide
    rw [if_pos hl, List.nil_append, hc, Nat.add_zero, parse_dos_step _ e rest [] h]
    congr 1
    cases e
    simp only at hl
    subst hl
    rfl
  · rw [if_neg hl, List.append_assoc]
    have hwf := h
    obtain ⟨_, _, _, _, _, _, _, _, _, _, _, _, _, _, _, _, _, _, _, hr, hlen, hslots⟩ := hwf
    have : fuel + calculateSlots e.long + 1 = (fuel + 1) + calculateSlots e.long := by omega
    rw [this, parse_lfnBytes e.long e.short e.ext hl hr hlen hslots, parse_dos_step _ e rest e.long h]

/-- total number of 32-byte slots of a list of entries -/
def slotCount (es : List DirEntry) : Nat := (es.map fun e => calculateSlots e.long + 1).sum

theorem serEntry_length (e : DirEntry) : (serEntry e).length = 32 * (calculateSlots e.long + 1) := by
  unfold serEntry
  split
  · rename_i h
    rw [h]
    simp [dosBytes_length]
    decide
  · rw [List.length_append, lfnBytes_length, dosBytes_length]; omega

theorem serEntries_length (es : List DirEntry) : (es.flatMap serEntry).length = 32 * slotCount es := by
  induction es with
  | nil => rfl
  | cons e es ih =>
    simp only [List.flatMap_cons, List.length_append, ih, serEntry_length, slotCount, List.map_cons, List.sum_cons]
    omega

theorem parse_ser_entries (es : List DirEntry) (h : ∀ e ∈ es, e.WF) (fuel : Nat) (rest : Bytes) :
    parseSlots (fuel + slotCount es) (es.flatMap serEntry ++ rest) [] = es ++ parseSlots fuel rest [] := by
  induction es with
  | nil => rfl
  | cons e es ih =>
    have : fuel + slotCount (e :: es) = (fuel + slotCount es) + calculateSlots e.long + 1 := by
      simp only [slotCount, List.map_cons, List.sum_cons]; omega
    rw [this, List.flatMap_cons, List.append_assoc, parse_ser_entry e _ _ (h e (List.mem_cons_self ..)),
      ih (fun e he => h e (List.mem_cons_of_mem _ he))]
    rfl

theorem parseSlots_zeros (fuel n : Nat) (lfn : Name) : parseSlots fuel (zeros n) lfn = [] := by
  cases fuel with
  | zero => rfl
  | succ fuel =>
    rw [parseSlots]
    split
    · rfl
    · rename_i h
      have : ((zeros n).take 32).getD 0 0 = 0 := by
        rw [zeros, List.take_replicate]; exact zeros_getD _ 0
      simp only [this]
      rfl

theorem dir_parse_ser (bpc : Nat) (es : List DirEntry) (h : ∀ e ∈ es, e.WF) (_hb : 0 < bpc) :
    parseDir (serDir bpc es) = es := by
  unfold parseDir serDir
  simp only []
  split
  · have := parse_ser_entries es h 0 []
    rw [serEntries_length, Nat.mul_div_cancel_left _ (by decide : 0 < 32)]
    simp only [Nat.zero_add, List.append_nil] at this
    rw [this]
    simp [parseSlots]
  · rw [List.length_append, serEntries_length, zeros_length]
    have : (32 * slotCount es + (bpc - 32 * slotCount es % bpc)) / 32
        = (bpc - 32 * slotCount es % bpc) / 32 + slotCount es := by omega
    rw [this, parse_ser_entries es h, parseSlots_zeros, List.append_nil]

theorem natDigits_eq (n : Nat) : natDigits n = (Nat.toDigits 10 n).map Char.toNat := by
  unfold natDigits
  rw [Nat.toString_eq_repr, Nat.toList_repr]

theorem natDigits_inj {a b : Nat} (h : natDigits a = natDigits b) : a = b := by
  rw [natDigits_eq, natDigits_eq] at h
  have h' : Nat.toDigits 10 a = Nat.toDigits 10 b :=
    (List.map_inj_right (fun x y hxy => Char.toNat_inj.mp hxy)).mp h
  have := congrArg (fun l => Nat.ofDigitChars 10 l 0) h'
  simpa [Nat.ofDigitChars_ten_toDigits] using this

theorem natDigits_ne_tilde (n : Nat) : 126 ∉ natDigits n := by
  rw [natDigits_eq]
  intro h
  rw [List.mem_map] at h
  obtain ⟨c, hc, hc2⟩ := h
  have := Nat.isDigit_of_mem_toDigits (by decide) (by decide) hc
  unfold Char.isDigit at this
  simp at this
  have h3 : c.val.toNat = 126 := hc2
  have := this.2
  rw [UInt32.le_iff_toNat_le] at this
  simp at this
  omega

/-- the text after the last `~` determines the suffix -/
theorem tilde_suffix_inj (P P' D D' : List Nat) (hD : 126 ∉ D) (hD' : 126 ∉ D')
    (h : P ++ 126 :: D = P' ++ 126 :: D') : D = D' := by
  induction P generalizing P' with
  | nil =>
    cases P' with
    | nil => simpa using h
    | cons a P'' =>
      simp only [List.nil_append, List.cons_append, List.cons.injEq] at h
      exact absurd (h.2 ▸ (by simp : (126:Nat) ∈ P'' ++ 126 :: D')) hD
  | cons a P ih =>
    cases P' with
    | nil =>
      simp only [List.nil_append, List.cons_append, List.cons.injEq] at h
      exact absurd (h.2 ▸ (by simp : (126:Nat) ∈ P ++ 126 :: D)) hD'
    | cons a' P'' =>
      simp only [List.cons_append, List.cons.injEq] at h
      exact ih P'' h.2

theorem tailCandidate_inj (stem : Name) {c c' : Nat} (h : tailCandidate stem c = tailCandidate stem c') :
    c = c' := by
  unfold tailCandidate at h
  exact natDigits_inj (tilde_suffix_inj _ _ _ _ (natDigits_ne_tilde c) (natDigits_ne_tilde c') h)

theorem pigeonhole {β : Type} [DecidableEq β] (f : Nat → β) (hf : ∀ a b, f a = f b → a = b)
    (l : List Nat) (hnd : l.Nodup) (l' : List β) (hs : ∀ x ∈ l, f x ∈ l') : l.length ≤ l'.length := by
  have hm : (l.map f).Nodup := List.Pairwise.map f (fun a b hab h => hab (hf a b h)) hnd
  have := hm.length_le_of_subset (l₂ := l') fun y hy => by
    obtain ⟨x, hx, rfl⟩ := List.mem_map.1 hy
    exact hs x hx
  rwa [List.length_map] at this

theorem uniqueShort_fresh (stem ext : Name) (existing : List Name) :
    (uniqueShortName stem ext existing ++ ext) ∉ existing := by
  unfold uniqueShortName
  split
  · rename_i c hc
    have := List.find?_some hc
    simpa using this
  · rename_i hnone
    exfalso
    rw [List.find?_eq_none] at hnone
    have := pigeonhole (fun c => tailCandidate stem c ++ ext)
      (fun a b h => tailCandidate_inj stem (List.append_cancel_right h))
      (List.range' 1 (existing.length + 1)) (List.nodup_range' ..) existing
      (fun x hx => by
        have := hnone x hx
        simpa using this)
    rw [List.length_range'] at this
    omega

end Diskfs.Fat
