/-
  CopyFileSystem against a destination whose calls may fail or take only part of a slice
  (Model/SyncFault.lean).  `Runs plan i ops ok0 r` lists the ways a list of destination calls can go under a
  plan, and `copyDirF_runs` says that the copy of a tree is such a run of the calls of the fault-free copy.
  What C16 says of the copy holds of every run: the `k`-th logged outcome is the plan's (`outcomes`), a fatal
  outcome is the last (`fatalLast`), a run that reports success has done to the destination what the calls
  themselves do (`success`), a run in which only Chtimes calls were refused is the calls themselves (`agrees`).
  `copyDirF` skips an entry or runs its own calls (`entryF`) before the siblings' (`copyDirF_entry`), as
  `copyDir` does (`copyDir_entry`).
-/
import DiskfsModel.Proofs.SyncCopy
import DiskfsModel.Model.SyncFault
namespace Diskfs.Sync
open Forest

theorem seq_cons (e : DstOp × Outcome) (x : DstOp) (r : FRun) (b : Nat → FRun) :
    (⟨e :: r.log, x :: r.eff, r.ok, r.next⟩ : FRun).seq b =
      ⟨e :: (r.seq b).log, x :: (r.seq b).eff, (r.seq b).ok, (r.seq b).next⟩ := by
  cases h : r.ok <;> simp [FRun.seq, h]

/-- the calls for the entry `n ↦ it` itself and, for a directory, for everything below it -/
def entryF (c : Cfg) (src : ReaderBehaviour) (readlink : Bool) (plan : Plan) (pre : Path) (n : String) :
    Item → Forest → Nat → FRun
  | .file d, _, i => fileRunF c src plan (pre ++ [n]) d i
  | .dir, s, i => (callF plan (.mkdir (pre ++ [n])) i).seq (copyDirF c src readlink plan (pre ++ [n]) s)
  | .link t, _, i => if readlink then callF plan (.symlink (pre ++ [n]) t) i else ⟨[], [], false, i⟩
  | .other, _, i => FRun.done i

theorem copyDirF_entry (c : Cfg) (src : ReaderBehaviour) (readlink : Bool) (plan : Plan) (pre : Path) (n : String)
    (it : Item) (s r : Forest) (i : Nat) :
    copyDirF c src readlink plan pre (entry n it s r) i =
      if c.excluded.contains n || it == .other then copyDirF c src readlink plan pre r i
      else (entryF c src readlink plan pre n it s i).seq (copyDirF c src readlink plan pre r) := by
  cases it with
  | link t => cases readlink <;> simp [entry, copyDirF, entryF, FRun.seq]
  | _ => simp [entry, copyDirF, entryF]

def isChtimes : DstOp → Bool
  | .chtimes _ => true
  | _ => false

/-- the destination took all that call `op` gave it, so CopyFileSystem goes on to the next call -/
def takesAll (op : DstOp) : Outcome → Bool
  | .ok => true
  | .fail => isChtimes op
  | .short n => match op with
    | .write _ d => decide (d.length ≤ n)
    | _ => true

/-- `Runs plan i ops ok0 r`: `r` is a way the calls `ops` (after which CopyFileSystem would report `ok0`) can go
    when the `k`-th call issued gets outcome `plan (i + k)`: one after the other while the destination takes all
    (`go`); the first that it does not take is the last (`stop`: whatever part of a slice was written), except
    that a Write that took part of its slice may be followed by a Write of the rest (`retry`, the streaming
    loop).  Which of `stop` and `retry` happens on a short write depends on the path; no theorem below does. -/
inductive Runs (plan : Plan) : Nat → List DstOp → Bool → FRun → Prop
  | done (i : Nat) (ok0 : Bool) : Runs plan i [] ok0 ⟨[], [], ok0, i⟩
  | go {i op ops ok0 r} : takesAll op (plan i) = true → Runs plan (i + 1) ops ok0 r →
      Runs plan i (op :: ops) ok0 ⟨(op, plan i) :: r.log, op :: r.eff, r.ok, r.next⟩
  | stop {i op} (ops : List DstOp) (ok0 : Bool) (eff : List DstOp) : takesAll op (plan i) = false →
      Runs plan i (op :: ops) ok0 ⟨[(op, plan i)], eff, false, i + 1⟩
  | retry {i p d w ops ok0 r} : plan i = .short w → 0 < w → w < d.length →
      Runs plan (i + 1) (.write p (d.drop w) :: ops) ok0 r →
      Runs plan i (.write p d :: ops) ok0 ⟨(.write p d, .short w) :: r.log, .write p (d.take w) :: r.eff, r.ok, r.next⟩

/-- `a; if err != nil { return err }; b` runs the calls of `a`, then those of `b` -/
theorem Runs.seq {plan : Plan} {i : Nat} {opsA opsB : List DstOp} {okA okB : Bool} {a : FRun} {b : Nat → FRun}
    (ha : Runs plan i opsA okA a) (hb : Runs plan a.next opsB okB (b a.next)) :
    Runs plan i (opsA ++ if okA then opsB else []) (okA && okB) (a.seq b) := by
  induction ha with
  | done i ok0 =>
    cases ok0
    · exact .done i false
    · simpa [FRun.seq] using hb
  | go h _ ih => rw [seq_cons]; exact .go h (ih hb)
  | stop ops ok0 eff h => exact .stop _ _ eff h
  | retry hp hw hd _ ih => rw [seq_cons]; exact .retry hp hw hd (ih hb)

theorem fatal_of_takesAll {op : DstOp} {o : Outcome} (h : takesAll op o = true) : fatal (op, o) = false := by
  cases o with
  | ok => cases op <;> rfl
  | fail => cases op <;> first | rfl | cases h
  | short n =>
    cases op with
    | write p d =>
      cases n with
      | zero => simpa [takesAll, fatal] using h
      | succ n => rfl
    | _ => rfl

/-- every call returned nil and took everything it was given, except possibly Chtimes calls -/
def Benign (r : FRun) : Prop := ∀ e ∈ r.log, e.2 = .ok ∨ isChtimes e.1 = true

theorem takesAll_of_benign {op : DstOp} {o : Outcome} (h : o = .ok ∨ isChtimes op = true) : takesAll op o = true := by
  rcases h with rfl | h
  · rfl
  · cases op <;> first | (cases o <;> rfl) | cases h

/-- a fatal outcome is the last call of the run, and the run reports failure -/
def FatalLast (r : FRun) : Prop :=
  ∀ l1 e l2, r.log = l1 ++ e :: l2 → fatal e = true → l2 = [] ∧ r.ok = false

theorem FatalLast.noFatal {r : FRun} (h : FatalLast r) (hok : r.ok = true) : ∀ e ∈ r.log, fatal e = false := by
  intro e he
  obtain ⟨l1, l2, hl⟩ := List.append_of_mem he
  cases hf : fatal e with
  | false => rfl
  | true => exact absurd ((h l1 e l2 hl hf).2.symm.trans hok) Bool.false_ne_true

variable {plan : Plan} {i : Nat} {ops : List DstOp} {ok0 : Bool} {r : FRun}

theorem Runs.outcomes (h : Runs plan i ops ok0 r) : r.log.map (·.2) = (List.range' i r.log.length).map plan := by
  induction h with
  | done => rfl
  | stop => rfl
  | go _ _ ih => simp [List.range'_succ, ih]
  | retry hp _ _ _ ih => simp [List.range'_succ, ih, hp]

theorem Runs.fatalLast (h : Runs plan i ops ok0 r) : FatalLast r := by
  -- a call that is followed by another was taken in full or retried, so its outcome is not fatal
  have cons : ∀ {x : DstOp × Outcome} {r : FRun} (eff : List DstOp), fatal x = false → FatalLast r →
      FatalLast ⟨x :: r.log, eff, r.ok, r.next⟩ := by
    intro x r eff hx h l1 e l2 hl hf
    cases l1 with
    | nil => simp only [List.nil_append, List.cons.injEq] at hl; rw [← hl.1, hx] at hf; cases hf
    | cons y ys => simp only [List.cons_append, List.cons.injEq] at hl; exact h ys e l2 hl.2 hf
  induction h with
  | done => exact fun l1 e l2 hl => by cases l1 <;> cases hl
  | stop =>
    intro l1 e l2 hl _
    cases l1 with
    | nil => cases hl; exact ⟨rfl, rfl⟩
    | cons y ys => cases ys <;> cases hl
  | go h _ ih => exact cons _ (fatal_of_takesAll h) ih
  | @retry _ _ _ w _ _ _ _ hw _ _ ih => exact cons _ (match w, hw with | _ + 1, _ => rfl) ih

theorem Runs.success (h : Runs plan i ops ok0 r) (hok : r.ok = true) :
    ok0 = true ∧ ∀ s, applyOps r.eff s = applyOps ops s := by
  induction h with
  | done => exact ⟨hok, fun _ => rfl⟩
  | stop => cases hok
  | go _ _ ih => exact ⟨(ih hok).1, fun s => by simp only [applyOps, (ih hok).2]⟩
  | @retry _ p d w ops _ _ _ _ _ _ ih =>
    refine ⟨(ih hok).1, fun s => ?_⟩
    have := applyOps_write_write s p (d.take w) (d.drop w) ops
    rw [List.take_append_drop] at this
    rw [← this]
    simp only [applyOps, (ih hok).2]

theorem Runs.agrees (h : Runs plan i ops ok0 r) (hb : Benign r) :
    r.log.map (·.1) = ops ∧ r.eff = ops ∧ r.ok = ok0 := by
  induction h with
  | done => exact ⟨rfl, rfl, rfl⟩
  | stop _ _ _ h => rw [takesAll_of_benign (hb _ (List.mem_singleton_self _))] at h; cases h
  | go _ _ ih =>
    obtain ⟨h1, h2, h3⟩ := ih fun e he => hb e (List.mem_cons_of_mem _ he)
    exact ⟨by simp [h1], by simp [h2], h3⟩
  | retry hp _ _ _ _ => cases hb _ (List.mem_cons_self ..) <;> simp_all [isChtimes]

/-- Mkdir, OpenFile, Symlink: only an error stops the copy -/
theorem runs_callF (plan : Plan) (op : DstOp) (i : Nat) (hw : ∀ p d, op ≠ .write p d) (hc : isChtimes op = false) :
    Runs plan i [op] true (callF plan op i) := by
  unfold callF
  split
  · rename_i hp
    rw [← hp]
    exact .stop [] true [] (by rw [hp]; exact hc)
  · rename_i hne
    refine .go ?_ (.done _ true)
    cases hp : plan i with
    | ok => rfl
    | fail => exact absurd hp hne
    | short n => cases op <;> first | rfl | exact absurd rfl (hw _ _)

theorem runs_chtimesF (plan : Plan) (p : Path) (i : Nat) : Runs plan i [.chtimes p] true (chtimesF plan p i) :=
  .go (takesAll_of_benign (.inr rfl)) (.done _ true)

theorem runs_wholeWriteF (plan : Plan) (p : Path) (d : Bytes) (i : Nat) :
    Runs plan i [.write p d] true (wholeWriteF plan p d i) := by
  unfold wholeWriteF
  split <;> rename_i hp
  · rw [← hp]; exact .go (by rw [hp]; rfl) (.done _ true)
  · rw [← hp]; exact .stop [] true [] (by rw [hp]; rfl)
  · split <;> rename_i hn <;> rw [← hp]
    · exact .go (by simpa [hp, takesAll] using hn) (.done _ true)
    · exact .stop [] true _ (by simpa [hp, takesAll] using hn)

/-- one buffer of the streaming loop: an empty buffer is not offered to Write -/
theorem runs_writeChunkF (plan : Plan) (p : Path) : ∀ (fuel : Nat) (rem : Bytes) (i : Nat), rem.length < fuel →
    Runs plan i (if rem = [] then [] else [.write p rem]) true (writeChunkF plan p fuel rem i) := by
  intro fuel
  induction fuel with
  | zero => intro rem i h; cases h
  | succ fuel ih =>
    intro rem i hf
    unfold writeChunkF
    by_cases hr : rem = []
    · subst hr; exact .done i true
    · have hpos := List.length_pos_iff.2 hr
      rw [if_neg hr, if_neg (by simpa using hr)]
      split <;> rename_i hp
      · rw [← hp]; exact .stop [] true [] (by rw [hp]; rfl)
      · rw [← hp]; exact .go (by rw [hp]; rfl) (.done _ true)
      · rename_i w
        split <;> rename_i hw
        · subst hw; rw [← hp]; exact .stop [] true [] (by rw [hp]; simp [takesAll]; omega)
        · have := ih (rem.drop w) (i + 1) (by rw [List.length_drop]; omega)
          by_cases hlt : w < rem.length
          · rw [if_neg (by simpa using hlt)] at this
            exact .retry hp (Nat.pos_of_ne_zero hw) hlt this
          · -- the destination took the rest of the buffer: what is left is empty and the loop ends
            rw [if_pos (by simpa using Nat.le_of_not_lt hlt)] at this
            rw [List.take_of_length_le (Nat.le_of_not_lt hlt), ← hp]
            exact .go (by simpa [hp, takesAll] using Nat.le_of_not_lt hlt) this

theorem runs_streamF (plan : Plan) (p : Path) : ∀ (chunks : List Bytes) (i : Nat),
    Runs plan i ((chunks.filter (· ≠ [])).map (.write p)) true (streamF plan p chunks i)
  | [], i => .done i true
  | ch :: rest, i => by
    have := (runs_writeChunkF plan p _ ch i (Nat.lt_succ_self _)).seq (runs_streamF plan p rest _)
    by_cases hc : ch = [] <;> simpa [streamF, List.filter_cons, hc] using this

/-- copyOneFile.  With `c.chunk = 0` the source reader delivers empty buffers, which `fileOps` lists as Writes
    and `fileRunF` does not issue: hence the hypothesis. -/
theorem runs_fileRunF (c : Cfg) (src : ReaderBehaviour) (plan : Plan) (p : Path) (d : Bytes) (i : Nat) :
    ∃ ops, Runs plan i ops true (fileRunF c src plan p d i) ∧ (0 < c.chunk → ops = fileOps c src p d) := by
  unfold fileRunF fileOps fileWrites
  have hopen := runs_callF plan (.openTrunc p) i nofun rfl
  split
  · exact ⟨_, hopen.seq ((runs_wholeWriteF plan p d _).seq (runs_chtimesF plan p _)), fun _ => rfl⟩
  · refine ⟨_, hopen.seq ((runs_streamF plan p _ _).seq (runs_chtimesF plan p _)), fun hc => ?_⟩
    rw [List.filter_eq_self.2 fun ch h => by simpa using ((readChunks_spec src c.chunk hc _ d 0 (Nat.le_succ _)).2 ch h).1]
    rfl

theorem copyDirF_runs (c : Cfg) (src : ReaderBehaviour) (readlink : Bool) (plan : Plan) :
    ∀ (f : Forest) (pre : Path) (i : Nat), ∃ ops ok0, Runs plan i ops ok0 (copyDirF c src readlink plan pre f i) ∧
      (0 < c.chunk → copyDir c src readlink pre f = (ops, ok0)) := by
  intro f
  induction f using entry_induction with
  | nil => exact fun _ i => ⟨_, _, .done i true, fun _ => rfl⟩
  | entry n it s r _ ihs ih =>
    intro pre i
    rw [copyDirF_entry, copyDir_entry]
    split
    · exact ih pre i
    · have own : ∃ ops ok0, Runs plan i ops ok0 (entryF c src readlink plan pre n it s i) ∧
          (0 < c.chunk → entryOps c src readlink pre n it s = (ops, ok0)) := by
        cases it with
        | file d =>
          obtain ⟨ops, h, e⟩ := runs_fileRunF c src plan (pre ++ [n]) d i
          exact ⟨ops, true, h, fun hc => by rw [e hc]; rfl⟩
        | dir =>
          obtain ⟨ops, ok0, h, e⟩ := ihs (pre ++ [n]) (callF plan (.mkdir (pre ++ [n])) i).next
          exact ⟨_, _, (runs_callF plan (.mkdir (pre ++ [n])) i nofun rfl).seq h, fun hc => by simp [entryOps, e hc]⟩
        | link t =>
          cases readlink
          · exact ⟨_, _, .done i false, fun _ => rfl⟩
          · exact ⟨_, _, runs_callF plan (.symlink (pre ++ [n]) t) i nofun rfl, fun _ => rfl⟩
        | other => exact ⟨_, _, .done i true, fun _ => rfl⟩
      obtain ⟨opsA, okA, ha, ea⟩ := own
      obtain ⟨opsB, okB, hb, eb⟩ := ih pre (entryF c src readlink plan pre n it s i).next
      exact ⟨_, _, ha.seq hb, fun hc => by rw [ea hc, eb hc]⟩

end Diskfs.Sync
