/-
  Arithmetic that several families of proofs need: division rounding up, in the two forms the Go code
  writes it (`(n + d - 1) / d`, and `n / d` plus one for a remainder), and a number put together from
  its two halves.  Each model has its own name for the rounded quotient; the lemmas are about the
  expression, and hold of the names by unfolding.  Core Lean only.
-/
namespace Diskfs

theorem ceil_bounds (n d : Nat) (hd : 0 < d) : n ≤ (n + d - 1) / d * d ∧ (n + d - 1) / d * d < n + d := by
  have h1 := Nat.div_add_mod (n + d - 1) d
  have h2 := Nat.mod_lt (n + d - 1) hd
  rw [Nat.mul_comm] at h1
  constructor <;> omega

/-! ### `n / d`, plus one when there is a remainder -/

theorem divUp_le_iff (n d k : Nat) (hd : 0 < d) : n / d + (if n % d > 0 then 1 else 0) ≤ k ↔ n ≤ k * d := by
  by_cases hr : n % d > 0
  · -- not a multiple of `d`, so `n ≤ k * d` is strict
    have : n ≠ k * d := fun h => by rw [h, Nat.mul_mod_left] at hr; exact Nat.lt_irrefl _ hr
    rw [if_pos hr, Nat.add_one_le_iff, Nat.div_lt_iff_lt_mul hd]
    omega
  · rw [if_neg hr, Nat.add_zero, ← Nat.mul_le_mul_right_iff hd, Nat.div_mul_cancel (Nat.dvd_of_mod_eq_zero (by omega))]

theorem divUp_bounds (n d : Nat) (hd : 0 < d) :
    n ≤ (n / d + (if n % d > 0 then 1 else 0)) * d ∧ (n / d + (if n % d > 0 then 1 else 0)) * d < n + d := by
  have h1 := Nat.div_add_mod n d
  have h2 := Nat.mod_lt n hd
  split
  · rw [Nat.add_mul, Nat.one_mul, Nat.mul_comm]
    omega
  · rw [Nat.add_zero, Nat.mul_comm]
    omega

theorem divUp_mul (k d : Nat) (hd : 0 < d) : k * d / d + (if k * d % d > 0 then 1 else 0) = k := by
  rw [Nat.mul_div_cancel _ hd, Nat.mul_mod_left]
  rfl

theorem divUp_one (n d : Nat) (h0 : 0 < n) (h : n ≤ d) : n / d + (if n % d > 0 then 1 else 0) = 1 := by
  rcases Nat.lt_or_eq_of_le h with h | rfl
  · rw [Nat.div_eq_of_lt h, Nat.mod_eq_of_lt h, if_pos h0]
  · rw [Nat.div_self h0, Nat.mod_self]; rfl

/-- a number below `a * b` is its digit in base `a` and the next one in base `b`: the 16 + 16, 32 + 32 and 32 + 16 bit
    splits of the inode and group descriptor fields -/
theorem halves_join (n a b : Nat) (h : n < a * b) : n % a + n / a % b * a = n := by
  rw [Nat.mod_eq_of_lt (Nat.div_lt_of_lt_mul h), Nat.mul_comm, Nat.mod_add_div]

end Diskfs
