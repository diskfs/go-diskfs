/-
  The reading side over the bytes of an image (Model/Sqfs/ImageRd.lean): what `readMetaBlock`,
  `readMetadata`, `getInode` and the lookup-table readers return on a device that shows (`HoldsAt`)
  what the writers lay down.  (`getDirectory` and the walk: Props/C07.lean.)
-/
import DiskfsModel.Model.Sqfs.ImageRd
import DiskfsModel.Proofs.SqfsInode
import DiskfsModel.Proofs.SqfsMap
import DiskfsModel.Proofs.Bytes
import DiskfsModel.Proofs.SqfsMeta
namespace Diskfs.Sqfs

/-- the device shows the byte string `X` at offset `off` -/
def HoldsAt (img : Dev) (off : Nat) (X : Bytes) : Prop := readAt img off X.length = X

theorem holdsAt_sub (img : Dev) (off : Nat) (X : Bytes) (h : HoldsAt img off X) (a n : Nat) (han : a + n ≤ X.length) :
    readAt img (off + a) n = (X.drop a).take n := by
  rw [← readAt_drop_take img off X.length a n han, (h : readAt img off X.length = X)]

theorem holdsAt_append (img : Dev) (off : Nat) (A B : Bytes) (h : HoldsAt img off (A ++ B)) :
    HoldsAt img off A ∧ HoldsAt img (off + A.length) B := by
  unfold HoldsAt at h ⊢
  rw [List.length_append, readAt_append] at h
  exact List.append_inj h (readAt_length ..)

theorem holdsAt_flatten_get (img : Dev) (loc : Nat) (l : List Bytes) (h : HoldsAt img loc l.flatten) (i : Nat) (hi : i < l.length) :
    HoldsAt img (loc + (l.take i).flatten.length) (l.getD i []) := by
  rw [flatten_split l i hi] at h
  exact (holdsAt_append _ _ _ _ (holdsAt_append _ _ _ _ h).2).1

theorem holdsAt_getD (A X : Bytes) : HoldsAt (fun i => (A ++ X).getD i 0) A.length X := by
  rw [HoldsAt, readAt_list _ _ _ (by simp), List.drop_left, List.take_length]

theorem encodeMetaBlock_length (c : Codec) (nc : Bool) (buf : Bytes) :
    (encodeMetaBlock c nc buf).length = (storeBlock c nc buf).payload.length + 2 := by
  simp [encodeMetaBlock]; omega

theorem storeBlock_payload_le (c : Codec) (nc : Bool) (blk : Bytes) : (storeBlock c nc blk).payload.length ≤ blk.length := by
  unfold storeBlock
  split
  · rename_i h; exact Nat.le_of_lt h.2
  · exact Nat.le_refl _

/-- a block the writers produce: non-empty, at most 8 KiB -/
def BlockOK (b : Bytes) : Prop := 0 < b.length ∧ b.length ≤ metaBlock

theorem readMetaBlock_written (c : Codec) (nc : Bool) (img : Dev) (loc : Nat) (blk : Bytes) (hb : BlockOK blk)
    (h : HoldsAt img loc (encodeMetaBlock c nc blk)) :
    readMetaBlock c img loc = (blk, (encodeMetaBlock c nc blk).length) := by
  have hld := loadFrag_store c nc blk
  have hlt : (storeBlock c nc blk).payload.length ≤ 8192 := Nat.le_trans (storeBlock_payload_le c nc blk) hb.2
  rw [encodeMetaBlock_length]
  obtain ⟨h1, h2⟩ := holdsAt_append _ _ _ _ h
  generalize storeBlock c nc blk = s at *
  unfold HoldsAt at h1 h2
  rw [leEnc_length] at h1 h2
  unfold readMetaBlock
  -- the stored size is below 0x8000, so the header splits into size and flag
  rw [h1, leDec_leEnc_of_lt 2 _ (by simp only [metaFlag]; split <;> omega)]
  unfold loadFrag at hld
  cases hc : s.compressed <;> simp only [hc, metaFlag, Bool.false_eq_true, if_false, if_true] at hld ⊢
  · rw [show (s.payload.length + 32768) % 32768 = s.payload.length by omega, show (s.payload.length + 32768) / 32768 % 2 = 1 by omega,
      h2, hld]; rfl
  · rw [show (s.payload.length + 0) % 32768 = s.payload.length by omega, show (s.payload.length + 0) / 32768 % 2 = 0 by omega,
      h2, hld]; rfl

theorem metaTable_cons (c : Codec) (nc : Bool) (b : Bytes) (r : List Bytes) :
    metaTable c nc (b :: r) = encodeMetaBlock c nc b ++ metaTable c nc r := by simp [metaTable]

theorem metaTable_append (c : Codec) (nc : Bool) (x y : List Bytes) :
    metaTable c nc (x ++ y) = metaTable c nc x ++ metaTable c nc y := by simp [metaTable]

theorem metaTable_take_drop (c : Codec) (nc : Bool) (blocks : List Bytes) (k : Nat) :
    metaTable c nc blocks = metaTable c nc (blocks.take k) ++ metaTable c nc (blocks.drop k) := by
  rw [← metaTable_append, List.take_append_drop]

theorem metaOff_le (c : Codec) (nc : Bool) (blocks : List Bytes) (k : Nat) :
    metaOff c nc blocks k ≤ (metaTable c nc blocks).length := by
  rw [metaTable_take_drop c nc blocks k, metaOff]; simp

theorem metaOff_succ (c : Codec) (nc : Bool) (blocks : List Bytes) (k : Nat) (hk : k < blocks.length) :
    metaOff c nc blocks (k + 1) = metaOff c nc blocks k + ((storeBlock c nc blocks[k]).payload.length + 2) := by
  unfold metaOff
  rw [List.take_add_one, List.getElem?_eq_getElem hk, metaTable_append, List.length_append, ← encodeMetaBlock_length]
  simp [metaTable]

theorem metaOff_strict (c : Codec) (nc : Bool) (blocks : List Bytes) (j1 j2 : Nat) (h : j1 < j2) (hl : j2 ≤ blocks.length) :
    metaOff c nc blocks j1 < metaOff c nc blocks j2 := by
  induction j2 with
  | zero => omega
  | succ j ih =>
    rw [metaOff_succ c nc blocks j (by omega)]
    by_cases hj : j1 = j
    · subst hj; omega
    · have := ih (by omega) (by omega); omega

theorem metaOff_inj (c : Codec) (nc : Bool) (blocks : List Bytes) (j1 j2 : Nat) (h1 : j1 ≤ blocks.length) (h2 : j2 ≤ blocks.length)
    (h : metaOff c nc blocks j1 = metaOff c nc blocks j2) : j1 = j2 := by
  rcases Nat.lt_trichotomy j1 j2 with hlt | he | hgt
  · have := metaOff_strict c nc blocks _ _ hlt h2; omega
  · exact he
  · have := metaOff_strict c nc blocks _ _ hgt h1; omega

theorem metaOff_append (c : Codec) (nc : Bool) (a x : List Bytes) (k : Nat) (hk : k ≤ a.length) :
    metaOff c nc (a ++ x) k = metaOff c nc a k := by
  unfold metaOff
  rw [List.take_append_of_le_length hk]

/-- the table offset of block `k` is what `writeInodes` records in `blockOffsets`
    (`Model/Sqfs/Meta.lean`, the input of `translateInodeLocations`) -/
theorem metaOff_blockOffsets (c : Codec) (nc : Bool) (blocks : List Bytes) (pos : Nat) (k : Nat) (hk : k < blocks.length) :
    (blockOffsets (blocks.map fun b => (storeBlock c nc b).payload.length) pos).getD k 0 = pos + metaOff c nc blocks k := by
  induction blocks generalizing pos k with
  | nil => simp at hk
  | cons b r ih =>
    cases k with
    | zero => simp [blockOffsets, metaOff, metaTable]
    | succ k =>
      simp only [List.map_cons, blockOffsets, List.getD_cons_succ]
      rw [ih (pos + (storeBlock c nc b).payload.length + 2) k (by simpa using hk)]
      simp only [metaOff, List.take_succ_cons, metaTable_cons, List.length_append, encodeMetaBlock_length]
      omega

theorem holdsAt_table_drop (c : Codec) (nc : Bool) (img : Dev) (tbl : Nat) (blocks : List Bytes) (k : Nat)
    (h : HoldsAt img tbl (metaTable c nc blocks)) :
    HoldsAt img (tbl + metaOff c nc blocks k) (metaTable c nc (blocks.drop k)) := by
  rw [metaTable_take_drop c nc blocks k] at h
  exact (holdsAt_append _ _ _ _ h).2

theorem readMetaBlock_table (c : Codec) (nc : Bool) (img : Dev) (tbl : Nat) (blocks : List Bytes)
    (hok : ∀ x ∈ blocks, BlockOK x) (hT : HoldsAt img tbl (metaTable c nc blocks)) (k : Nat) (hk : k < blocks.length) :
    readMetaBlock c img (tbl + metaOff c nc blocks k) = (blocks[k], (encodeMetaBlock c nc blocks[k]).length) ∧
    HoldsAt img (tbl + metaOff c nc blocks k + (encodeMetaBlock c nc blocks[k]).length) (metaTable c nc (blocks.drop (k + 1))) := by
  have hT2 := holdsAt_table_drop c nc img tbl blocks k hT
  rw [List.drop_eq_getElem_cons hk, metaTable_cons] at hT2
  obtain ⟨hT1, hT2⟩ := holdsAt_append _ _ _ _ hT2
  exact ⟨readMetaBlock_written c nc img _ _ (hok _ (List.getElem_mem hk)) hT1, hT2⟩

theorem readMetaMore_spec (c : Codec) (nc : Bool) (img : Dev) (first size : Nat) :
    ∀ (rest : List Bytes) (fuel blockOff read : Nat) (b : Bytes),
      (∀ x ∈ rest, BlockOK x) → HoldsAt img (first + (blockOff + read)) (metaTable c nc rest) →
      size ≤ b.length + rest.flatten.length → (1 ≤ fuel ∧ size + 1 ≤ fuel + b.length) →
      ∃ n, size ≤ n ∧ n ≤ b.length + rest.flatten.length ∧
        readMetaMore c img first size fuel blockOff read b = some ((b ++ rest.flatten).take n) := by
  intro rest
  induction rest with
  | nil =>
    intro fuel blockOff read b _ _ hsz hf
    obtain ⟨f, rfl⟩ : ∃ f, fuel = f + 1 := ⟨fuel - 1, by omega⟩
    simp only [List.flatten_nil, List.length_nil, Nat.add_zero] at hsz
    exact ⟨b.length, hsz, by simp, by simp [readMetaMore, hsz]⟩
  | cons r rs ih =>
    intro fuel blockOff read b hok hT hsz hf
    obtain ⟨f, rfl⟩ : ∃ f, fuel = f + 1 := ⟨fuel - 1, by omega⟩
    by_cases hdone : size ≤ b.length
    · exact ⟨b.length, hdone, by omega, by simp [readMetaMore, hdone]⟩
    · rw [metaTable_cons] at hT
      obtain ⟨hT1, hT2⟩ := holdsAt_append _ _ _ _ hT
      have hr := hok r (List.mem_cons_self ..)
      have hblk := readMetaBlock_written c nc img _ r hr hT1
      simp only [List.flatten_cons, List.length_append] at hsz
      obtain ⟨n, h1, h2, h3⟩ := ih f (blockOff + read) (encodeMetaBlock c nc r).length (b ++ r)
        (fun x hx => hok x (List.mem_cons_of_mem _ hx)) (by simpa [Nat.add_assoc] using hT2)
        (by simp only [List.length_append]; omega) (by simp only [List.length_append]; have := hr.1; omega)
      refine ⟨n, h1, by simp only [List.flatten_cons, List.length_append] at h2 ⊢; omega, ?_⟩
      have hne : ¬ r.length = 0 := by have := hr.1; omega
      simp only [readMetaMore, hdone, if_false, hblk, hne]
      simpa using h3

theorem readsFrom_of_table (c : Codec) (nc : Bool) (img : Dev) (tbl : Nat) (blocks : List Bytes)
    (hok : ∀ x ∈ blocks, BlockOK x) (hT : HoldsAt img tbl (metaTable c nc blocks)) (k off : Nat) (hk : k < blocks.length)
    (ho : off ≤ (blocks.getD k []).length) :
    ReadsFrom c img tbl (metaOff c nc blocks k) off ((blocks.drop k).flatten.drop off) := by
  intro size hsz
  obtain ⟨hblk, hT2⟩ := readMetaBlock_table c nc img tbl blocks hok hT k hk
  rw [getD_eq_of_lt _ _ _ hk] at ho
  rw [List.drop_eq_getElem_cons hk] at hsz ⊢
  rw [List.flatten_cons, List.drop_append_of_le_length ho] at hsz ⊢
  obtain ⟨n, h1, h2, h3⟩ := readMetaMore_spec c nc img tbl size (blocks.drop (k + 1)) (size + 1) (metaOff c nc blocks k)
    (encodeMetaBlock c nc blocks[k]).length (blocks[k].drop off)
    (fun x hx => hok x (List.mem_of_mem_drop hx)) (by simpa [Nat.add_assoc] using hT2)
    (by simpa using hsz) (by omega)
  refine ⟨n, h1, by simpa using h2, ?_⟩
  unfold readMetadata
  rw [hblk, if_neg (show ¬ off > blocks[k].length by omega)]
  exact h3

/-- length of the fixed part of a body -/
def IBody.fixed : IBody → Nat
  | .basicDir .. => 16 | .extDir .. => 24 | .basicFile .. => 16 | .extFile .. => 40 | .basicSymlink .. => 8

theorem inode_size_eq (i : Inode) : i.size = 16 + i.body.fixed + i.body.var := by
  obtain ⟨h, b⟩ := i
  cases b <;> simp only [Inode.size, IBody.fixed, IBody.var] <;> omega

theorem typeSize_body (b : IBody) : 16 + b.fixed ≤ typeSize b.typ ∧ typeSize b.typ ≤ 16 + b.fixed + 1 := by
  cases b <;> simp [IBody.fixed, IBody.typ, typeSize]

theorem encodeBody_length (b : IBody) : (encodeBody b).length = b.fixed + b.var := by
  cases b <;> simp only [encodeBody, IBody.fixed, IBody.var, encodeBlks_length, List.length_append, leEnc_length] <;> omega

theorem encodeInode_length (i : Inode) : (encodeInode i).length = i.size := by
  rw [inode_size_eq]
  simp only [encodeInode, List.length_append, leEnc_length, encodeBody_length]
  omega

/-- the fields `bodyExtra` reads lie inside the fixed part, so cutting the body at `m` does not touch them -/
theorem bodyExtra_spec (bs : Nat) (body : IBody) (hwf : body.WF bs) (rest : Bytes) (m : Nat) (hm1 : body.fixed ≤ m)
    (hm2 : m ≤ (encodeBody body ++ rest).length) :
    bodyExtra bs body.typ ((encodeBody body ++ rest).take m) = some (if m - body.fixed ≥ body.var then 0 else body.var) := by
  have hlen : ((encodeBody body ++ rest).take m).length = m := by rw [List.length_take]; exact Nat.min_eq_left hm2
  cases body <;> simp only [IBody.fixed, IBody.WF] at hm1 hwf <;>
    simp only [IBody.typ, bodyExtra, hlen, IBody.fixed, IBody.var, Nat.not_lt.2 hm1, if_false]
  · simp
  · rw [take_drop_take _ m 16 2 (by omega)]
    simp [encodeBody, leDec, leEnc]
  · rw [take_drop_take _ m 12 4 (by omega), take_drop_take _ m 4 4 (by omega)]
    simp [encodeBody, drop_append_right, leDec_leEnc_of_lt 4 _ hwf.2.1, leDec_leEnc_of_lt 4 _ hwf.2.2.2.1, ← hwf.2.2.2.2.2]
  · rw [take_drop_take _ m 8 8 (by omega), take_drop_take _ m 28 4 (by omega)]
    simp [encodeBody, drop_append_right, leDec_leEnc_of_lt 8 _ hwf.2.1, leDec_leEnc_of_lt 4 _ hwf.2.2.2.2.1, ← hwf.2.2.2.2.2.2.2.2]
  · rw [take_drop_take _ m 4 4 (by omega)]
    simp [encodeBody, leDec_leEnc_of_lt 4 _ hwf.2]

theorem ask_le (i : Inode) : i.ask ≤ i.size + 1 := by
  have := typeSize_body i.body
  have h2 := inode_size_eq i
  unfold Inode.ask
  omega

/-- one conditional re-read of `getInode`: what it holds afterwards is again a prefix of the stream -/
theorem reread {c : Codec} {img : Dev} {tbl bo off : Nat} {S : Bytes} (RM : ReadsFrom c img tbl bo off S) (n : Nat) (hn : n ≤ S.length)
    (p : Prop) [Decidable p] (size : Nat) (hs : size ≤ S.length) (k : Nat) (hp : p → k ≤ size) (hnp : ¬ p → k ≤ n) :
    ∃ n', k ≤ n' ∧ n' ≤ S.length ∧
      (if p then readMetadata c img tbl bo off size else some (S.take n)) = some (S.take n') := by
  by_cases h : p
  · obtain ⟨n', a, b, e⟩ := RM size hs
    exact ⟨n', Nat.le_trans (hp h) a, b, by rw [if_pos h, e]⟩
  · exact ⟨n, hnp h, hn, by rw [if_neg h]⟩

/-- whatever type `typ` the directory entry announced, the read / re-read / re-read-with-extra
    sequence of `getInode` ends with the inode encoded at the reference -/
theorem getInodeM_spec (c : Codec) (img : Dev) (tbl bs blockOff byteOff typ : Nat) (i : Inode) (rest : Bytes)
    (hwf : i.WF bs) (htyp : 16 ≤ typeSize typ) (hts : typeSize typ ≤ (encodeInode i ++ rest).length)
    (hask : i.ask ≤ (encodeInode i ++ rest).length)
    (RM : ReadsFrom c img tbl blockOff byteOff (encodeInode i ++ rest)) :
    getInodeM c img tbl bs blockOff byteOff typ = some i := by
  have hsz := inode_size_eq i
  have hel := encodeInode_length i
  have hts2 := typeSize_body i.body
  have hask' : i.ask = typeSize i.body.typ + i.body.var := rfl
  have hSlen : (encodeInode i ++ rest).length = i.size + rest.length := by rw [List.length_append, hel]
  -- first read; second read if the type differs and needs more; third read if the body asks for extra
  obtain ⟨n0, hn0, hn0', h0⟩ := RM (typeSize typ) hts
  obtain ⟨n1, hn1, hn1', h1⟩ := reread RM n0 hn0' (i.body.typ ≠ typ ∧ typeSize i.body.typ > n0) (typeSize i.body.typ) (by omega)
    (typeSize i.body.typ) (fun _ => Nat.le_refl _) fun hp => by
      by_cases ht : i.body.typ = typ
      · rw [ht]; exact hn0
      · exact Nat.le_of_not_lt fun h => hp ⟨ht, h⟩
  have hbe := bodyExtra_spec bs i.body hwf.2.2.2.2.2 rest (n1 - 16) (by omega) (by rw [List.length_append, encodeBody_length]; omega)
  obtain ⟨n2, hn2, hn2', h2⟩ := reread RM n1 hn1' ((if n1 - 16 - i.body.fixed ≥ i.body.var then 0 else i.body.var) > 0)
    (typeSize i.body.typ + (if n1 - 16 - i.body.fixed ≥ i.body.var then 0 else i.body.var)) (by split <;> omega) i.size
    (by split <;> omega) (by split <;> omega)
  -- what the parser sees of a long enough prefix of the stream: the header's type, the body, the inode
  have take2 : leDec (((encodeInode i ++ rest).take n0).take 2) = i.body.typ := by
    rw [List.take_take, Nat.min_eq_left (by omega), encodeInode, List.append_assoc, List.take_left' (leEnc_length ..),
      leDec_leEnc_of_lt 2 _ (body_typ_lt i.body)]
  have drop16 : ((encodeInode i ++ rest).take n1).drop 16 = (encodeBody i.body ++ rest).take (n1 - 16) := by
    rw [List.drop_take]
    simp [encodeInode, drop_append_right]
  have hfin : decodeInode bs ((encodeInode i ++ rest).take n2) = some (i, rest.take (n2 - i.size)) := by
    rw [List.take_append, List.take_of_length_le (by omega), hel]
    exact decode_encodeInode bs i _ hwf
  have sizeEq : (if i.body.typ = typ then typeSize typ else typeSize i.body.typ) = typeSize i.body.typ := by
    split
    · rename_i h; rw [h]
    · rfl
  unfold getInodeM
  simp only [h0, List.length_take, Nat.min_eq_left hn0', show ¬ n0 < 16 by omega, if_false, take2, sizeEq, h1, drop16, hbe, h2, hfin]
  rfl

theorem dirAsk_isSome (b : IBody) : (dirAsk b).isSome = (listingRef b).isSome := by cases b <;> rfl

/-! ### lookup tables: the 8 KiB chunks of an entry stream behind an index of pointers -/

theorem lookupIndex_length (c : Codec) (nc : Bool) (loc : Nat) (blocks : List Bytes) :
    (lookupIndex c nc loc blocks).length = 8 * blocks.length := by
  rw [lookupIndex, map_flatten_length _ 8 (by simp), List.length_range]

theorem fragStream_length (ents : List FragEnt) : (fragStream ents).length = 16 * ents.length :=
  map_flatten_length _ 16 (by simp [encodeFragEnt]) ents

theorem idStream_length (ids : List Nat) : (idStream ids).length = 4 * ids.length := map_flatten_length _ 4 (by simp) ids

theorem readLookup_written (c : Codec) (nc : Bool) (img : Dev) (loc idx : Nat) (blocks : List Bytes)
    (hok : ∀ x ∈ blocks, BlockOK x) (hT : HoldsAt img loc (metaTable c nc blocks))
    (hI : HoldsAt img idx (lookupIndex c nc loc blocks)) (h64 : loc + (metaTable c nc blocks).length < 2 ^ 64) :
    readLookup c img idx blocks.length 0 = blocks.flatten := by
  have gen : ∀ m i, i + m = blocks.length → readLookup c img idx m i = (blocks.drop i).flatten := by
    intro m
    induction m with
    | zero => intro i hi; simp [readLookup, List.drop_eq_nil_of_le (show blocks.length ≤ i by omega)]
    | succ m ih =>
      intro i hi
      have hil : i < blocks.length := by omega
      have hptr : readAt img (idx + 8 * i) 8 = leEnc 8 (loc + metaOff c nc blocks i) := by
        rw [holdsAt_sub img idx _ hI (8 * i) 8 (by rw [lookupIndex_length]; omega), lookupIndex,
          map_flatten_get _ 8 (fun _ => leEnc_length ..) _ i (by simpa using hil), List.getElem_range]
      have hle := metaOff_le c nc blocks i
      rw [readLookup, hptr, leDec_leEnc_of_lt 8 _ (by omega), (readMetaBlock_table c nc img loc blocks hok hT i hil).1, ih (i + 1) (by omega),
        List.drop_eq_getElem_cons hil, List.flatten_cons]
  simpa using gen blocks.length 0 (by simp)

theorem metaChunks_flatten (s : Bytes) : (metaChunks s).flatten = s := by
  simpa [metaChunks] using chunksOf_drop_flatten metaBlock (by decide) 0 s.length s (Nat.le_refl _)

theorem metaChunks_ok (s : Bytes) : ∀ x ∈ metaChunks s, BlockOK x := chunksOf_ok metaBlock (by decide) _ _

theorem metaChunks_length (s : Bytes) : (metaChunks s).length = (s.length + metaBlock - 1) / metaBlock :=
  chunksOf_length metaBlock (by decide) _ _ (Nat.le_refl _)

theorem metaChunks_nil : metaChunks [] = [] := rfl

theorem metaChunks_cons (s : Bytes) (h : s ≠ []) : metaChunks s = s.take metaBlock :: metaChunks (s.drop metaBlock) := by
  obtain ⟨k, hk⟩ : ∃ k, s.length = k + 1 := ⟨s.length - 1, by have := List.length_pos_iff.2 h; omega⟩
  rw [metaChunks, hk, chunksOf_succ _ _ _ h, metaChunks,
    chunksOf_fuel metaBlock (by decide) k _ _ (by rw [List.length_drop]; simp only [metaBlock]; omega) (Nat.le_refl _)]

theorem metaChunks_small (s : Bytes) (h : s ≠ []) (hl : s.length ≤ metaBlock) : metaChunks s = [s] := by
  rw [metaChunks_cons s h, List.take_of_length_le hl, List.drop_of_length_le hl, metaChunks_nil]

theorem metaChunks_getD (s : Bytes) (k : Nat) : (metaChunks s).getD k [] = (s.drop (k * metaBlock)).take metaBlock := by
  induction k generalizing s with
  | zero =>
    cases s with
    | nil => rfl
    | cons a r => rw [metaChunks_cons _ (by simp)]; simp
  | succ k ih =>
    cases s with
    | nil => simp [metaChunks_nil]
    | cons a r => rw [metaChunks_cons _ (by simp), List.getD_cons_succ, ih, List.drop_drop, Nat.succ_mul, Nat.add_comm]

theorem div_lt_chunks (S : Bytes) (pos : Nat) (h : pos < S.length) : pos / metaBlock < (metaChunks S).length := by
  rw [metaChunks_length]
  simp only [metaBlock]
  omega

theorem cutN_flatten (n : Nat) (hn : 0 < n) (l : List Bytes) (f : Nat) (hx : ∀ x ∈ l, x.length = n) (hf : l.length ≤ f) :
    cutN n f l.flatten = some l := by
  induction l generalizing f with
  | nil => cases f <;> simp [cutN]
  | cons x r ih =>
    obtain ⟨f, rfl⟩ : ∃ g, f = g + 1 := ⟨f - 1, by simp at hf; omega⟩
    have hxl := hx x (List.mem_cons_self ..)
    have hne : ¬ (x ++ r.flatten).isEmpty = true := by
      cases x with
      | nil => simp at hxl; omega
      | cons _ _ => simp
    have hlt : ¬ (x ++ r.flatten).length < n := by simp [hxl]
    simp only [List.flatten_cons, cutN, hne, hlt, if_false, List.drop_left' hxl, List.take_left' hxl,
      ih f (fun y hy => hx y (List.mem_cons_of_mem _ hy)) (by simpa using hf)]
    simp

def FragEnt.WF (f : FragEnt) : Prop := f.start < 2 ^ 64 ∧ f.size < 2 ^ 24

theorem decode_encodeFragEnt (f : FragEnt) (h : f.WF) : decodeFragEnt (encodeFragEnt f) = f := by
  -- size and flag share a word the way a block-list entry's do (`Blk.word`)
  have hw := blk_word_lt ⟨f.size, f.compressed⟩ h.2
  have hb := blk_roundtrip ⟨f.size, f.compressed⟩ h.2
  simp only [Blk.ofWord, Blk.word, Blk.mk.injEq] at hw hb
  simp only [decodeFragEnt, encodeFragEnt, List.take_left' (leEnc_length ..), List.drop_left' (leEnc_length ..),
    leDec_leEnc_of_lt 8 _ h.1, leDec_leEnc_of_lt 4 _ hw, hb.1]
  exact congrArg (FragEnt.mk f.start f.size) hb.2

/-- the number of index pointers `readFragmentTable` takes for `n` fragments is the number of
    metadata blocks `writeFragmentTable` cut for them: ⌈16·n / 8192⌉ = ⌈n / 512⌉ -/
theorem frag_block_count (ents : List FragEnt) :
    ents.length / 512 + (if ents.length % 512 > 0 then 1 else 0) = (metaChunks (fragStream ents)).length ∧
    (metaChunks (fragStream ents)).length = (16 * ents.length + 8191) / 8192 := by
  rw [metaChunks_length, fragStream_length]
  simp only [metaBlock]
  exact ⟨by split <;> omega, rfl⟩

/-- … and for n ≥ 1 ids `readUidsGids`' count is the number of blocks `writeIDTable` cut -/
theorem id_block_count (ids : List Nat) (h0 : 0 < ids.length) :
    idBlocks ids.length = (metaChunks (idStream ids)).length ∧
    (metaChunks (idStream ids)).length = (4 * ids.length + 8191) / 8192 := by
  rw [metaChunks_length, idStream_length]
  simp only [metaBlock, idBlocks]
  exact ⟨by omega, rfl⟩

theorem readFragTable_written (c : Codec) (nc : Bool) (img : Dev) (loc fragStart : Nat) (ents : List FragEnt)
    (hwf : ∀ e ∈ ents, e.WF) (hT : HoldsAt img loc (metaTable c nc (metaChunks (fragStream ents))))
    (hI : HoldsAt img fragStart (lookupIndex c nc loc (metaChunks (fragStream ents))))
    (h64 : loc + (metaTable c nc (metaChunks (fragStream ents))).length < 2 ^ 64) :
    readFragTable c img fragStart ents.length = some ents := by
  unfold readFragTable
  by_cases h0 : ents.length = 0
  · simp [List.eq_nil_of_length_eq_zero h0]
  · rw [if_neg h0, (frag_block_count ents).1, readLookup_written c nc img loc fragStart _ (metaChunks_ok _) hT hI h64, metaChunks_flatten]
    have := cutN_flatten 16 (by decide) (ents.map encodeFragEnt) (fragStream ents).length
      (by intro x hx; obtain ⟨e, _, rfl⟩ := List.mem_map.1 hx; simp [encodeFragEnt])
      (by rw [fragStream_length, List.length_map]; omega)
    simp only [fragStream] at this ⊢
    simp only [this, Option.map_some, List.map_map]
    congr 1
    conv => rhs; rw [← List.map_id ents]
    exact List.map_congr_left fun e he => decode_encodeFragEnt e (hwf e he)

theorem parseIds_stream (ids : List Nat) (f : Nat) (hx : ∀ x ∈ ids, x < 2 ^ 32) (hf : ids.length < f) :
    parseIds f (idStream ids) = ids := by
  induction ids generalizing f with
  | nil => cases f <;> simp [parseIds, idStream]
  | cons x r ih =>
    obtain ⟨f, rfl⟩ : ∃ g, f = g + 1 := ⟨f - 1, by omega⟩
    have := ih f (fun y hy => hx y (List.mem_cons_of_mem _ hy)) (by simpa using hf)
    simp only [idStream, List.map_cons, List.flatten_cons] at this ⊢
    rw [parseIds, if_neg (by simp), List.take_left' (leEnc_length ..), List.drop_left' (leEnc_length ..),
      leDec_leEnc_of_lt 4 _ (hx x (List.mem_cons_self ..))]
    simp [this]

theorem readIdTable_written (c : Codec) (nc : Bool) (img : Dev) (loc idStart : Nat) (ids : List Nat)
    (hwf : ∀ x ∈ ids, x < 2 ^ 32)
    (hT : HoldsAt img loc (metaTable c nc (metaChunks (idStream ids))))
    (hI : HoldsAt img idStart (lookupIndex c nc loc (metaChunks (idStream ids))))
    (h64 : loc + (metaTable c nc (metaChunks (idStream ids))).length < 2 ^ 64) :
    readIdTable c img idStart ids.length = ids := by
  unfold readIdTable
  by_cases h0 : ids.length = 0
  · simp [List.eq_nil_of_length_eq_zero h0]
  · rw [if_neg h0, (id_block_count ids (by omega)).1, readLookup_written c nc img loc idStart _ (metaChunks_ok _) hT hI h64,
      metaChunks_flatten]
    exact parseIds_stream ids _ hwf (by rw [idStream_length]; omega)

end Diskfs.Sqfs
