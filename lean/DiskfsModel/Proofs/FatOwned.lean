/-
  The cluster map under the file operations, one level above Proofs/FatChain.lean: how many
  clusters a size needs, what every owner of a sound map satisfies, `File.Write` /
  `allocateSpace(1, first)` on ONE owned chain with all other owners as an opaque list (their bytes
  and their place in the map are untouched), and what a caller of `allocateSpace` can count on
  without the invariant (the length of the answer) or with it (growth is refused exactly for lack of
  free clusters).  The one-directory model and the tree model both put their states together
  around these.  Core Lean only.
-/
import DiskfsModel.Model.Fat.FlatFs
import DiskfsModel.Proofs.FatChain
import DiskfsModel.Proofs.FatFileIO
namespace Diskfs.Fat

theorem nat_max_eq (a b : Nat) : Nat.max a b = max a b := rfl

theorem clusterCount_le_one {bpc n : Nat} (h0 : 0 < n) (h : n ≤ bpc) : clusterCount bpc n = 1 :=
  divUp_one n bpc h0 h

theorem clusterCount_one {bpc : Nat} (hb : 0 < bpc) : clusterCount bpc 1 = 1 :=
  clusterCount_le_one (by decide) hb

theorem clusterCount_zero (bpc : Nat) : clusterCount bpc 0 = 0 := by
  simp [clusterCount]

theorem clusterCount_mul (need : Nat) {bpc : Nat} (hb : 0 < bpc) : clusterCount bpc (need * bpc) = need :=
  divUp_mul need bpc hb

theorem clusterCount_covers (size bpc : Nat) (hb : 0 < bpc) : size ≤ clusterCount bpc size * bpc :=
  (divUp_bounds size bpc hb).1

theorem clusterCount_mono {bpc a b : Nat} (hb : 0 < bpc) (h : a ≤ b) :
    clusterCount bpc a ≤ clusterCount bpc b :=
  (divUp_le_iff a bpc _ hb).2 (Nat.le_trans h (clusterCount_covers b bpc hb))

theorem write_counts {bpc size len n : Nat} (off : Nat) (hb : 0 < bpc)
    (hlen : len = Nat.max (clusterCount bpc size) 1) (hn : 0 < n) :
    size ≤ len * bpc ∧ len ≤ clusterCount bpc (Nat.max size (off + n)) ∧
      1 ≤ clusterCount bpc (Nat.max size (off + n)) := by
  have h1 := clusterCount_mono (b := Nat.max size (off + n)) hb (Nat.le_max_left ..)
  have h2 := clusterCount_mono (a := 1) (b := Nat.max size (off + n)) hb
    (Nat.le_trans (by omega) (Nat.le_max_right size (off + n)))
  rw [clusterCount_one hb] at h2
  rw [nat_max_eq] at hlen
  exact ⟨Nat.le_trans (clusterCount_covers size bpc hb) (Nat.mul_le_mul_right bpc (show clusterCount bpc size ≤ len by omega)),
    by omega, h2⟩

theorem chainOk_head {k lim m} {l : List Nat} (h : ChainOk k lim m l) : 2 ≤ l.headD 0 ∧ l.headD 0 < lim := by
  cases l with
  | nil => exact h.elim
  | cons a rest => exact chainOk_mem h a List.mem_cons_self

theorem inv_ge2 {k lim m O} (h : Inv k lim m O) {o : List Nat} (ho : o ∈ O) : ∀ c ∈ o, 2 ≤ c :=
  fun c hc => (chainOk_mem (h.chains o ho) c hc).1

theorem inv_owner_ne_nil {k lim m O} (h : Inv k lim m O) {o : List Nat} (ho : o ∈ O) : o ≠ [] := by
  intro e
  have := h.chains o ho
  rw [e] at this
  exact this

theorem inv_chain_fuel {k lim m fuel} {O : List (List Nat)} (h : Inv k lim m O) (hfuel : lim - 2 ≤ fuel) :
    ∀ o ∈ O, ChainOk k lim m o ∧ o.length ≤ fuel := by
  intro o ho
  have hp : Inv k lim m (o :: O.erase o) := inv_perm (List.perm_cons_erase ho) h
  exact ⟨h.chains o ho, Nat.le_trans (chain_length_le hp) hfuel⟩

theorem frame_head {k lim m U} {T : List Nat} (io : IOGeom) (d : Dev) (ws : List Wr)
    (h : Inv k lim m (T :: U))
    (hws : ∀ w ∈ ws, ∃ c ∈ T, InCluster io c w) :
    ∀ o ∈ U, chainBytes (applyWrs d ws) io o = chainBytes d io o :=
  fun o ho => chainBytes_other d io T o ws hws (inv_ge2 h List.mem_cons_self)
    (inv_ge2 h (List.mem_cons_of_mem _ ho))
    (fun c hc hT => (inv_head h).2.2 c hT (List.mem_flatten.2 ⟨o, ho, hc⟩))

theorem writeH_in_chain' (g : IOGeom) (chain : List Nat) (oldSize off : Nat) (p : Bytes) (ws : List Wr)
    (hb : 0 < g.bpc) (h : writeH true g chain oldSize off p = some ws) :
    ∀ w ∈ ws, ∃ c ∈ chain, InCluster g c w := by
  unfold writeH at h
  split at h
  · -- the zero fill of the hole, then the payload
    split at h
    · rename_i a b ha hb'
      cases h
      intro w hw
      rcases List.mem_append.1 hw with h1 | h1
      · exact writeCore_in_cluster g chain oldSize _ a hb ha w h1
      · exact writeCore_in_cluster g chain off p b hb hb' w h1
    · cases h
  · exact writeCore_in_cluster g chain off p ws hb h

theorem file_write_core (d : Dev) (g : IOGeom) (k : Kind) (lim max fuel : Nat) (pick) (m : CMap)
    (l l' : List Nat) (others : List (List Nat)) (oldSize off : Nat) (p : Bytes) (ws : List Wr)
    (h : Inv k lim m (l :: others)) (hp : PickSpec lim pick) (hlim : LimOk k lim) (hmax : lim ≤ max)
    (hb : 0 < g.bpc) (hf : l.length ≤ fuel) (hpl : 0 < p.length)
    (hcov : oldSize ≤ l.length * g.bpc)
    (hgrow : l.length ≤ clusterCount g.bpc (Nat.max oldSize (off + p.length)))
    (hres : (allocateSpace k max g.bpc pick fuel m (Nat.max oldSize (off + p.length)) (l.headD 0)).res = some l')
    (hws : writeH true g l' oldSize off p = some ws) :
    Inv k lim (allocateSpace k max g.bpc pick fuel m (Nat.max oldSize (off + p.length)) (l.headD 0)).m (l' :: others) ∧
    l'.length = clusterCount g.bpc (Nat.max oldSize (off + p.length)) ∧
    fileContent (applyWrs d ws) g l' (Nat.max oldSize (off + p.length)) = Spec.splice (fileContent d g l oldSize) off p ∧
    ∀ o ∈ others, chainBytes (applyWrs d ws) g o = chainBytes d g o := by
  obtain ⟨hinv, hlen, hpre⟩ := alloc_grow_inv h hp hlim hmax hf hgrow hres
  have hl'nd := (inv_head hinv).2.1
  have h2' := inv_ge2 hinv List.mem_cons_self
  have hnew : Nat.max oldSize (off + p.length) ≤ l'.length * g.bpc := by
    rw [hlen]; exact clusterCount_covers _ _ hb
  have hold' : oldSize ≤ l'.length * g.bpc := Nat.le_trans (Nat.le_max_left ..) hnew
  have hlen' : off + p.length ≤ l'.length * g.bpc := Nat.le_trans (Nat.le_max_right ..) hnew
  refine ⟨hinv, hlen, ?_, frame_head g d ws hinv (writeH_in_chain' g l' oldSize off p ws hb hws)⟩
  -- the old contents are the same bytes: `l` is a prefix of `l'`
  rw [writeH_spec_fixed d g l' oldSize off p ws hb hl'nd h2' hold' hlen' hpl hws, fileContent, fileContent,
    ← List.take_append_drop l.length l', hpre, chainBytes_append,
    List.take_append_of_le_length (by rw [chainBytes_length]; exact hcov)]

/-- `allocateSpace(1, first)` on an owned chain, accepted: a longer chain is cut behind its first
    cluster, a chain of one cluster is returned as it is -/
theorem alloc_one_inv {k lim max bpc pick fuel m} {l l' : List Nat} {others : List (List Nat)}
    (h : Inv k lim m (l :: others)) (hp : PickSpec lim pick) (hlim : LimOk k lim) (hmax : lim ≤ max)
    (hb : 0 < bpc) (hf : l.length ≤ fuel)
    (hres : (allocateSpace k max bpc pick fuel m 1 (l.headD 0)).res = some l') :
    Inv k lim (allocateSpace k max bpc pick fuel m 1 (l.headD 0)).m (l.take 1 :: others) := by
  have hc1 : clusterCount bpc 1 = 1 := clusterCount_one hb
  by_cases hlt : 1 < l.length
  · have := (alloc_shrink_inv (pick := pick) (size := 1) h hlim hmax hb hf (by rw [hc1]; exact hlt)).2
    rwa [hc1] at this
  · have hl1 : l.length = 1 := by
      have := List.length_pos_iff.2 (inv_owner_ne_nil h List.mem_cons_self); omega
    obtain ⟨hinv, hlen, hpre⟩ := alloc_grow_inv h hp hlim hmax hf (by rw [hc1]; omega) hres
    rw [hc1] at hlen
    have ht : l.take 1 = l' := by rw [← hpre, hl1, ← hlen, List.take_length, List.take_length]
    rwa [ht]

/-! ### `allocateSpace` seen from its caller: how many clusters it answers with, and when it refuses to grow -/

theorem alloc_res_len {k : Kind} {max bpc lim fuel : Nat} {m : CMap} {size prev : Nat} {l' : List Nat}
    (h : (allocateSpace k max bpc (firstFit lim) fuel m size prev).res = some l') :
    clusterCount bpc size ≤ l'.length := by
  by_cases h1 : prev > max
  · rw [allocateSpace, if_pos h1] at h; cases h
  · cases hw : (if prev ≥ 2 then walk k max m fuel prev else WalkRes.ok []) with
    | ok clusters =>
      rw [alloc_eq h1 hw] at h
      -- the chain as it was, grown by what `firstFit` found, or cut (never below the count)
      by_cases he : clusterCount bpc size = clusters.length
      · rw [if_pos he] at h; cases h; omega
      · rw [if_neg he] at h
        by_cases hg : clusterCount bpc size > clusters.length
        · rw [if_pos hg] at h
          by_cases hp : (firstFit lim m (clusterCount bpc size - clusters.length)).length < clusterCount bpc size - clusters.length
          · rw [if_pos hp] at h; cases h
          · rw [if_neg hp] at h; cases h; rw [List.length_append]; omega
        · rw [if_neg hg] at h
          split at h
          · cases h
          · cases h; omega
    | err => rw [allocateSpace, if_neg h1] at h; simp only [hw] at h; cases h
    | diverge => rw [allocateSpace, if_neg h1] at h; simp only [hw] at h; cases h

theorem alloc_new_len {k : Kind} {max bpc lim fuel : Nat} {m : CMap} {size : Nat} {l' : List Nat}
    (hb : 0 < bpc) (hs : 0 < size)
    (h : (allocateSpace k max bpc (firstFit lim) fuel m size 0).res = some l') :
    l'.length = clusterCount bpc size := by
  rw [alloc_new_eq hb hs] at h
  split at h
  · cases h
  · cases h
    have := (firstFit_spec lim).len_le m (clusterCount bpc size)
    omega

theorem alloc_grow_fails_iff {k lim max bpc pick fuel m size l others}
    (h : Inv k lim m (l :: others)) (hp : PickSpec lim pick) (hlim : LimOk k lim) (hmax : lim ≤ max)
    (hf : l.length ≤ fuel) (hcount : l.length < clusterCount bpc size) :
    (allocateSpace k max bpc pick fuel m size (l.headD 0)).res = none ↔
      freeCount lim m < clusterCount bpc size - l.length := by
  have hl : ChainOk k lim m l := h.chains l List.mem_cons_self
  obtain ⟨hp1, _, hwk⟩ := prev_walk (fuel := fuel) hlim hmax hl hf
  rw [alloc_eq hp1 hwk, if_neg (by omega), if_pos hcount]
  constructor
  · intro hres
    split at hres
    · rename_i hlen; exact hp.complete m _ hlen
    · cases hres
  · intro hlt
    have := pick_le_free hp m (clusterCount bpc size - l.length)
    rw [if_pos (by omega)]

end Diskfs.Fat
