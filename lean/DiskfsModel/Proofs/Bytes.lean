/-
  Facts about the byte and device primitives of Core/Bytes.lean that every family of proofs needs:
  `UInt8.ofNat`/`leDec`, `zeros`, `slice`, `readAt`, `applyWr`/`applyWrs`, `put`.  The list facts
  behind them are in Proofs/Lists.lean.  Core Lean only.
-/
import DiskfsModel.Core.Bytes
import DiskfsModel.Proofs.Lists
namespace Diskfs

theorem ofNat_toNat_of_lt (n : Nat) (h : n < 256) : (UInt8.ofNat n).toNat = n := by
  simp [UInt8.toNat_ofNat', Nat.mod_eq_of_lt h]

theorem leDec_zeros (n : Nat) : leDec (zeros n) = 0 := by
  induction n with
  | zero => rfl
  | succ n ih => simp_all [zeros, List.replicate_succ, leDec]

theorem zeros_append (a c : Nat) : zeros a ++ zeros c = zeros (a + c) := by
  simp [zeros, List.replicate_append_replicate]

theorem zeros_getD (n j : Nat) : (zeros n).getD j 0 = 0 := by
  simp only [zeros, List.getD_eq_getElem?_getD, List.getElem?_replicate]
  split <;> rfl

theorem slice_all (a : Bytes) (hi : Nat) (h : a.length = hi) : slice a 0 hi = a := by
  simp [slice, ← h]

theorem slice_append_left (a b : Bytes) (lo hi : Nat) (h : hi ≤ a.length) :
    slice (a ++ b) lo hi = slice a lo hi := by
  simp only [slice, List.drop_append, List.take_append]
  rw [show hi - lo - (a.drop lo).length = 0 by simp; omega]
  simp

theorem slice_append_right (a b : Bytes) (lo hi : Nat) (h : a.length ≤ lo) :
    slice (a ++ b) lo hi = slice b (lo - a.length) (hi - a.length) := by
  rw [slice, drop_append_right a b lo h, show hi - lo = hi - a.length - (lo - a.length) by omega, slice]

theorem slice_append_hit (a b : Bytes) (hi : Nat) (h : a.length = hi) : slice (a ++ b) 0 hi = a := by
  rw [slice_append_left a b 0 hi (by omega), slice_all a hi h]

/-- the middle piece of a three-part record, with the bounds as the caller has them -/
theorem slice_mid (pre x post : Bytes) (lo hi : Nat) (hlo : lo = pre.length)
    (hhi : hi = pre.length + x.length) : slice (pre ++ (x ++ post)) lo hi = x := by
  subst hlo hhi
  rw [slice_append_right _ _ _ _ (Nat.le_refl _), Nat.sub_self, Nat.add_sub_cancel_left,
    slice_append_hit x post _ rfl]

theorem slice_shift (pre l : Bytes) (a b : Nat) :
    slice (pre ++ l) (pre.length + a) (pre.length + b) = slice l a b := by
  rw [slice_append_right _ _ _ _ (by omega), Nat.add_sub_cancel_left, Nat.add_sub_cancel_left]

theorem slice_getElem? (b : Bytes) (lo hi k : Nat) :
    (slice b lo hi)[k]? = if k < hi - lo then b[lo + k]? else none := by
  unfold slice
  rw [List.getElem?_take]
  split
  · rw [List.getElem?_drop]
  · rfl

theorem slice_congr (b b' : Bytes) (lo hi : Nat) (h : ∀ i, lo ≤ i → i < hi → b'[i]? = b[i]?) :
    slice b' lo hi = slice b lo hi := by
  apply List.ext_getElem?
  intro k
  rw [slice_getElem?, slice_getElem?]
  split
  · exact h _ (by omega) (by omega)
  · rfl

theorem readAt_zero (d : Dev) (off : Nat) : readAt d off 0 = [] := rfl

theorem readAt_getD (d : Dev) (off len k : Nat) (hk : k < len) :
    (readAt d off len).getD k 0 = d (off + k) := by
  simp [readAt, List.getD_eq_getElem?_getD, hk]

theorem readAt_append (d : Dev) (off a b : Nat) :
    readAt d off (a + b) = readAt d off a ++ readAt d (off + a) b := by
  simp only [readAt, List.range_add, List.map_append, List.map_map]
  congr 1
  apply List.map_congr_left
  intro i _
  simp [Nat.add_assoc]

theorem readAt_take (d : Dev) (off n k : Nat) : (readAt d off n).take k = readAt d off (min k n) := by
  simp [readAt, ← List.map_take, List.take_range]

theorem readAt_take_of_le (d : Dev) (off n k : Nat) (h : k ≤ n) :
    (readAt d off n).take k = readAt d off k := by
  rw [readAt_take, Nat.min_eq_left h]

theorem readAt_drop (d : Dev) (off n k : Nat) : (readAt d off n).drop k = readAt d (off + k) (n - k) := by
  rcases Nat.lt_or_ge n k with h | h
  · rw [List.drop_of_length_le (by simp; omega), show n - k = 0 by omega]; rfl
  · have e := readAt_append d off k (n - k)
    rw [Nat.add_sub_cancel' h] at e
    rw [e, List.drop_left' (by simp)]

theorem readAt_drop_take (d : Dev) (off n a k : Nat) (h : a + k ≤ n) :
    ((readAt d off n).drop a).take k = readAt d (off + a) k := by
  rw [readAt_drop, readAt_take_of_le _ _ _ _ (by omega)]

theorem slice_readAt (d : Dev) (off n lo hi : Nat) (h1 : lo ≤ hi) (h2 : hi ≤ n) :
    slice (readAt d off n) lo hi = readAt d (off + lo) (hi - lo) :=
  readAt_drop_take d off n lo (hi - lo) (by omega)

/-- reads of two byte oracles that agree position by position -/
theorem readAt_ext {d1 d2 : Dev} {a b n : Nat} (h : ∀ j, j < n → d1 (a + j) = d2 (b + j)) : readAt d1 a n = readAt d2 b n :=
  List.map_congr_left fun j hj => h j (List.mem_range.1 hj)

theorem readAt_congr (d1 d2 : Dev) (off n : Nat) (h : ∀ i, off ≤ i → i < off + n → d1 i = d2 i) :
    readAt d1 off n = readAt d2 off n :=
  readAt_ext fun j hj => h _ (by omega) (by omega)

theorem readAt_zeros {d : Dev} {a n : Nat} (h : ∀ j, j < n → d (a + j) = 0) : readAt d a n = zeros n := by
  rw [readAt_ext (d2 := fun _ => 0) (b := 0) h, readAt, List.map_const', List.length_range]
  rfl

theorem readAt_list (b : Bytes) (off n : Nat) (h : off + n ≤ b.length) :
    readAt (fun j => b.getD j 0) off n = (b.drop off).take n := by
  apply List.ext_getElem
  · simp; omega
  · intro i h1 _
    simp only [readAt_length] at h1
    simp [readAt, List.getD_eq_getElem?_getD, List.getElem?_eq_getElem (show off + i < b.length by omega)]

theorem applyWr_nil (d : Dev) (off : Nat) : applyWr d ⟨off, []⟩ = d := by
  funext i
  exact applyWr_frame d _ i (by simp; omega)

theorem applyWr_readback (d : Dev) (w : Wr) (h : readAt d w.off w.data.length = w.data) :
    applyWr d w = d := by
  funext i
  by_cases hi : w.off ≤ i ∧ i < w.off + w.data.length
  · rw [applyWr_hit d w i hi.1 hi.2]
    have := readAt_getD d w.off w.data.length (i - w.off) (by omega)
    rw [h, Nat.add_sub_cancel' hi.1] at this
    exact this
  · exact applyWr_frame d w i (by omega)

theorem applyWrs_nil (d : Dev) : applyWrs d [] = d := rfl

theorem applyWrs_cons (d : Dev) (w : Wr) (ws : List Wr) :
    applyWrs d (w :: ws) = applyWrs (applyWr d w) ws := rfl

theorem applyWrs_append (d : Dev) (a b : List Wr) :
    applyWrs d (a ++ b) = applyWrs (applyWrs d a) b := by
  simp [applyWrs]

theorem applyWrs_snoc (d : Dev) (ws : List Wr) (w : Wr) :
    applyWrs d (ws ++ [w]) = applyWr (applyWrs d ws) w := by
  simp [applyWrs]

theorem applyWrs_nth (d : Dev) (ws : List Wr) (k : Nat) (w : Wr) (hk : ws[k]? = some w) (i : Nat)
    (h1 : w.off ≤ i) (h2 : i < w.off + w.data.length)
    (hpost : ∀ v ∈ ws.drop (k + 1), i < v.off ∨ v.off + v.data.length ≤ i) :
    applyWrs d ws i = w.data.getD (i - w.off) 0 := by
  obtain ⟨hlt, rfl⟩ := List.getElem?_eq_some_iff.1 hk
  have : applyWrs d ws = applyWrs (applyWr (applyWrs d (ws.take k)) ws[k]) (ws.drop (k + 1)) := by
    rw [← applyWrs_cons, ← applyWrs_append, List.getElem_cons_drop, List.take_append_drop]
  rw [this, applyWrs_frame _ _ i hpost]
  exact applyWr_hit _ _ _ h1 h2

theorem applyWrs_frame_range (d : Dev) (ws : List Wr) (lo hi : Nat)
    (h : ∀ w ∈ ws, lo ≤ w.off ∧ w.off + w.data.length ≤ hi) (i : Nat) (hi' : i < lo ∨ hi ≤ i) :
    applyWrs d ws i = d i := by
  apply applyWrs_frame
  intro w hw
  have := h w hw
  omega

theorem applyWrs_noop (d : Dev) (ws : List Wr) (h : ∀ w ∈ ws, readAt d w.off w.data.length = w.data) :
    applyWrs d ws = d := by
  induction ws with
  | nil => rfl
  | cons w ws ih =>
    rw [applyWrs_cons, applyWr_readback d w (h w List.mem_cons_self)]
    exact ih fun w' hw' => h w' (List.mem_cons_of_mem _ hw')

theorem readAt_applyWrs_disjoint (d : Dev) (ws : List Wr) (off len : Nat)
    (h : ∀ w ∈ ws, off + len ≤ w.off ∨ w.off + w.data.length ≤ off) :
    readAt (applyWrs d ws) off len = readAt d off len := by
  apply readAt_congr
  intro i h1 h2
  apply applyWrs_frame
  intro w hw
  have := h w hw
  omega

/-- two writes touch disjoint byte ranges -/
def Wr.Disj (a b : Wr) : Prop := a.off + a.data.length ≤ b.off ∨ b.off + b.data.length ≤ a.off

/-- pairwise disjoint writes all read back as written, whatever their order and the device before -/
theorem readAt_applyWrs_mem (d : Dev) (ws : List Wr) (hp : ws.Pairwise Wr.Disj) (w : Wr) (hw : w ∈ ws) :
    readAt (applyWrs d ws) w.off w.data.length = w.data := by
  induction ws generalizing d with
  | nil => cases hw
  | cons x xs ih =>
    rw [applyWrs_cons]
    rw [List.pairwise_cons] at hp
    rcases List.mem_cons.1 hw with h | h
    · subst h
      rw [readAt_applyWrs_disjoint _ xs _ _ (fun y hy => hp.1 y hy)]
      exact readAt_applyWr_same d w
    · exact ih _ hp.2 h

theorem put_eq (b : Bytes) (off : Nat) (q : Bytes) (h : off + q.length ≤ b.length) :
    put b off q = b.take off ++ q ++ b.drop (off + q.length) := by
  rw [put, List.take_of_length_le (l := q) (by omega)]

theorem put_nil (b : Bytes) (off : Nat) : put b off [] = b := by
  simp [put]

theorem put_append_left (A B q : Bytes) (off : Nat) (h : off + q.length ≤ A.length) :
    put (A ++ B) off q = put A off q ++ B := by
  rw [put_eq _ _ _ (by rw [List.length_append]; omega), put_eq _ _ _ h,
    List.take_append_of_le_length (by omega), List.drop_append_of_le_length h]
  simp only [List.append_assoc]

/-- two pieces written one behind the other are one write; `p` may run past the end of `b` -/
theorem put_put (b q p : Bytes) (off : Nat) (h : off + q.length ≤ b.length) :
    put (put b off q) (off + q.length) p = put b off (q ++ p) := by
  have hl : (b.take off ++ q).length = off + q.length := by
    rw [List.length_append, List.length_take]; omega
  rw [put_eq b off q h, put, put, List.take_left' hl, List.drop_append, List.length_append, hl, List.length_drop,
    List.length_append, List.drop_of_length_le (l := b.take off ++ q) (by omega), List.drop_drop,
    List.take_append (l₁ := q),
    show off + q.length + (b.length - (off + q.length)) - (off + q.length) = b.length - off - q.length by omega,
    List.take_of_length_le (l := q) (by omega),
    show off + q.length + (off + q.length + p.length - (off + q.length)) = off + (q.length + p.length) by omega]
  simp only [List.append_assoc, List.nil_append]

theorem put_append_ge (A B q : Bytes) (off : Nat) (h : A.length ≤ off) :
    put (A ++ B) off q = A ++ put B (off - A.length) q := by
  unfold put
  rw [List.take_append, List.drop_append, List.take_of_length_le h,
    List.drop_of_length_le (show A.length ≤ off + q.length by omega), List.length_append]
  have e1 : A.length + B.length - off = B.length - (off - A.length) := by omega
  have e2 : off + q.length - A.length = off - A.length + q.length := by omega
  rw [e1, e2]
  simp only [List.append_assoc, List.nil_append]

theorem take_put (b q : Bytes) (off M : Nat) (h : off + q.length ≤ b.length) (hM : off + q.length ≤ M) :
    (put b off q).take M = b.take off ++ q ++ (b.drop (off + q.length)).take (M - (off + q.length)) := by
  have hl : (b.take off ++ q).length = off + q.length := by
    rw [List.length_append, List.length_take]; omega
  rw [put_eq _ _ _ h, List.take_append, List.take_of_length_le (by omega), hl]

theorem readAt_applyWr_put (d : Dev) (off n p : Nat) (q : Bytes) (h : p + q.length ≤ n) :
    readAt (applyWr d ⟨off + p, q⟩) off n = put (readAt d off n) p q := by
  obtain ⟨k, rfl⟩ : ∃ k, n = p + (q.length + k) := ⟨n - p - q.length, by omega⟩
  rw [put_eq _ _ _ (by rw [readAt_length]; omega), readAt_take_of_le _ _ _ _ (by omega), readAt_drop,
    show p + (q.length + k) - (p + q.length) = k by omega, readAt_append, readAt_append,
    readAt_applyWr_disjoint d ⟨off + p, q⟩ off p (.inl (Nat.le_refl _)),
    readAt_applyWr_disjoint d ⟨off + p, q⟩ (off + p + q.length) k (.inr (Nat.le_refl _)),
    readAt_applyWr_same d ⟨off + p, q⟩, List.append_assoc, Nat.add_assoc off]

/-- `put` truncates at the end of `b`: it changes the bytes from `off` on that both `d` and `b` have -/
theorem put_getElem? (b : Bytes) (off : Nat) (d : Bytes) (i : Nat) :
    (put b off d)[i]? = if off ≤ i ∧ i < off + d.length ∧ i < b.length then d[i - off]? else b[i]? := by
  unfold put
  by_cases hb : i < b.length
  · by_cases h1 : i < off
    · rw [if_neg (by omega), List.append_assoc, List.getElem?_append_left (by simp; omega), List.getElem?_take,
        if_pos h1]
    · have hl : (List.take off b).length = off := by simp; omega
      by_cases h2 : i < off + d.length
      · rw [if_pos ⟨by omega, h2, hb⟩, List.append_assoc, List.getElem?_append_right (by omega), hl,
          List.getElem?_append_left (by simp; omega), List.getElem?_take, if_pos (by omega)]
      · have hl2 : (List.take off b ++ List.take (b.length - off) d).length = off + d.length := by
          simp; omega
        rw [if_neg (by omega), List.getElem?_append_right (by omega), hl2, List.getElem?_drop]
        congr 1; omega
  · rw [if_neg (by omega), List.getElem?_eq_none (by simp; omega), List.getElem?_eq_none (by omega)]

theorem slice_put_same (b : Bytes) (off : Nat) (d : Bytes) (h : off + d.length ≤ b.length) :
    slice (put b off d) off (off + d.length) = d := by
  rw [put_eq b off d h, List.append_assoc]
  exact slice_mid _ _ _ _ _ (by rw [List.length_take]; omega) (by rw [List.length_take]; omega)

theorem slice_put_other (b : Bytes) (off : Nat) (d : Bytes) (lo hi : Nat) (h : hi ≤ off ∨ off + d.length ≤ lo) :
    slice (put b off d) lo hi = slice b lo hi :=
  slice_congr _ _ _ _ fun i h1 h2 => by rw [put_getElem?, if_neg (by omega)]

end Diskfs
