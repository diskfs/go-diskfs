/-
  Proofs about file I/O through a FAT cluster chain (model: DiskfsModel/Model/Fat/FileIO.lean).
  Read side : `readH` with `clamp = true` is the io.Reader contract over `fileContent`; a concrete
              counterexample shows the as-found code returning bytes past EOF.
  Write side: the write loops are traversed once each, giving a run of writes through the chain
              (`Through`); where the writes land, what they carry and that they are a byte-string
              overwrite (`put`) of `chainBytes` are read off the run.  `writeH` with `zeroHole = true`
              is `Spec.splice`; a concrete counterexample shows stale bytes in the hole when
              `zeroHole = false`.
  Core Lean only.
-/
import DiskfsModel.Model.Fat.FileIO
import DiskfsModel.Spec.Tree
import DiskfsModel.Proofs.Bytes
namespace Diskfs.Fat

theorem chainBytes_nil (d : Dev) (g : IOGeom) : chainBytes d g [] = [] := rfl

theorem chainBytes_cons (d : Dev) (g : IOGeom) (c : Nat) (cs : List Nat) :
    chainBytes d g (c :: cs) = readAt d (clusterOff g c) g.bpc ++ chainBytes d g cs := by
  simp [chainBytes]

theorem chainBytes_append (d : Dev) (g : IOGeom) (a b : List Nat) :
    chainBytes d g (a ++ b) = chainBytes d g a ++ chainBytes d g b := List.flatMap_append

theorem chainBytes_length (d : Dev) (g : IOGeom) (chain : List Nat) :
    (chainBytes d g chain).length = chain.length * g.bpc := by
  rw [chainBytes, List.flatMap_def, map_flatten_length _ g.bpc (fun c => readAt_length ..), Nat.mul_comm]

theorem chainBytes_drop (d : Dev) (g : IOGeom) (chain : List Nat) (i : Nat) :
    chainBytes d g (chain.drop i) = (chainBytes d g chain).drop (i * g.bpc) := by
  induction chain generalizing i with
  | nil => simp [chainBytes_nil]
  | cons c cs ih =>
    cases i with
    | zero => simp
    | succ i =>
      rw [List.drop_succ_cons, ih, chainBytes_cons, Nat.succ_mul, Nat.add_comm, ← List.drop_drop,
        List.drop_left' (readAt_length ..)]

theorem chainBytes_drop_off (d : Dev) (g : IOGeom) (chain : List Nat) (off : Nat) (hb : 0 < g.bpc)
    (hci : off / g.bpc < chain.length) :
    (chainBytes d g chain).drop off =
      readAt d (clusterOff g (chain.getD (off / g.bpc) 0) + off % g.bpc) (g.bpc - off % g.bpc)
        ++ chainBytes d g (chain.drop (off / g.bpc + 1)) := by
  have hlt := Nat.mod_lt off hb
  have hoff : off / g.bpc * g.bpc + off % g.bpc = off := by rw [Nat.mul_comm]; exact Nat.div_add_mod ..
  rw [← hoff, ← List.drop_drop, ← chainBytes_drop, hoff, List.drop_eq_getElem_cons hci, chainBytes_cons,
    List.drop_append, readAt_drop, readAt_length, show off % g.bpc - g.bpc = 0 by omega, List.drop_zero,
    getD_eq_of_lt _ _ _ hci]

theorem chainBytes_congr (d1 d2 : Dev) (g : IOGeom) (chain : List Nat)
    (h : ∀ c ∈ chain, ∀ i, clusterOff g c ≤ i → i < clusterOff g c + g.bpc → d1 i = d2 i) :
    chainBytes d1 g chain = chainBytes d2 g chain := by
  induction chain with
  | nil => rfl
  | cons c cs ih =>
    rw [chainBytes_cons, chainBytes_cons]
    congr 1
    · exact readAt_congr _ _ _ _ (h c (List.mem_cons_self ..))
    · exact ih (fun c' hc' => h c' (List.mem_cons_of_mem _ hc'))

theorem readLoop_spec (d : Dev) (g : IOGeom) (maxRead : Nat) (cs : List Nat) (total : Nat) (acc : Bytes)
    (ht : total ≤ maxRead) :
    readLoop d g maxRead cs total acc = some (acc ++ (chainBytes d g cs).take (maxRead - total)) := by
  induction cs generalizing total acc with
  | nil => simp [readLoop, chainBytes_nil]
  | cons c cs ih =>
    unfold readLoop
    rw [if_neg (by omega)]
    simp only
    rw [chainBytes_cons, List.take_append, readAt_take, readAt_length, Nat.min_comm g.bpc]
    split
    · rw [show maxRead - total - g.bpc = 0 by omega, List.take_zero, List.append_nil]
    · rw [ih _ _ (by omega), List.append_assoc,
        show maxRead - (total + min (maxRead - total) g.bpc) = maxRead - total - g.bpc by omega]

theorem readH_eof (clamp : Bool) (d : Dev) (g : IOGeom) (chain : List Nat) (fileSize off n : Nat)
    (h : fileSize ≤ off) : readH clamp d g chain fileSize off n = some ([], off, true) := by
  simp [readH, h]

theorem readH_chainBytes (d : Dev) (g : IOGeom) (chain : List Nat) (fileSize off n : Nat)
    (hb : 0 < g.bpc) (hsz : fileSize ≤ chain.length * g.bpc) (ho : off < fileSize) :
    readH true d g chain fileSize off n =
      (some (((chainBytes d g chain).drop off).take (min (fileSize - off) n))).map fun data =>
        (data, off + data.length, decide (off + data.length ≥ fileSize)) := by
  have hci : off / g.bpc < chain.length := (Nat.div_lt_iff_lt_mul hb).2 (by omega)
  have hdm := Nat.div_add_mod off g.bpc
  unfold readH
  rw [if_neg (by omega)]
  simp only
  by_cases h0 : off = 0
  · rw [if_pos h0, readLoop_spec _ _ _ _ _ _ (Nat.zero_le _), h0, List.nil_append, List.drop_zero, Nat.sub_zero]
  rw [if_neg h0, if_neg (by omega)]
  by_cases hr : off % g.bpc = 0
  · rw [if_pos hr, readLoop_spec _ _ _ _ _ _ (Nat.zero_le _), chainBytes_drop, List.nil_append, Nat.sub_zero,
      show off / g.bpc * g.bpc = off by rw [Nat.mul_comm]; omega]
  · have hlt := Nat.mod_lt off hb
    rw [if_neg hr, if_pos trivial, readLoop_spec _ _ _ _ _ _ (by omega), chainBytes_drop_off d g chain off hb hci,
      List.take_append, readAt_take, readAt_length,
      show min (min (g.bpc - off % g.bpc) n) (min (fileSize - off) n)
        = min (min (fileSize - off) n) (g.bpc - off % g.bpc) by omega,
      show ∀ x a : Nat, x - min x a = x - a by omega]

/-- the io.Reader contract of the repaired read -/
theorem readH_spec (d : Dev) (g : IOGeom) (chain : List Nat) (fileSize off n : Nat)
    (hb : 0 < g.bpc) (hsz : fileSize ≤ chain.length * g.bpc) (ho : off < fileSize) :
    readH true d g chain fileSize off n =
      some (((fileContent d g chain fileSize).drop off).take n,
            off + min n (fileSize - off),
            decide (off + min n (fileSize - off) ≥ fileSize)) := by
  have hdata : ((fileContent d g chain fileSize).drop off).take n
      = ((chainBytes d g chain).drop off).take (min (fileSize - off) n) := by
    rw [fileContent, List.drop_take, List.take_take, Nat.min_comm]
  have hlen : (((chainBytes d g chain).drop off).take (min (fileSize - off) n)).length
      = min n (fileSize - off) := by
    rw [List.length_take, List.length_drop, chainBytes_length]; omega
  rw [readH_chainBytes d g chain fileSize off n hb hsz ho, Option.map_some, hlen, hdata]

/-- non-vacuity of `readH_spec`: two clusters of 4 bytes, a 7-byte file, read 3 bytes at offset 2 -/
example : readH true (fun i => UInt8.ofNat i) ⟨0, 0, 4⟩ [3, 2] 7 2 3
    = some ([UInt8.ofNat 6, UInt8.ofNat 7, UInt8.ofNat 0], 5, false) := by
  rw [readH_spec _ _ _ _ _ _ (by decide) (by decide) (by decide)]
  decide

/-- the as-found read (no clamp) hands out a byte past EOF: a 7-byte file in one 8-byte cluster,
    read of 8 bytes at offset 6 returns 2 bytes (and moves the offset to 8) where the file has 1 left -/
theorem cex_read_clamp :
    readH false (fun i => UInt8.ofNat i) ⟨0, 0, 8⟩ [2] 7 6 8 = some ([UInt8.ofNat 6, UInt8.ofNat 7], 8, true)
    ∧ readH true (fun i => UInt8.ofNat i) ⟨0, 0, 8⟩ [2] 7 6 8 = some ([UInt8.ofNat 6], 7, true)
    ∧ ((fileContent (fun i => UInt8.ofNat i) ⟨0, 0, 8⟩ [2] 7).drop 6).take 8 = [UInt8.ofNat 6]
    ∧ readClampTrigger ⟨0, 0, 8⟩ 7 6 8 = true := by
  decide

theorem clusterOff_lt (g : IOGeom) (c c' : Nat) (h2 : 2 ≤ c) (h : c < c') :
    clusterOff g c + g.bpc ≤ clusterOff g c' := by
  unfold clusterOff
  have h1 : (c - 2 + 1) * g.bpc ≤ (c' - 2) * g.bpc := Nat.mul_le_mul_right _ (by omega)
  rw [Nat.add_mul] at h1
  omega

theorem cluster_disjoint (g : IOGeom) (c c' : Nat) (h2 : 2 ≤ c) (h2' : 2 ≤ c') (hne : c ≠ c') :
    clusterOff g c + g.bpc ≤ clusterOff g c' ∨ clusterOff g c' + g.bpc ≤ clusterOff g c := by
  rcases Nat.lt_or_gt_of_ne hne with h | h
  · left; exact clusterOff_lt g c c' h2 h
  · right; exact clusterOff_lt g c' c h2' h

/-- the write lies inside cluster `c` -/
def InCluster (g : IOGeom) (c : Nat) (w : Wr) : Prop :=
  clusterOff g c ≤ w.off ∧ w.off + w.data.length ≤ clusterOff g c + g.bpc

theorem writes_frame (d : Dev) (g : IOGeom) (chain : List Nat) (ws : List Wr) (i : Nat)
    (hws : ∀ w ∈ ws, ∃ c ∈ chain, InCluster g c w)
    (hi : ∀ c ∈ chain, i < clusterOff g c ∨ clusterOff g c + g.bpc ≤ i) :
    applyWrs d ws i = d i := by
  apply applyWrs_frame
  intro w hw
  obtain ⟨c, hc, h1, h2⟩ := hws w hw
  have := hi c hc
  omega

theorem chainBytes_other (d : Dev) (g : IOGeom) (chain chain' : List Nat) (ws : List Wr)
    (hws : ∀ w ∈ ws, ∃ c ∈ chain, InCluster g c w)
    (h2 : ∀ c ∈ chain, 2 ≤ c) (h2' : ∀ c ∈ chain', 2 ≤ c) (hdis : ∀ c ∈ chain', c ∉ chain) :
    chainBytes (applyWrs d ws) g chain' = chainBytes d g chain' := by
  apply chainBytes_congr
  intro c' hc' i hi1 hi2
  apply writes_frame d g chain ws i hws
  intro c hc
  have hne : c' ≠ c := fun e => hdis c' hc' (e ▸ hc)
  have := cluster_disjoint g c' c (h2' c' hc') (h2 c hc) hne
  omega

theorem writeLoop_acc (g : IOGeom) (p : Bytes) (cs : List Nat) (total : Nat) (ws : List Wr) :
    writeLoop g p cs total ws = ws ++ writeLoop g p cs total [] := by
  induction cs generalizing total ws with
  | nil => simp [writeLoop]
  | cons c cs ih =>
    simp only [writeLoop]
    rw [ih _ (ws ++ _), ih _ ([] ++ _)]
    simp

theorem chainBytes_write_other (d : Dev) (g : IOGeom) (c : Nat) (cs : List Nat) (r : Nat) (q : Bytes)
    (hnd : (c :: cs).Nodup) (h2 : ∀ c' ∈ c :: cs, 2 ≤ c') (hr : r + q.length ≤ g.bpc) :
    chainBytes (applyWr d ⟨clusterOff g c + r, q⟩) g cs = chainBytes d g cs :=
  chainBytes_other d g [c] cs [⟨clusterOff g c + r, q⟩]
    (fun w hw => ⟨c, List.mem_singleton.2 rfl, by
      rw [List.mem_singleton.1 hw]; exact ⟨Nat.le_add_right _ _, by simp only; omega⟩⟩)
    (by simpa using h2 c List.mem_cons_self) (fun c' hc' => h2 c' (List.mem_cons_of_mem _ hc'))
    (fun c' hc' hcc => (List.nodup_cons.1 hnd).1 (List.mem_singleton.1 hcc ▸ hc'))

/-- `ws` carries `p` through the chain `cs` from byte `r` of its first cluster on: each write lies inside one
    cluster and starts where the one before it ended.  Once `p` is used up, empty writes may go to the start of
    any later cluster (the loop of `File.Write` visits them all); what is left of `p` at the end of the chain
    is not written. -/
inductive Through (g : IOGeom) : List Nat → Nat → Bytes → List Wr → Prop
  | done {cs r} : Through g cs r [] []
  | out {r p} : Through g [] r p []
  | write {c cs r q p ws} : r + q.length ≤ g.bpc → Through g (c :: cs) (r + q.length) p ws →
      Through g (c :: cs) r (q ++ p) (⟨clusterOff g c + r, q⟩ :: ws)
  | next {c cs r p ws} : r = g.bpc ∨ p = [] → Through g cs 0 p ws → Through g (c :: cs) r p ws

theorem Through.inCluster {g cs r p ws} (h : Through g cs r p ws) : ∀ w ∈ ws, ∃ c ∈ cs, InCluster g c w := by
  induction h with
  | done => nofun
  | out => nofun
  | @write c cs r q p ws hr _ ih =>
    intro w hw
    rcases List.mem_cons.1 hw with rfl | hw
    · exact ⟨c, List.mem_cons_self, Nat.le_add_right _ _, by simp only; omega⟩
    · exact ih w hw
  | next _ _ ih =>
    intro w hw
    obtain ⟨c', hc', hin⟩ := ih w hw
    exact ⟨c', List.mem_cons_of_mem _ hc', hin⟩

theorem Through.data {g cs r p ws} (h : Through g cs r p ws) : ws.flatMap (·.data) <+: p := by
  induction h with
  | done => exact List.nil_prefix
  | out => exact List.nil_prefix
  | write _ _ ih => rw [List.flatMap_cons]; exact (List.prefix_append_right_inj _).2 ih
  | next _ _ ih => exact ih

theorem Through.effect {g cs r p ws} (h : Through g cs r p ws) (hnd : cs.Nodup) (h2 : ∀ c ∈ cs, 2 ≤ c) (d : Dev) :
    chainBytes (applyWrs d ws) g cs = put (chainBytes d g cs) r p := by
  induction h generalizing d with
  | done => rw [applyWrs_nil, put_nil]
  | out => simp [chainBytes_nil, put]
  | @write c cs r q p ws hr _ ih =>
    rw [applyWrs_cons, ih hnd h2, chainBytes_cons, chainBytes_write_other d g c cs r q hnd h2 hr,
      readAt_applyWr_put d _ _ r q hr, ← put_append_left _ _ _ _ (by rw [readAt_length]; exact hr),
      ← chainBytes_cons, put_put _ _ _ _ (by rw [chainBytes_length, List.length_cons, Nat.succ_mul]; omega)]
  | @next c cs r p ws hor hth ih =>
    have hc := List.nodup_cons.1 hnd
    have h2' : ∀ c' ∈ cs, 2 ≤ c' := fun c' hc' => h2 c' (List.mem_cons_of_mem _ hc')
    have hhead := chainBytes_other d g cs [c] ws hth.inCluster h2'
      (by simpa using h2 c List.mem_cons_self) (by simpa using hc.1)
    simp only [chainBytes, List.flatMap_cons, List.flatMap_nil, List.append_nil] at hhead
    rw [chainBytes_cons, chainBytes_cons, hhead, ih hc.2 h2']
    rcases hor with rfl | rfl
    · rw [put_append_ge _ _ _ _ (by rw [readAt_length]; exact Nat.le_refl _), readAt_length, Nat.sub_self]
    · rw [put_nil, put_nil]

/-- a piece of at most `k` bytes cut off `x` fills `k` bytes or leaves nothing -/
theorem take_full_or_drop_nil (x : Bytes) (k r : Nat) {n : Nat} (h : r + k = n) :
    r + (x.take (min k x.length)).length = n ∨ x.drop (min k x.length) = [] := by
  by_cases hlt : x.length < k
  · exact .inr (List.drop_of_length_le (by omega))
  · left; rw [List.length_take]; omega

theorem writeLoop_through (g : IOGeom) (p : Bytes) : ∀ (cs : List Nat) (total : Nat),
    Through g cs 0 (p.drop total) (writeLoop g p cs total [])
  | [], total => .out
  | c :: cs, total => by
    have := writeLoop_through g p cs (total + min g.bpc (p.length - total))
    rw [← List.drop_drop, ← List.length_drop] at this
    rw [writeLoop, List.nil_append, writeLoop_acc, ← List.length_drop]
    conv => arg 4; rw [← List.take_append_drop (min g.bpc (p.drop total).length) (p.drop total)]
    exact .write (by rw [List.length_take]; omega)
      (.next (take_full_or_drop_nil _ _ 0 (Nat.zero_add _)) this)

theorem writeCore_eq (g : IOGeom) (chain : List Nat) (off : Nat) (p : Bytes) :
    writeCore g chain off p =
      if off ≠ 0 ∧ chain.length ≤ off / g.bpc then none
      else if off % g.bpc = 0 then some (writeLoop g p (chain.drop (off / g.bpc)) 0 [])
      else some (⟨clusterOff g (chain.getD (off / g.bpc) 0) + off % g.bpc,
            p.take (min (g.bpc - off % g.bpc) p.length)⟩ ::
          writeLoop g p (chain.drop (off / g.bpc + 1)) (min (g.bpc - off % g.bpc) p.length) []) := by
  unfold writeCore
  by_cases h0 : off = 0
  · subst h0; simp
  · rw [if_neg h0]
    simp only []
    by_cases hci : off / g.bpc ≥ chain.length
    · rw [if_pos hci, if_pos ⟨h0, hci⟩]
    · rw [if_neg hci, if_neg (show ¬ (off ≠ 0 ∧ chain.length ≤ off / g.bpc) from fun h => hci h.2)]
      by_cases hr : off % g.bpc = 0
      · rw [if_pos hr, if_pos hr]
      · rw [if_neg hr, if_neg hr, writeLoop_acc]; rfl

theorem writeCore_none_iff (g : IOGeom) (chain : List Nat) (off : Nat) (p : Bytes) :
    writeCore g chain off p = none ↔ off ≠ 0 ∧ chain.length ≤ off / g.bpc := by
  rw [writeCore_eq]
  split
  · simp [*]
  · split <;> simp [*]

set_option linter.unusedVariables false in
/-- `File.Write` does not panic when the allocated chain covers the written range.
    (The side condition excludes only `off = chain.length * bpc ≠ 0` with `p = []`, where Go indexes
    `clusters[len(clusters)]`.) -/
theorem writeCore_some' (g : IOGeom) (chain : List Nat) (off : Nat) (p : Bytes)
    (hb : 0 < g.bpc) (hlen : off + p.length ≤ chain.length * g.bpc)
    (hoff : off < chain.length * g.bpc ∨ off = 0) :
    ∃ ws, writeCore g chain off p = some ws :=
  Option.ne_none_iff_exists'.1 fun hn =>
    have ⟨h0, hc⟩ := (writeCore_none_iff g chain off p).1 hn
    absurd ((Nat.div_lt_iff_lt_mul hb).2 (hoff.resolve_right h0)) (by omega)

theorem writeCore_through (g : IOGeom) (chain : List Nat) (off : Nat) (p : Bytes) (ws : List Wr)
    (hb : 0 < g.bpc) (h : writeCore g chain off p = some ws) :
    Through g (chain.drop (off / g.bpc)) (off % g.bpc) p ws := by
  rw [writeCore_eq] at h
  split at h
  · cases h
  rename_i hok
  split at h <;> cases h
  · rename_i hr
    rw [hr]
    exact writeLoop_through g p _ 0
  · rename_i hr
    have hlt : off / g.bpc < chain.length :=
      Nat.lt_of_not_le fun h => hok ⟨fun h0 => hr (by rw [h0, Nat.zero_mod]), h⟩
    have hm : off % g.bpc < g.bpc := Nat.mod_lt _ hb
    rw [List.drop_eq_getElem_cons hlt, getD_eq_of_lt _ _ _ hlt]
    conv => arg 4; rw [← List.take_append_drop (min (g.bpc - off % g.bpc) p.length) p]
    exact .write (by rw [List.length_take]; omega)
      (.next (take_full_or_drop_nil _ _ _ (by omega)) (writeLoop_through g p _ _))

theorem writeCore_in_cluster (g : IOGeom) (chain : List Nat) (off : Nat) (p : Bytes) (ws : List Wr)
    (hb : 0 < g.bpc) (h : writeCore g chain off p = some ws) :
    ∀ w ∈ ws, ∃ c ∈ chain, InCluster g c w := fun w hw =>
  have ⟨c, hc, hin⟩ := (writeCore_through g chain off p ws hb h).inCluster w hw
  ⟨c, List.mem_of_mem_drop hc, hin⟩

/-- a file whose chain shares no cluster with the written chain keeps its bytes -/
theorem other_chain_untouched (d : Dev) (g : IOGeom) (chain chain' : List Nat) (off : Nat) (p : Bytes)
    (ws : List Wr) (hb : 0 < g.bpc) (h : writeCore g chain off p = some ws)
    (h2' : ∀ c ∈ chain', 2 ≤ c) (hdis : ∀ c ∈ chain', c ∉ chain) (h2 : ∀ c ∈ chain, 2 ≤ c) :
    chainBytes (applyWrs d ws) g chain' = chainBytes d g chain' :=
  chainBytes_other d g chain chain' ws (writeCore_in_cluster g chain off p ws hb h) h2 h2' hdis

theorem writeCore_spec (d : Dev) (g : IOGeom) (chain : List Nat) (off : Nat) (p : Bytes) (ws : List Wr)
    (hb : 0 < g.bpc) (hnd : chain.Nodup) (h2 : ∀ c ∈ chain, 2 ≤ c)
    (hlen : off + p.length ≤ chain.length * g.bpc) (h : writeCore g chain off p = some ws) :
    chainBytes (applyWrs d ws) g chain = put (chainBytes d g chain) off p := by
  have hth := writeCore_through g chain off p ws hb h
  have hdm := Nat.div_add_mod off g.bpc
  have hk : off / g.bpc ≤ chain.length := Nat.div_le_of_le_mul (by rw [Nat.mul_comm]; omega)
  obtain ⟨pre, cs, rfl, hpre⟩ : ∃ pre cs, chain = pre ++ cs ∧ pre.length = off / g.bpc :=
    ⟨chain.take (off / g.bpc), chain.drop (off / g.bpc), (List.take_append_drop ..).symm,
      by rw [List.length_take]; omega⟩
  obtain ⟨_, hcnd, hdis⟩ := List.nodup_append.1 hnd
  have h2c : ∀ c ∈ cs, 2 ≤ c := fun c hc => h2 c (List.mem_append_right _ hc)
  rw [List.drop_left' hpre] at hth
  -- the clusters in front of the offset's cluster are not touched
  rw [chainBytes_append, chainBytes_append, hth.effect hcnd h2c,
    chainBytes_other d g cs pre ws hth.inCluster h2c
      (fun c hc => h2 c (List.mem_append_left _ hc)) (fun c hc hcs => hdis c hc c hcs rfl),
    put_append_ge _ _ _ _ (by rw [chainBytes_length, hpre, Nat.mul_comm]; omega), chainBytes_length, hpre,
    show off - off / g.bpc * g.bpc = off % g.bpc by rw [Nat.mul_comm]; omega]

/-- non-vacuity of `writeCore_spec`: three 4-byte clusters, 5 bytes written at offset 2 -/
example (d : Dev) : ∃ ws, writeCore ⟨0, 0, 4⟩ [4, 2, 3] 2 [1, 2, 3, 4, 5] = some ws
    ∧ chainBytes (applyWrs d ws) ⟨0, 0, 4⟩ [4, 2, 3] = put (chainBytes d ⟨0, 0, 4⟩ [4, 2, 3]) 2 [1, 2, 3, 4, 5] :=
  ⟨_, rfl, writeCore_spec d _ _ _ _ _ (by decide) (by decide) (by decide) (by decide) rfl⟩

/-- zero-filling `[oldSize, off)` (nothing when `off ≤ oldSize`) and then writing `p` at `off` is `Spec.splice`
    on the first `oldSize` bytes -/
theorem splice_put (cb p : Bytes) (oldSize off : Nat) (hold : oldSize ≤ cb.length)
    (hlen : off + p.length ≤ cb.length) :
    (put (put cb oldSize (zeros (off - oldSize))) off p).take (Nat.max oldSize (off + p.length))
      = Spec.splice (cb.take oldSize) off p := by
  have hl : (cb.take oldSize).length = oldSize := by rw [List.length_take]; omega
  have hz : oldSize + (zeros (off - oldSize)).length ≤ cb.length := by rw [zeros_length]; omega
  have hlz : (cb.take oldSize ++ zeros (off - oldSize)).length = max oldSize off := by
    rw [List.length_append, hl, zeros_length]; omega
  rw [show Nat.max oldSize (off + p.length) = max oldSize (off + p.length) from rfl,
    take_put _ _ _ _ (by rw [put_length _ _ _ hz]; exact hlen) (by omega), put_eq _ _ _ hz, Spec.splice, hl,
    List.take_append_of_le_length (by omega), List.drop_append, List.drop_drop]
  congr 1
  by_cases hc : oldSize ≤ off + p.length
  · rw [Nat.max_eq_right hc, Nat.sub_self, List.take_zero, List.drop_of_length_le (by omega)]
  · rw [show off - oldSize = 0 by omega, zeros, List.replicate_zero, List.append_nil,
      List.take_append_of_le_length (by rw [List.length_drop, hl]; omega),
      List.take_of_length_le (by rw [List.length_drop, hl]; omega)]

/-- the repaired `File.Write` on the chain's bytes: zeros over `[oldSize, off)` (none when `off ≤ oldSize`), then `p` -/
theorem writeH_chainBytes (d : Dev) (g : IOGeom) (chain : List Nat) (oldSize off : Nat) (p : Bytes) (ws : List Wr)
    (hb : 0 < g.bpc) (hnd : chain.Nodup) (h2 : ∀ c ∈ chain, 2 ≤ c)
    (hlen : off + p.length ≤ chain.length * g.bpc) (h : writeH true g chain oldSize off p = some ws) :
    chainBytes (applyWrs d ws) g chain
      = put (put (chainBytes d g chain) oldSize (zeros (off - oldSize))) off p := by
  unfold writeH at h
  split at h
  · rename_i hgt
    split at h <;> cases h
    rename_i a b ha hb'
    rw [applyWrs_append, writeCore_spec _ g chain off p b hb hnd h2 hlen hb',
      writeCore_spec d g chain oldSize _ a hb hnd h2 (by simp only [zeros_length]; omega) ha]
  · rename_i hle
    rw [writeCore_spec d g chain off p ws hb hnd h2 hlen h,
      show off - oldSize = 0 from Nat.sub_eq_zero_of_le (Nat.le_of_not_lt fun hh => hle ⟨rfl, hh⟩)]
    exact congrArg (put · off p) (put_nil _ _).symm

theorem writeH_spec_fixed (d : Dev) (g : IOGeom) (chain : List Nat) (oldSize off : Nat)
    (p : Bytes) (ws : List Wr)
    (hb : 0 < g.bpc) (hnd : chain.Nodup) (h2 : ∀ c ∈ chain, 2 ≤ c)
    (hold : oldSize ≤ chain.length * g.bpc) (hlen : off + p.length ≤ chain.length * g.bpc)
    (_hp : 0 < p.length) (h : writeH true g chain oldSize off p = some ws) :
    fileContent (applyWrs d ws) g chain (Nat.max oldSize (off + p.length))
      = Spec.splice (fileContent d g chain oldSize) off p := by
  rw [fileContent, fileContent, writeH_chainBytes d g chain oldSize off p ws hb hnd h2 hlen h]
  exact splice_put _ _ _ _ (by rw [chainBytes_length]; exact hold) (by rw [chainBytes_length]; exact hlen)

/-- as found (`zeroHole = false`) a write past EOF leaves the cluster's stale bytes in the gap:
    one 4-byte cluster full of 7s, a 1-byte file, `[9]` written at offset 3. The file then reads
    `7 7 7 9`; the specification (and the repaired write) give `7 0 0 9`. -/
theorem cex_hole_stale :
    writeH false ⟨0, 0, 4⟩ [2] 1 3 [9] = some [⟨3, [9]⟩]
    ∧ fileContent (applyWrs (fun _ => 7) [⟨3, [9]⟩]) ⟨0, 0, 4⟩ [2] (Nat.max 1 (3 + 1)) = [7, 7, 7, 9]
    ∧ Spec.splice (fileContent (fun _ => 7) ⟨0, 0, 4⟩ [2] 1) 3 [9] = [7, 0, 0, 9]
    ∧ (∃ ws, writeH true ⟨0, 0, 4⟩ [2] 1 3 [9] = some ws
        ∧ fileContent (applyWrs (fun _ => 7) ws) ⟨0, 0, 4⟩ [2] (Nat.max 1 (3 + 1)) = [7, 0, 0, 9]) := by
  refine ⟨by decide, by decide, by decide, _, rfl, by decide⟩

/-- the same counterexample as an inequation: the conclusion of `writeH_spec_fixed` fails for `zeroHole = false` -/
theorem cex_hole_stale_ne :
    ∃ ws, writeH false ⟨0, 0, 4⟩ [2] 1 3 [9] = some ws
      ∧ fileContent (applyWrs (fun _ => 7) ws) ⟨0, 0, 4⟩ [2] (Nat.max 1 (3 + ([9] : Bytes).length))
          ≠ Spec.splice (fileContent (fun _ => 7) ⟨0, 0, 4⟩ [2] 1) 3 [9] :=
  ⟨_, rfl, by decide⟩

end Diskfs.Fat
