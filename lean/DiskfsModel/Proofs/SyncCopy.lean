/-
  The fault-free CopyFileSystem (`copyDir`, Model/Sync.lean) against a destination that is a flat path → item
  store: what single calls do to the store, when it can take the entries of a directory (`Fresh`), that a store
  holding a tree's listing denotes what the tree denotes, the chunks a source reader delivers
  (`readChunks_spec`), and that the calls of a successful copy leave exactly the copy image (`applyOps_copyDir`).
-/
import DiskfsModel.Proofs.Sync
import DiskfsModel.Model.Sync
namespace Diskfs.Sync
open Forest

theorem get_eq_none_iff (s : Store) (p : Path) : s.get p = none ↔ ∀ e ∈ s, e.1 ≠ p := by
  induction s with
  | nil => simp [Store.get]
  | cons e r ih => by_cases h : e.1 = p <;> simp [Store.get, h, ih]

theorem get_some_mem (s : Store) (p : Path) (it : Item) (h : s.get p = some it) : (p, it) ∈ s := by
  induction s with
  | nil => cases h
  | cons e r ih =>
    simp only [Store.get] at h
    split at h
    · rename_i e; cases h; subst e; exact List.mem_cons_self ..
    · exact List.mem_cons_of_mem _ (ih h)

theorem get_append (s t : Store) (p : Path) : Store.get (s ++ t) p = (s.get p).or (Store.get t p) := by
  induction s with
  | nil => rfl
  | cons e r ih =>
    simp only [List.cons_append, Store.get]
    split
    · rfl
    · exact ih

theorem get_append_new (s : Store) (p : Path) (it : Item) (h : s.get p = none) :
    Store.get (s ++ [(p, it)]) p = some it := by
  rw [get_append, h]; simp [Store.get]

theorem set_append_last (s : Store) (p : Path) (x y : Item) (h : s.get p = none) :
    Store.set (s ++ [(p, x)]) p y = s ++ [(p, y)] := by
  have : s.map (fun e => if e.1 = p then (p, y) else e) = s := by
    conv => rhs; rw [← List.map_id s]
    exact List.map_congr_left fun e he => by simp [(get_eq_none_iff s p).1 h e he]
  simp [Store.set, List.map_append, this]

theorem get_set (s : Store) (p : Path) (y : Item) : (s.set p y).get p = (s.get p).map fun _ => y := by
  induction s with
  | nil => rfl
  | cons e r ih => by_cases h : e.1 = p <;> simp [Store.set, Store.get, h] <;> exact ih

theorem set_set (s : Store) (p : Path) (y z : Item) : (s.set p y).set p z = s.set p z := by
  simp only [Store.set, List.map_map]
  exact List.map_congr_left fun e _ => by by_cases h : e.1 = p <;> simp [h]

theorem applyOps_append (a b : List DstOp) (s : Store) :
    applyOps (a ++ b) s = (applyOps a s).bind (applyOps b) := by
  induction a generalizing s with
  | nil => rfl
  | cons op ops ih =>
    simp only [List.cons_append, applyOps]
    cases applyOp s op with
    | none => rfl
    | some s' => exact ih s'

theorem applyOp_create (s : Store) (pre : Path) (n : String) (hpar : s.item pre = some .dir)
    (hs : s.get (pre ++ [n]) = none) :
    applyOp s (.mkdir (pre ++ [n])) = some (s ++ [(pre ++ [n], .dir)]) ∧
    (∀ t, applyOp s (.symlink (pre ++ [n]) t) = some (s ++ [(pre ++ [n], .link t)])) ∧
    applyOp s (.openTrunc (pre ++ [n])) = some (s ++ [(pre ++ [n], .file [])]) := by
  simp [applyOp, Store.parentIsDir, hpar, hs]

theorem applyOp_write (s : Store) (p : Path) (hs : s.get p = none) (old d : Bytes) :
    applyOp (s ++ [(p, .file old)]) (.write p d) = some (s ++ [(p, .file (old ++ d))]) := by
  simp only [applyOp, get_append_new s p _ hs, set_append_last s p _ _ hs]

/-- two Writes through one handle are one Write of both slices, in any store -/
theorem applyOps_write_write (s : Store) (p : Path) (a b : Bytes) (ops : List DstOp) :
    applyOps (.write p a :: .write p b :: ops) s = applyOps (.write p (a ++ b) :: ops) s := by
  simp only [applyOps, applyOp]
  cases h : s.get p with
  | none => rfl
  | some it => cases it <;> simp [get_set, set_set, h]

/-- the store can take the entries of `f` under `pre`: `pre` is a directory in it and nothing in it lies at or
    below `pre/n` for any entry name `n` of `f` -/
def Fresh (s : Store) (pre : Path) (f : Forest) : Prop :=
  s.item pre = some .dir ∧ ∀ e ∈ s, ∀ n ∈ f.names, ¬ (pre ++ [n]) <+: e.1

theorem prefix_concat_inj (pre q : Path) (m n : String) (h : (pre ++ [m]) <+: (pre ++ n :: q)) : m = n := by
  rw [List.prefix_append_right_inj] at h
  obtain ⟨t, ht⟩ := h
  simp at ht
  exact ht.1

theorem fresh_get_none (s : Store) (pre : Path) (f : Forest) (n : String) (hf : Fresh s pre f)
    (hn : n ∈ f.names) : s.get (pre ++ [n]) = none := by
  rw [get_eq_none_iff]
  intro e he heq
  exact hf.2 e he n hn (heq ▸ List.prefix_refl _)

theorem fresh_rest (s : Store) (pre : Path) (n : String) (it : Item) (g r : Forest) (hn : n ∉ r.names)
    (h : Fresh s pre r) : Fresh (s ++ (pre ++ [n], it) :: g.flatAt (pre ++ [n])) pre r := by
  refine ⟨?_, fun e he m hm hp => ?_⟩
  · have := h.1
    unfold Store.item at this ⊢
    split
    · rfl
    · rename_i hp; rw [if_neg hp] at this; rw [get_append, this]; rfl
  have hbelow : ∀ q, e.1 = pre ++ n :: q → False :=
    fun q hq => hn (prefix_concat_inj pre q m n (hq ▸ hp) ▸ hm)
  rcases List.mem_append.1 he with he | he
  · exact h.2 e he m hm hp
  · rcases List.mem_cons.1 he with rfl | he
    · exact hbelow [] rfl
    · obtain ⟨q, hq⟩ := flatAt_below g _ e.1 e.2 he
      exact hbelow q (by rw [hq, List.append_assoc]; rfl)

theorem fresh_sub (s : Store) (pre : Path) (n : String) (f sub : Forest) (hn : n ∈ f.names)
    (h : Fresh s pre f) : Fresh (s ++ [(pre ++ [n], .dir)]) (pre ++ [n]) sub := by
  refine ⟨?_, fun e he m _ hp => ?_⟩
  · rw [Store.item, if_neg (by simp), get_append_new s _ _ (fresh_get_none s pre f n h hn)]
  rcases List.mem_append.1 he with he | he
  · exact h.2 e he n hn (List.IsPrefix.trans (List.prefix_append (pre ++ [n]) [m]) hp)
  · rw [List.mem_singleton.1 he] at hp
    have := List.IsPrefix.length_le hp
    simp at this

theorem item_flatAt (f : Forest) (hwf : f.wf = true) (p : Path) : Store.item (f.flatAt []) p = f.lookup p := by
  unfold Store.item
  split
  · rename_i h; subst h; rw [lookup_nil_path]
  · rename_i hp
    cases hl : f.lookup p with
    | none =>
      rw [get_eq_none_iff]
      intro e he heq
      obtain ⟨q, it⟩ := e
      simp only at heq; subst heq
      have := ((mem_flatAt_root f hwf q it).1 he).2
      rw [hl] at this; cases this
    | some it =>
      have hm := (mem_flatAt_root f hwf p it).2 ⟨hp, hl⟩
      cases hg : Store.get (f.flatAt []) p with
      | none => exact absurd rfl ((get_eq_none_iff _ _).1 hg _ hm)
      | some it' =>
        have := ((mem_flatAt_root f hwf p it').1 (get_some_mem _ _ _ hg)).2
        rw [hl] at this; exact this.symm

theorem readChunks_spec (r : ReaderBehaviour) (buf : Nat) (hb : 0 < buf) :
    ∀ (fuel : Nat) (data : Bytes) (call : Nat), data.length ≤ fuel →
      (readChunks r buf fuel data call).flatten = data ∧
        ∀ ch ∈ readChunks r buf fuel data call, ch ≠ [] ∧ ch.length ≤ buf
  | 0, data, _, h => by
    cases List.eq_nil_of_length_eq_zero (Nat.le_zero.1 h)
    exact ⟨rfl, nofun⟩
  | fuel + 1, [], _, _ => ⟨rfl, nofun⟩
  | fuel + 1, x :: xs, call, h => by
    have hc : 0 < r.count buf (x :: xs).length call ∧ r.count buf (x :: xs).length call ≤ buf := by
      unfold ReaderBehaviour.count; simp only [List.length_cons]; omega
    obtain ⟨h1, h2⟩ := readChunks_spec r buf hb fuel ((x :: xs).drop (r.count buf (x :: xs).length call)) (call + 1)
      (by simp only [List.length_drop, List.length_cons] at h hc ⊢; omega)
    simp only [readChunks, List.isEmpty_cons, Bool.false_eq_true, if_false, List.flatten_cons, h1, List.take_append_drop,
      List.mem_cons, forall_eq_or_imp, true_and]
    refine ⟨⟨fun e => ?_, by rw [List.length_take]; omega⟩, h2⟩
    have := congrArg List.length e
    simp only [List.length_take, List.length_nil, List.length_cons] at this hc
    omega

theorem readChunks_lengths (r : ReaderBehaviour) (buf : Nat) :
    ∀ (fuel : Nat) (data : Bytes) (call : Nat),
      (readChunks r buf fuel data call).map List.length = chunkLens r buf fuel data.length call := by
  intro fuel
  induction fuel with
  | zero => intro data call; rfl
  | succ fuel ih =>
    intro data call
    unfold readChunks chunkLens
    cases data with
    | nil => rfl
    | cons x xs =>
      have hle : r.count buf (x :: xs).length call ≤ (x :: xs).length := by
        unfold ReaderBehaviour.count; omega
      simp only [List.isEmpty_cons, Bool.false_eq_true, if_false, List.map_cons, List.length_take]
      rw [if_neg (by simp), ih, List.length_drop, Nat.min_eq_left hle]

theorem fileWrites_flatten (c : Cfg) (hc : 0 < c.chunk) (src : ReaderBehaviour) (d : Bytes) :
    (fileWrites c src d).flatten = d := by
  unfold fileWrites
  split
  · exact List.append_nil d
  · exact (readChunks_spec src c.chunk hc _ d 0 (Nat.le_succ _)).1

theorem applyOps_writes (s : Store) (p : Path) (hs : s.get p = none) (tail : List DstOp) :
    ∀ (chunks : List Bytes) (old : Bytes), applyOps (chunks.map (.write p) ++ tail) (s ++ [(p, .file old)]) =
      applyOps tail (s ++ [(p, .file (old ++ chunks.flatten))])
  | [], old => by simp
  | ch :: rest, old => by
    simp only [List.map_cons, List.cons_append, applyOps, applyOp_write s p hs, applyOps_writes s p hs tail rest,
      List.flatten_cons, List.append_assoc]

/-- copyOneFile: however the source reader chunked, the file ends up with the source's bytes -/
theorem applyOps_fileOps (c : Cfg) (hc : 0 < c.chunk) (src : ReaderBehaviour) (s : Store) (pre : Path) (n : String)
    (d : Bytes) (hpar : s.item pre = some .dir) (hs : s.get (pre ++ [n]) = none) :
    applyOps (fileOps c src (pre ++ [n]) d) s = some (s ++ [(pre ++ [n], .file d)]) := by
  rw [fileOps, applyOps, (applyOp_create s pre n hpar hs).2.2]
  simp only [applyOps_writes s _ hs, fileWrites_flatten c hc, applyOps, applyOp, List.nil_append]

/-- the fault-free calls for the entry `n ↦ it` and what is below it, and whether they succeed -/
def entryOps (c : Cfg) (src : ReaderBehaviour) (readlink : Bool) (pre : Path) (n : String) :
    Item → Forest → List DstOp × Bool
  | .file d, _ => (fileOps c src (pre ++ [n]) d, true)
  | .dir, s => (.mkdir (pre ++ [n]) :: (copyDir c src readlink (pre ++ [n]) s).1, (copyDir c src readlink (pre ++ [n]) s).2)
  | .link t, _ => if readlink then ([.symlink (pre ++ [n]) t], true) else ([], false)
  | .other, _ => ([], true)

theorem copyDir_entry (c : Cfg) (src : ReaderBehaviour) (readlink : Bool) (pre : Path) (n : String)
    (it : Item) (s r : Forest) :
    copyDir c src readlink pre (entry n it s r) =
      if c.excluded.contains n || it == .other then copyDir c src readlink pre r
      else
        let e := entryOps c src readlink pre n it s
        (e.1 ++ if e.2 then (copyDir c src readlink pre r).1 else [], e.2 && (copyDir c src readlink pre r).2) := by
  cases it with
  | link t => cases readlink <;> simp [entry, copyDir, entryOps]
  | dir => cases h : (copyDir c src readlink (pre ++ [n]) s).2 <;> simp [entry, copyDir, entryOps, h]
  | _ => simp [entry, copyDir, entryOps]

theorem copyDir_ok (c : Cfg) (src : ReaderBehaviour) (readlink : Bool) : ∀ (f : Forest) (pre : Path),
    (readlink = true ∨ (f.strip c.excluded false).noLinks = true) → (copyDir c src readlink pre f).2 = true := by
  intro f
  induction f using entry_induction with
  | nil => intro _ _; rfl
  | entry n it s r hs ihs ih =>
    intro pre hl
    rw [copyDir_entry]
    rw [strip_entry, Bool.not_false, Bool.true_and] at hl
    by_cases hx : (c.excluded.contains n || it == Item.other) = true
    · rw [if_pos hx] at hl ⊢
      exact ih pre hl
    · rw [if_neg hx] at hl ⊢
      have hl' := hl.imp id (noLinks_entry (strip_below hs)).1
      simp only [Bool.and_eq_true]
      refine ⟨?_, ih pre (hl'.imp id (·.2.2))⟩
      cases it with
      | dir => exact ihs _ (hl'.imp id (·.2.1))
      | link t =>
        rcases hl' with h | h
        · rw [h]; rfl
        · exact absurd rfl (h.1 t)
      | _ => rfl

theorem applyOps_copyDir (c : Cfg) (hc : 0 < c.chunk) (src : ReaderBehaviour) (readlink : Bool) :
    ∀ (f : Forest) (pre : Path) (s : Store), f.wf = true → Fresh s pre f →
      (copyDir c src readlink pre f).2 = true →
      applyOps (copyDir c src readlink pre f).1 s = some (s ++ (f.strip c.excluded false).flatAt pre) := by
  intro f
  induction f using entry_induction with
  | nil => intro pre s _ _ _; simp [copyDir, applyOps, strip, flatAt]
  | entry n it sub r hsub ihs ih =>
    intro pre s hwf hfresh hok
    have hpre := hfresh.1
    obtain ⟨hn, hws, hwr⟩ := (wf_entry hsub).1 hwf
    have hfr : Fresh s pre r :=
      ⟨hpre, fun e he m hm => hfresh.2 e he m (by rw [names_entry]; exact List.mem_cons_of_mem _ hm)⟩
    have hmem : n ∈ (entry n it sub r).names := by rw [names_entry]; exact List.mem_cons_self ..
    have hnone := fresh_get_none s pre _ n hfresh hmem
    rw [copyDir_entry] at hok ⊢
    rw [strip_entry, Bool.not_false, Bool.true_and]
    by_cases hx : (c.excluded.contains n || it == Item.other) = true
    · simp only [if_pos hx] at hok ⊢
      exact ih pre s hwr hfr hok
    · simp only [if_neg hx, Bool.and_eq_true] at hok ⊢
      -- the entry's own calls create `pre/n` and what is below it, then the siblings follow
      have own : applyOps (entryOps c src readlink pre n it sub).1 s =
          some (s ++ (pre ++ [n], it) :: (sub.strip c.excluded false).flatAt (pre ++ [n])) := by
        cases it with
        | file d => rw [hsub nofun]; exact applyOps_fileOps c hc src s pre n d hpre hnone
        | dir =>
          simp only [entryOps, applyOps, (applyOp_create s pre n hpre hnone).1]
          rw [ihs (pre ++ [n]) _ hws (fresh_sub s pre n _ sub hmem hfresh) hok.1]
          simp
        | link t =>
          rw [hsub nofun]
          cases readlink
          · exact absurd hok.1 (by simp [entryOps])
          · simp [entryOps, applyOps, (applyOp_create s pre n hpre hnone).2.1 t, strip, flatAt]
        | other => exact absurd (Bool.or_true _) hx
      rw [if_pos hok.1, applyOps_append, own, flatAt_entry (strip_below hsub)]
      simpa using ih pre _ hwr (fresh_rest s pre n it (sub.strip c.excluded false) r hn hfr) hok.2

end Diskfs.Sync
