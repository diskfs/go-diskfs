/-
  System use areas: the Joliet 16-bit codecs, the splitting loop on a concatenation of well-formed
  entries (`suspSplit_flatten`), `parseAll` entry by entry, NM entries and `GetFilename`, and what
  `fitPrefix` / `assemble` guarantee about the areas they fill and about the extension lists they refuse.
-/
import DiskfsModel.Model.Iso.Susp
import DiskfsModel.Proofs.IsoCodec
import DiskfsModel.Proofs.GptCodec
import DiskfsModel.Proofs.Bytes
namespace Diskfs.Iso

theorem be16Units_be16Bytes (us : List Nat) (h : ∀ u ∈ us, u < 65536) : be16Units (be16Bytes us) = us := by
  induction us with
  | nil => rfl
  | cons u us ih =>
    rw [List.forall_mem_cons] at h
    have h1 : (UInt8.ofNat (u / 256)).toNat = u / 256 := UInt8.toNat_ofNat_of_lt' (show u / 256 < 256 by omega)
    show ((UInt8.ofNat (u / 256)).toNat * 256 + (UInt8.ofNat u).toNat) :: be16Units (be16Bytes us) = _
    rw [ih h.2, h1, UInt8.toNat_ofNat']
    congr 1
    omega

theorem ucs2Dec_eq : ∀ b : Bytes, ucs2Dec b = (be16Units b).map ucs2Rune
  | [] => rfl
  | [_] => rfl
  | a :: b :: r => by rw [ucs2Dec, be16Units, List.map_cons, ucs2Dec_eq r]

theorem utf16Enc_lt (rs : List Nat) (h : ∀ r ∈ rs, Gpt.validRune r = true) : ∀ u ∈ Gpt.utf16Enc rs, u < 65536 := by
  intro u hu
  obtain ⟨r, hr, hu⟩ := List.mem_flatMap.1 hu
  rcases Gpt.utf16EncRune_valid r (h r hr) with ⟨_, h2, e⟩ | ⟨_, _, e⟩
  · rw [e, List.mem_singleton] at hu; omega
  · simp only [e, List.mem_cons, List.not_mem_nil, or_false] at hu; omega

/-- an entry carries its own length (4..255) in byte 2 -/
def EntOK (e : Bytes) : Prop := 4 ≤ e.length ∧ e.length < 256 ∧ (e.getD 2 0).toNat = e.length

/-- the splitting loop inverts the concatenation of well-formed entries; `ht`: a tail that ends the loop (fewer
    than 4 bytes, or a length byte below 4: padding) -/
theorem suspSplit_flatten (es : List Bytes) (tail : Bytes) (hes : ∀ e ∈ es, EntOK e)
    (ht : tail.length ≤ 3 ∨ (tail.getD 2 0).toNat < 4) :
    ∀ fuel, es.length ≤ fuel → suspSplit fuel (es.flatten ++ tail) = some es := by
  induction es with
  | nil =>
    intro fuel _
    cases fuel with
    | zero => rfl
    | succ f =>
      simp only [List.flatten_nil, List.nil_append, suspSplit]
      by_cases h3 : tail.length ≤ 3
      · rw [if_pos h3]
      · rw [if_neg h3, if_pos (ht.resolve_left h3)]
  | cons e es ih =>
    intro fuel hf
    cases fuel with
    | zero => simp at hf
    | succ f =>
      rw [List.forall_mem_cons] at hes
      obtain ⟨⟨h4, h256, hl⟩, hes⟩ := hes
      have hget : (e ++ (es.flatten ++ tail)).getD 2 0 = e.getD 2 0 := getD_append_left e _ 2 0 (by omega)
      have hlen : (e ++ (es.flatten ++ tail)).length = e.length + (es.flatten ++ tail).length := List.length_append
      rw [List.flatten_cons, List.append_assoc]
      simp only [suspSplit, hget, hl]
      rw [if_neg (by omega), if_neg (by omega), if_neg (by omega), List.drop_left, List.take_left,
        ih hes f (by simp at hf; omega)]
      rfl

theorem entOK_count (es : List Bytes) (hes : ∀ e ∈ es, EntOK e) : es.length ≤ es.flatten.length := by
  simpa using length_le_map_flatten id es fun e he => Nat.lt_of_lt_of_le (by decide) (hes e he).1

theorem parseArea_flatten (es : List Bytes) (hes : ∀ e ∈ es, EntOK e) : parseArea es.flatten = parseAll es := by
  have := suspSplit_flatten es [] hes (Or.inl (Nat.zero_le _)) es.flatten.length (entOK_count es hes)
  rw [List.append_nil] at this
  rw [parseArea, this]

theorem parseAll_append (a b : List Bytes) :
    parseAll (a ++ b) = (match parseAll a, parseAll b with
      | some x, some y => some (x ++ y)
      | _, _ => none) := by
  induction a with
  | nil => simp only [List.nil_append, parseAll]; cases parseAll b <;> rfl
  | cons x xs ih =>
    simp only [List.cons_append, parseAll, ih]
    cases parseEnt x <;> cases parseAll xs <;> cases parseAll b <;> rfl

theorem parseAll_each (es : List Bytes) (P : SEnt → Prop) (h : ∀ e ∈ es, ∃ p, parseEnt e = some p ∧ P p) :
    ∃ ps, parseAll es = some ps ∧ ∀ p ∈ ps, P p := by
  induction es with
  | nil => exact ⟨[], rfl, fun _ hp => nomatch hp⟩
  | cons x xs ih =>
    rw [List.forall_mem_cons] at h
    obtain ⟨⟨p, hp, hc⟩, hxs⟩ := h
    obtain ⟨ps, hps, hcs⟩ := ih hxs
    exact ⟨p :: ps, by simp only [parseAll, hp, hps], List.forall_mem_cons.2 ⟨hc, hcs⟩⟩

theorem parseAll_map {α} (l : List α) (f : α → Bytes) (g : α → SEnt) (h : ∀ x ∈ l, parseEnt (f x) = some (g x)) :
    parseAll (l.map f) = some (l.map g) := by
  induction l with
  | nil => rfl
  | cons x r ih =>
    rw [List.forall_mem_cons] at h
    simp only [List.map_cons, parseAll, h.1, ih h.2]

section
variable (s1 s2 f : UInt8) (n : Nat) (d : Bytes) (hn : n = d.length + 5) (h : n < 256)
include hn h

/-- what NM and SL entries have in common — signature, length byte, version 1, a flags byte, data: such an
    entry is well formed and passes the header test of `parseName` / `parseSymlink` -/
theorem suspHdr :
    EntOK (s1 :: s2 :: UInt8.ofNat n :: 1 :: f :: d) ∧
    ¬ (((s1 :: s2 :: UInt8.ofNat n :: 1 :: f :: d).getD 2 0).toNat ≠ (s1 :: s2 :: UInt8.ofNat n :: 1 :: f :: d).length ∨
       (s1 :: s2 :: UInt8.ofNat n :: 1 :: f :: d).length < 5 ∨ (s1 :: s2 :: UInt8.ofNat n :: 1 :: f :: d).getD 3 0 ≠ 1) := by
  have hb : (UInt8.ofNat n).toNat = n := UInt8.toNat_ofNat_of_lt' h
  simp only [EntOK, List.getD_cons_succ, List.getD_cons_zero, List.length_cons, hb, ne_eq, not_true_eq_false, or_false]
  omega

theorem parseNM_hdr :
    parseNM (s1 :: s2 :: UInt8.ofNat n :: 1 :: f :: d) = some (.nm (bit f.toNat 0) (bit f.toNat 1) (bit f.toNat 2) d) := by
  rw [parseNM, if_neg (suspHdr s1 s2 f n d hn h).2]
  rfl

theorem parseSL_hdr :
    parseSL (s1 :: s2 :: UInt8.ofNat n :: 1 :: f :: d) = (slWalk (d.length + 5) d []).map (.sl (f == 1) ·) := by
  rw [parseSL, if_neg (suspHdr s1 s2 f n d hn h).2]
  rfl

end

theorem nmEntry_ok (c : Bool) (part : Bytes) (h : part.length ≤ nmMax) : EntOK (nmEntry c part) :=
  (suspHdr 78 77 _ _ part (Nat.add_comm ..) (by unfold nmMax at h; omega)).1

theorem parseEnt_nmEntry (c : Bool) (part : Bytes) (h : part.length ≤ nmMax) :
    parseEnt (nmEntry c part) = some (.nm c false false part) := by
  rw [parseEnt, if_pos (show (nmEntry c part).take 2 = [78, 77] from rfl)]
  refine (parseNM_hdr 78 77 _ _ part (Nat.add_comm ..) (by unfold nmMax at h; omega)).trans ?_
  cases c <;> rfl

theorem nmEntries_mem : ∀ (f : Nat) (n : Bytes), ∀ e ∈ nmEntries f n, ∃ c part, part.length ≤ nmMax ∧ e = nmEntry c part := by
  intro f
  induction f with
  | zero => intro n e he; cases he
  | succ f ih =>
    intro n e he
    unfold nmEntries at he
    split at he
    · cases he
    · split at he
      · rcases List.mem_cons.1 he with rfl | he
        · exact ⟨true, _, by rw [List.length_take]; exact Nat.min_le_left .., rfl⟩
        · exact ih _ e he
      · exact ⟨false, n, by omega, List.mem_singleton.1 he⟩

/-- an NM entry -/
def IsNM : SEnt → Prop
  | .nm .. => True
  | _ => False

theorem nmEntries_each (f : Nat) (n : Bytes) : ∀ e ∈ nmEntries f n, EntOK e ∧ ∃ p, parseEnt e = some p ∧ IsNM p := by
  intro e he
  obtain ⟨c, part, hp, rfl⟩ := nmEntries_mem f n e he
  exact ⟨nmEntry_ok c part hp, _, parseEnt_nmEntry c part hp, trivial⟩

/-- `GetFilename` stops at the first NM entry that is not continued, so what follows plays no part -/
theorem getFilename_nmEntries : ∀ (f : Nat) (n : Bytes), n ≠ [] → n.length ≤ f →
    ∃ ps, parseAll (nmEntries f n) = some ps ∧ ∀ rest, getFilename (ps ++ rest) = some n := by
  intro f
  induction f with
  | zero => intro n hn hl; exact absurd (List.eq_nil_of_length_eq_zero (by omega)) hn
  | succ f ih =>
    intro n hn hl
    have hne : n.isEmpty = false := by cases n <;> simp_all
    unfold nmEntries
    simp only [hne, Bool.false_eq_true, if_false]
    by_cases hlong : n.length > nmMax
    · rw [if_pos hlong]
      have hdn : n.drop nmMax ≠ [] := fun h => by have := List.drop_eq_nil_iff.1 h; omega
      obtain ⟨ps, hps, hget⟩ := ih (n.drop nmMax) hdn (by simp [nmMax]; unfold nmMax at hlong; omega)
      refine ⟨.nm true false false (n.take nmMax) :: ps, ?_, ?_⟩
      · have hp := parseEnt_nmEntry true (n.take nmMax) (by rw [List.length_take]; exact Nat.min_le_left _ _)
        simp only [parseAll, hp, hps]
      · intro rest
        simp only [List.cons_append, getFilename, if_true, hget rest, List.take_append_drop]
    · rw [if_neg hlong]
      refine ⟨[.nm false false false n], ?_, ?_⟩
      · simp only [parseAll, parseEnt_nmEntry false n (by omega)]
      · intro rest
        simp [getFilename]

theorem sumLen_cons (e : Bytes) (es : List Bytes) : sumLen (e :: es) = e.length + sumLen es := by
  simp [sumLen]

theorem sumLen_flatten (l : List Bytes) : l.flatten.length = sumLen l := by
  induction l with
  | nil => rfl
  | cons x xs ih => simp [sumLen_cons, ih]

/-- whether `fitPrefix` stops in front of `e` -/
def fitOver (res : Bool) (maxSize : Nat) (e : Bytes) (es : List Bytes) (used : Nat) : Prop :=
  if res then used + sumLen (e :: es) > maxSize ∧ used + e.length + ceSize > maxSize else used + e.length > maxSize

instance (res : Bool) (maxSize : Nat) (e : Bytes) (es : List Bytes) (used : Nat) : Decidable (fitOver res maxSize e es used) := by
  unfold fitOver; exact inferInstance

theorem fitPrefix_cons (res : Bool) (maxSize : Nat) (e : Bytes) (es : List Bytes) (used : Nat) :
    fitPrefix res maxSize (e :: es) used =
      if fitOver res maxSize e es used then ([], e :: es)
      else (e :: (fitPrefix res maxSize es (used + e.length)).1, (fitPrefix res maxSize es (used + e.length)).2) := by
  unfold fitOver; rfl

theorem fitPrefix_split (res : Bool) (maxSize : Nat) : ∀ (xs : List Bytes) (used : Nat),
    xs = (fitPrefix res maxSize xs used).1 ++ (fitPrefix res maxSize xs used).2 := by
  intro xs
  induction xs with
  | nil => intro used; rfl
  | cons e es ih =>
    intro used
    rw [fitPrefix_cons]
    split
    · rfl
    · exact congrArg (e :: ·) (ih (used + e.length))

/-- the repaired rule: everything stays when it fits; what stayed fits the room when nothing is left over, and
    leaves room for the CE entry when something is -/
theorem fitPrefix_reserve (maxSize : Nat) : ∀ (es : List Bytes) (used : Nat),
    (used + sumLen es ≤ maxSize → (fitPrefix true maxSize es used).2 = []) ∧
    ((fitPrefix true maxSize es used).2 = [] → used ≤ maxSize → used + sumLen (fitPrefix true maxSize es used).1 ≤ maxSize) ∧
    ((fitPrefix true maxSize es used).2 ≠ [] → (fitPrefix true maxSize es used).1 ≠ [] →
      used + sumLen (fitPrefix true maxSize es used).1 + ceSize ≤ maxSize) := by
  intro es
  induction es with
  | nil => intro used; simp [fitPrefix, sumLen]
  | cons e es ih =>
    intro used
    rw [fitPrefix_cons]
    split
    · rename_i hover
      have hover : used + sumLen (e :: es) > maxSize ∧ used + e.length + ceSize > maxSize := hover
      exact ⟨fun h => by omega, fun h => (nomatch h), fun _ h => absurd rfl h⟩
    · rename_i hover
      have hover : ¬ (used + sumLen (e :: es) > maxSize ∧ used + e.length + ceSize > maxSize) := hover
      obtain ⟨i2, i3, i4⟩ := ih (used + e.length)
      simp only [sumLen_cons] at hover ⊢
      refine ⟨fun h => i2 (by omega), fun h hu => ?_, fun hne _ => ?_⟩
      · have := i3 h (by omega)
        omega
      · by_cases h1 : (fitPrefix true maxSize es (used + e.length)).1 = []
        · -- e is the last one that stayed: it was accepted because the CE entry still fits behind it
          rw [h1]
          have : ¬ (used + (e.length + sumLen es) ≤ maxSize) := fun h2 => hne (i2 (by omega))
          simp only [sumLen, List.map_nil, List.sum_nil, Nat.add_zero]
          omega
        · have := i4 hne h1
          omega

theorem assemble_some (res : Bool) (bs f : Nat) (exts : List Bytes) (maxSize : Nat) (ce : List Nat) (areas : List Bytes)
    (h : assemble res bs (f + 1) exts maxSize ce = some areas) :
    ((fitPrefix res maxSize exts 0).2 = [] ∧ areas = [(fitPrefix res maxSize exts 0).1.flatten]) ∨
    ∃ c ce' a more, (fitPrefix res maxSize exts 0).2 ≠ [] ∧ ce = c :: ce' ∧
      assemble res bs f (fitPrefix res maxSize exts 0).2 bs ce' = some (a :: more) ∧
      areas = ((fitPrefix res maxSize exts 0).1.flatten ++ ceEntry c 0 a.length) :: a :: more := by
  unfold assemble at h
  generalize fitPrefix res maxSize exts 0 = fp at h ⊢
  obtain ⟨fit, rest⟩ := fp
  cases rest with
  | nil => exact Or.inl ⟨rfl, (Option.some.inj h).symm⟩
  | cons e rest =>
    right
    simp only at h
    by_cases hbig : sumLen fit = 0 ∧ (if res = true then sumLen (e :: rest) > bs ∧ e.length + ceSize > bs else e.length > bs)
    · rw [if_pos hbig] at h; cases h
    · rw [if_neg hbig] at h
      cases ce with
      | nil => cases h
      | cons c ce' =>
        simp only at h
        cases hrec : assemble res bs f (e :: rest) bs ce' with
        | none => rw [hrec] at h; cases h
        | some cont =>
          rw [hrec] at h
          cases cont with
          | nil => cases h
          | cons a more => exact ⟨c, ce', a, more, List.cons_ne_nil _ _, rfl, hrec, (Option.some.inj h).symm⟩

theorem fitPrefix_last_stays (maxSize bs : Nat) (hm : maxSize ≤ bs) (sl : Bytes) (hsl : sl.length > bs) :
    ∀ (exts : List Bytes) (used : Nat), ∃ pre, (fitPrefix true maxSize (exts ++ [sl]) used).2 = pre ++ [sl] := by
  intro exts
  induction exts with
  | nil =>
    intro used
    have : fitOver true maxSize sl [] used := by
      show _ > maxSize ∧ _ > maxSize
      rw [sumLen_cons]; omega
    exact ⟨[], by rw [List.nil_append, fitPrefix_cons, if_pos this]⟩
  | cons e r ih =>
    intro used
    rw [List.cons_append, fitPrefix_cons]
    split
    · exact ⟨e :: r, rfl⟩
    · exact ih (used + e.length)

/-- recorded finding iso-rr-symlink-over-block: an extension of more than one block at the end of the
    list makes `dirEntryExtensionsToBytes` fail, whatever stands before it -/
theorem assemble_refuses (bs : Nat) (sl : Bytes) (hsl : sl.length > bs) : ∀ (fuel : Nat) (exts : List Bytes) (maxSize : Nat)
    (ce : List Nat), maxSize ≤ bs → assemble true bs fuel (exts ++ [sl]) maxSize ce = none := by
  intro fuel
  induction fuel with
  | zero => intro exts maxSize ce _; rfl
  | succ f ih =>
    intro exts maxSize ce hm
    obtain ⟨pre, hpre⟩ := fitPrefix_last_stays maxSize bs hm sl hsl exts 0
    unfold assemble
    generalize hfp : fitPrefix true maxSize (exts ++ [sl]) 0 = fp at hpre
    obtain ⟨fit, rest⟩ := fp
    simp only at hpre
    subst hpre
    -- what does not fit ends with `sl`: either the call fails at once, or the recursive call does
    obtain ⟨e, rest', he⟩ : ∃ e rest', pre ++ [sl] = e :: rest' := by cases pre <;> exact ⟨_, _, rfl⟩
    have hrec := fun ce' => ih pre bs ce' (Nat.le_refl _)
    rw [he] at hrec ⊢
    cases ce with
    | nil => simp
    | cons c ce' => simp [hrec ce']

theorem assemble_single (bs f : Nat) (e : Bytes) (ce : List Nat) (h : e.length ≤ bs) :
    assemble true bs (f + 1) [e] bs ce = some [e] := by
  have hn : ¬ (bs < e.length ∧ bs < e.length + ceSize) := by omega
  simp [assemble, fitPrefix, sumLen, hn]

end Diskfs.Iso
