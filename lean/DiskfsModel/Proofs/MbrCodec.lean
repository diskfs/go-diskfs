/- MBR slot codec: both directions of the round trip, through the byte-by-byte form of encoder and decoder. -/
import DiskfsModel.Model.Mbr
import DiskfsModel.Proofs.GptTable
namespace Diskfs.Mbr
open Diskfs.Gpt

theorem entryEnc_length (p : Part) : (entryEnc p).length = 16 := by
  simp [entryEnc]

theorem entryDec_bytes (i : Nat) (b0 b1 b2 b3 b4 b5 b6 b7 b8 b9 b10 b11 b12 b13 b14 b15 : UInt8) :
    entryDec i [b0, b1, b2, b3, b4, b5, b6, b7, b8, b9, b10, b11, b12, b13, b14, b15] =
      if b0 ≠ 0x00 ∧ b0 ≠ 0x80 then none else
      some { index := i, bootable := b0 == 0x80, typ := b4.toNat, start := leDec [b8, b9, b10, b11],
             size := leDec [b12, b13, b14, b15], chs := [b1, b2, b3, b5, b6, b7] } := rfl

theorem entryEnc_bytes (idx : Nat) (boot : Bool) (typ start size : Nat) (c0 c1 c2 c3 c4 c5 : UInt8) :
    ∃ s0 s1 s2 s3 z0 z1 z2 z3, leEnc 4 start = [s0, s1, s2, s3] ∧ leEnc 4 size = [z0, z1, z2, z3] ∧
      entryEnc ⟨idx, boot, typ, start, size, [c0, c1, c2, c3, c4, c5]⟩ =
        [if boot then 0x80 else 0x00, c0, c1, c2, byte typ, c3, c4, c5, s0, s1, s2, s3, z0, z1, z2, z3] :=
  ⟨_, _, _, _, _, _, _, _, rfl, rfl, rfl⟩

theorem entryDec_entryEnc (p : Part) (i : Nat) (ht : p.typ < 256) (hs : p.start < two32) (hz : p.size < two32)
    (hc : p.chs.length = 6) : entryDec i (entryEnc p) = some { p with index := i } := by
  obtain ⟨idx, boot, typ, start, size, chs⟩ := p
  match chs, hc with
  | [c0, c1, c2, c3, c4, c5], _ =>
    rw [two32_eq] at hs hz
    obtain ⟨s0, s1, s2, s3, z0, z1, z2, z3, es, ez, e⟩ := entryEnc_bytes idx boot typ start size c0 c1 c2 c3 c4 c5
    have hb : (byte typ).toNat = typ := by
      simp only [byte, Nat.mod_eq_of_lt ht]
      exact ofNat_toNat_of_lt typ ht
    rw [e, entryDec_bytes, ← es, ← ez, leDec_leEnc_of_lt 4 _ hs, leDec_leEnc_of_lt 4 _ hz, hb]
    cases boot <;> rfl

theorem entryEnc_entryDec (b : Bytes) (hb : b.length = 16) (i : Nat) (p : Part) (h : entryDec i b = some p) :
    entryEnc p = b := by
  match b, hb with
  | [b0, b1, b2, b3, b4, b5, b6, b7, b8, b9, b10, b11, b12, b13, b14, b15], _ =>
    rw [entryDec_bytes] at h
    by_cases hflag : b0 ≠ 0x00 ∧ b0 ≠ 0x80
    · rw [if_pos hflag] at h; cases h
    · rw [if_neg hflag] at h
      cases h
      obtain ⟨s0, s1, s2, s3, z0, z1, z2, z3, es, ez, e⟩ := entryEnc_bytes i (b0 == 0x80) b4.toNat (leDec [b8, b9, b10, b11])
        (leDec [b12, b13, b14, b15]) b1 b2 b3 b5 b6 b7
      have q1 : leEnc 4 (leDec [b8, b9, b10, b11]) = [b8, b9, b10, b11] := leEnc_leDec [b8, b9, b10, b11]
      have q2 : leEnc 4 (leDec [b12, b13, b14, b15]) = [b12, b13, b14, b15] := leEnc_leDec [b12, b13, b14, b15]
      rw [q1] at es
      rw [q2] at ez
      cases es
      cases ez
      rw [e]
      have e3 : byte b4.toNat = b4 := by
        simp [byte, UInt8.ofNat, Nat.mod_eq_of_lt b4.toNat_lt]
      have e4 : (if (b0 == 0x80) = true then (0x80 : UInt8) else 0x00) = b0 := by
        by_cases h80 : b0 = 0x80
        · simp [h80]
        · have h00 : b0 = 0x00 := Classical.byContradiction fun h0 => hflag ⟨h0, h80⟩
          simp [h00]
      rw [e3, e4]
end Diskfs.Mbr
