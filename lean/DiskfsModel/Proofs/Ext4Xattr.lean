/-
  Extended attribute entry tables: the entry format parseXattrEntries (xattr.go) reads, as an encoder; what a
  reader finds in the first entry of an encoded table (`xent_read`); what the entries contribute to the result map.
  The in-inode region and the xattr block share the format (they differ in where `e_value_offs` counts from,
  i.e. in the `values` buffer).
-/
import DiskfsModel.Proofs.Ext4Reader
namespace Diskfs.Ext4.Reader

structure XEnt where
  idx : Nat        -- e_name_index
  name : Bytes     -- e_name (without the prefix the index stands for)
  offs : Nat       -- e_value_offs
  size : Nat       -- e_value_size
  hash : Nat       -- e_hash
deriving Repr, DecidableEq

/-- struct ext4_xattr_entry: e_name_len, e_name_index, e_value_offs, e_value_inum (= 0), e_value_size, e_hash -/
def xHdr (x : XEnt) : List (Nat × Nat) :=
  [(1, x.name.length), (1, x.idx), (2, x.offs), (4, 0), (4, x.size), (4, x.hash)]

/-- padding of the name to a multiple of four bytes -/
def xPad (nl : Nat) : Nat := (4 - nl % 4) % 4

def encXEnt (x : XEnt) : Bytes := encFields (xHdr x) ++ (x.name ++ zeros (xPad x.name.length))

def encXTable : List XEnt → Bytes
  | [] => []
  | x :: xs => encXEnt x ++ encXTable xs

theorem xHdr_length (x : XEnt) : (encFields (xHdr x)).length = 16 := by
  simp [encFields_length, xHdr]

theorem encXEnt_length (x : XEnt) : (encXEnt x).length = 16 + x.name.length + xPad x.name.length := by
  simp [encXEnt, xHdr_length]; omega

/-- an entry the format can represent, whose value (if any) lies inside the value buffer -/
def XWF (values : Bytes) (x : XEnt) : Prop :=
  x.name.length < 256 ∧ x.idx < 256 ∧ ¬ (x.name.length = 0 ∧ x.idx = 0) ∧ x.offs < 65536 ∧
  x.size < 4294967296 ∧ (0 < x.size → x.offs + x.size ≤ values.length)

/-- what one entry contributes to the result map -/
def xaStep (cfg : Cfg) (tbl : List (Nat × String)) (values : Bytes) (acc : List (Bytes × Bytes)) (x : XEnt) :
    List (Bytes × Bytes) :=
  if x.size > 0 then xaInsert acc (xattrPrefix tbl x.idx ++ x.name) (slice values x.offs (x.offs + x.size))
  else if cfg.xattrKeepEmpty then xaInsert acc (xattrPrefix tbl x.idx ++ x.name) [] else acc

theorem xaStep_foldl_distinct (cfg : Cfg) (hk : cfg.xattrKeepEmpty = true) (tbl : List (Nat × String))
    (values : Bytes) : ∀ (xs : List XEnt) (acc : List (Bytes × Bytes)),
    (xs.map fun x => xattrPrefix tbl x.idx ++ x.name).Nodup →
    (∀ x ∈ xs, ∀ p ∈ acc, p.1 ≠ xattrPrefix tbl x.idx ++ x.name) →
    xs.foldl (xaStep cfg tbl values) acc = acc ++
      xs.map fun x => (xattrPrefix tbl x.idx ++ x.name, if x.size > 0 then slice values x.offs (x.offs + x.size) else []) := by
  intro xs
  induction xs with
  | nil => intro acc _ _; simp
  | cons x rest ih =>
    intro acc hnd hacc
    simp only [List.map_cons, List.nodup_cons] at hnd
    have hstep : xaStep cfg tbl values acc x = acc ++
        [(xattrPrefix tbl x.idx ++ x.name, if x.size > 0 then slice values x.offs (x.offs + x.size) else [])] := by
      have hfil : acc.filter (fun p => p.1 ≠ xattrPrefix tbl x.idx ++ x.name) = acc := by
        rw [List.filter_eq_self]
        intro p hp
        simpa using hacc x (List.mem_cons_self ..) p hp
      unfold xaStep xaInsert
      split
      · rw [hfil]
      · rw [hfil]
    rw [List.foldl_cons, hstep, ih _ hnd.2]
    · simp
    · intro y hy p hp
      rcases List.mem_append.1 hp with h | h
      · exact hacc y (List.mem_cons_of_mem _ hy) p h
      · simp only [List.mem_singleton] at h
        subst h
        intro heq
        exact hnd.1 (by simp only [List.mem_map]; exact ⟨y, hy, heq.symm⟩)

/-- what may follow the last entry: fewer than 16 bytes, or a terminator (name length and index zero) -/
def TermOK (tail : Bytes) : Prop := tail.length < 16 ∨ (u8 tail 0 = 0 ∧ u8 tail 1 = 0)

theorem xPad_next (p n : Nat) (hp : p % 4 = 0) :
    (p + 16 + n + 3) / 4 * 4 = p + 16 + n + xPad n ∧ (p + 16 + n + xPad n) % 4 = 0 := by
  unfold xPad; omega

theorem xent_read (x : XEnt) (rest : List XEnt) (pre tail : Bytes) (hnl : x.name.length < 256) (hidx : x.idx < 256)
    (hoffs : x.offs < 65536) (hsize : x.size < 4294967296) (hal : pre.length % 4 = 0) :
    let b := pre ++ encXTable (x :: rest) ++ tail
    u8 b pre.length = x.name.length ∧ u8 b (pre.length + 1) = x.idx ∧ le16 b (pre.length + 2) = x.offs ∧
    le32 b (pre.length + 4) = 0 ∧ le32 b (pre.length + 8) = x.size ∧
    slice b (pre.length + 16) (pre.length + 16 + x.name.length) = x.name ∧
    pre.length + 16 + x.name.length ≤ b.length ∧
    (pre.length + 16 + x.name.length + 3) / 4 * 4 = (pre ++ encXEnt x).length ∧
    (pre ++ encXEnt x).length % 4 = 0 ∧ b = pre ++ encXEnt x ++ encXTable rest ++ tail := by
  intro b
  generalize hpost : x.name ++ (zeros (xPad x.name.length) ++ (encXTable rest ++ tail)) = post
  have hb : b = pre ++ (encFields (xHdr x) ++ post) := by
    simp only [b, ← hpost, encXTable, encXEnt, List.append_assoc]
  have hlen : b.length = pre.length + 16 + post.length := by
    rw [hb]; simp only [List.length_append, xHdr_length]; omega
  have hpl : x.name.length ≤ post.length := by rw [← hpost]; simp
  have hin : pre.length + 16 + x.name.length ≤ b.length := by omega
  have hl0 : pre.length < b.length := by omega
  have hl1 : pre.length + 1 < b.length := by omega
  have H := holdsAt_enc (xHdr x) pre post
  rw [← hb] at H
  simp only [HoldsAt, xHdr, Nat.add_assoc, Nat.reduceAdd, Nat.reducePow, Nat.pow_one] at H
  obtain ⟨h0, h1, h2, h3, h4, _⟩ := H
  have hname : slice b (pre.length + 16) (pre.length + 16 + x.name.length) = x.name := by
    have := slice_mid (pre ++ encFields (xHdr x)) x.name (zeros (xPad x.name.length) ++ (encXTable rest ++ tail))
      (pre.length + 16) (pre.length + 16 + x.name.length) (by rw [List.length_append, xHdr_length])
      (by rw [List.length_append, xHdr_length])
    rwa [List.append_assoc, hpost, ← hb] at this
  have hnext : (pre ++ encXEnt x).length = pre.length + 16 + x.name.length + xPad x.name.length := by
    rw [List.length_append, encXEnt_length]; omega
  refine ⟨?_, ?_, ?_, h3, ?_, hname, hin, ?_, ?_, ?_⟩
  · rw [u8_eq_leDec b _ hl0, h0, Nat.mod_eq_of_lt hnl]
  · rw [u8_eq_leDec b _ hl1, h1, Nat.mod_eq_of_lt hidx]
  · rw [le16, h2, Nat.mod_eq_of_lt hoffs]
  · rw [le32, h4, Nat.mod_eq_of_lt hsize]
  · rw [hnext]; exact (xPad_next _ _ hal).1
  · rw [hnext]; exact (xPad_next _ _ hal).2
  · simp only [b, encXTable, List.append_assoc]

end Diskfs.Ext4.Reader
