/-
  Rewriting the MBR table that mbr.Read returned (Table level, Model/MbrTable.lean: Read stamps sector sizes,
  Write refuses more than four partitions) changes no byte.  Helper for Props/C14.lean.
-/
import DiskfsModel.Proofs.MbrRead
namespace Diskfs.Mbr
open Diskfs.Gpt (Res)

theorem readT_rewrite_noop (d : Dev) (devSize : Nat) (lbs pbs : Int) (t : Table)
    (h : (readT d devSize lbs pbs).1 = .ok t) : ∃ ws, writeT t = some ws ∧ applyWrs d ws = d := by
  obtain ⟨⟨a, b, c, e, hps, _⟩, _, _⟩ := readT_canonical d devSize lbs pbs t h
  have hlen : t.parts.length ≤ 4 := by rw [hps]; simp
  refine ⟨write t.parts, writeT_some t hlen, ?_⟩
  rw [readT_eq] at h
  cases hr : (read d devSize).1 with
  | none => simp [hr] at h
  | some ps =>
    simp only [hr, Res.ok.injEq] at h
    subst h
    exact write_read_noop d devSize ps hr

end Diskfs.Mbr
