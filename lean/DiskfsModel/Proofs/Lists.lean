/-
  List facts that several families of proofs need and core Lean does not state in this form:
  `take`/`drop` against the length and across `++`, `getD` below the length, the `i`-th piece of a
  concatenation of pieces of one size, the length of one of non-empty pieces, `takeWhile` up to a
  separator.  Core Lean only.
-/
namespace Diskfs

theorem take_min_length {α} (l : List α) (k : Nat) : l.take (min k l.length) = l.take k := by
  rcases Nat.le_total k l.length with h | h
  · rw [Nat.min_eq_left h]
  · rw [Nat.min_eq_right h, List.take_length, List.take_of_length_le h]

theorem drop_min_length {α} (l : List α) (k : Nat) : l.drop (min k l.length) = l.drop k := by
  rcases Nat.le_total k l.length with h | h
  · rw [Nat.min_eq_left h]
  · rw [Nat.min_eq_right h, List.drop_length, List.drop_of_length_le h]

theorem take_drop_take {α} (l : List α) (m a k : Nat) (h : a + k ≤ m) :
    ((l.take m).drop a).take k = (l.drop a).take k := by
  rw [List.drop_take, List.take_take, Nat.min_eq_left (by omega)]

theorem drop_append_right {α} (a b : List α) (k : Nat) (h : a.length ≤ k) :
    (a ++ b).drop k = b.drop (k - a.length) := by
  rw [List.drop_append, List.drop_of_length_le h, List.nil_append]

theorem getD_eq_of_lt {α} (l : List α) (i : Nat) (d : α) (h : i < l.length) : l.getD i d = l[i] := by
  simp [List.getD_eq_getElem?_getD, h]

theorem getD_drop {α} (l : List α) (i j : Nat) (d : α) : (l.drop i).getD j d = l.getD (i + j) d := by
  simp [List.getD_eq_getElem?_getD]

theorem getD_append_left {α} (a b : List α) (i : Nat) (d : α) (h : i < a.length) :
    (a ++ b).getD i d = a.getD i d := by
  simp [List.getD_eq_getElem?_getD, List.getElem?_append_left h]

theorem getD_append_right {α} (a b : List α) (k : Nat) (d : α) :
    (a ++ b).getD (a.length + k) d = b.getD k d := by
  simp [List.getD_eq_getElem?_getD, List.getElem?_append_right]

/-! ### a concatenation of pieces: of one size (the entries of a table, the words of a block list), or none empty -/

theorem map_flatten_length {α β} (f : α → List β) (k : Nat) (hf : ∀ x, (f x).length = k) (l : List α) :
    (l.map f).flatten.length = k * l.length := by
  induction l with
  | nil => rfl
  | cons x r ih =>
    rw [List.map_cons, List.flatten_cons, List.length_append, ih, hf, List.length_cons, Nat.mul_succ, Nat.add_comm]

theorem map_flatten_append_get {α β} (f : α → List β) (k : Nat) (hf : ∀ x, (f x).length = k) (l : List α)
    (t : List β) (i : Nat) (hi : i < l.length) : (((l.map f).flatten ++ t).drop (k * i)).take k = f l[i] := by
  induction l generalizing i with
  | nil => simp at hi
  | cons x r ih =>
    rw [List.map_cons, List.flatten_cons, List.append_assoc]
    cases i with
    | zero => exact List.take_left' (hf x)
    | succ i =>
      rw [Nat.mul_succ, Nat.add_comm, ← List.drop_drop, List.drop_left' (hf x)]
      exact ih i (by simpa using hi)

theorem map_flatten_get {α β} (f : α → List β) (k : Nat) (hf : ∀ x, (f x).length = k) (l : List α)
    (i : Nat) (hi : i < l.length) : ((l.map f).flatten.drop (k * i)).take k = f l[i] := by
  simpa using map_flatten_append_get f k hf l [] i hi

theorem length_le_map_flatten {α β} (f : α → List β) (l : List α) (hf : ∀ x ∈ l, 0 < (f x).length) :
    l.length ≤ (l.map f).flatten.length := by
  induction l with
  | nil => exact Nat.zero_le _
  | cons x r ih =>
    rw [List.forall_mem_cons] at hf
    have := ih hf.2
    simp only [List.map_cons, List.flatten_cons, List.length_append, List.length_cons]
    omega

/-! ### `takeWhile` up to a separator -/

theorem takeWhile_ne_append_cons {α} [DecidableEq α] (c : α) (l t : List α) (h : c ∉ l) :
    (l ++ c :: t).takeWhile (· ≠ c) = l := by
  rw [List.takeWhile_append_of_pos fun a ha => decide_eq_true (show a ≠ c from fun e => h (e ▸ ha)),
    List.takeWhile_cons_of_neg (by simp), List.append_nil]

theorem takeWhile_ne_of_not_mem {α} [DecidableEq α] (c : α) (l : List α) (h : c ∉ l) :
    l.takeWhile (· ≠ c) = l := by
  simpa using List.takeWhile_append_of_pos (p := (· ≠ c)) (l₂ := []) fun a ha => decide_eq_true (show a ≠ c from fun e => h (e ▸ ha))

end Diskfs
