/-
  The hypotheses of `reopen_image` along histories: every call whose names are carried
  faithfully by the entry codec and whose writes stay below 4 GiB keeps `kidsImgOk`
  (every name of the tree is `NameOk`, every size fits the 32-bit field).
  Read off `dstep_shape` (Proofs/FatTreeFit.lean), then the path walk.
  Core Lean only.
-/
import DiskfsModel.Proofs.FatTreeImg
namespace Diskfs.Fat

section imgstep
variable {eqn : Spec.Name → Spec.Name → Bool} {X : ImgParams} {g : TGeom} {fuel : Nat}

/-- `f` keeps `kidsImgOk` of the directory it runs in -/
def ImgStepOk (X : ImgParams) (g : TGeom) (f : Nat → DirSt → DirSt × TRes) : Prop :=
  ∀ (base : Nat) (s : DirSt), kidsImgOk X g s.kids → kidsImgOk X g (f base s).1.kids

theorem dstep_imgok (op : TOp) (hop : OpOk X g op) : ImgStepOk X g (dstep eqn g fuel op) := by
  intro base s hkids
  rw [kidsImgOk_iff] at hkids ⊢
  intro t ht
  rcases dstep_shape (eqn := eqn) (g := g) (fuel := fuel) op base s with h | ⟨_, _, _, _, _, _, hmem⟩
  · rw [h] at ht
    exact hkids t ht
  · rcases hmem t ht with h | h
    · exact hkids t h
    · -- a file keeps its (faithful) name, a new name is the call's
      have hfile : ∀ {n fn fc size c' sz'}, kfind eqn s.kids n = some (.file fn fc size) →
          (size < 4294967296 → sz' < 4294967296) → (TNode.file fn c' sz').ImgOk X g := by
        intro n fn fc size c' sz' hf hsz
        have := hkids _ (kfind_mem hf)
        rw [imgOk_file] at this ⊢
        exact ⟨this.1, hsz this.2⟩
      cases op with
      | mkdir _ n _ _ => obtain ⟨l, _, rfl⟩ := h; exact (imgOk_dir ..).2 ⟨hop, kidsImgOk_nil X g⟩
      | create _ n _ => obtain ⟨l, rfl⟩ := h; exact (imgOk_file ..).2 ⟨hop, by decide⟩
      | writeAt _ n off data _ =>
        obtain ⟨fn, fc, size, l', hf, rfl⟩ := h
        exact hfile hf fun hs => Nat.max_lt.2 ⟨hs, hop⟩
      | truncate _ n _ => obtain ⟨fn, fc, size, hf, rfl⟩ := h; exact hfile hf fun _ => by decide
      | rename _ _ n _ => obtain ⟨u, hu, rfl⟩ := h; exact imgOk_rename (hkids u hu) hop
      | remove _ _ _ => exact h.elim

theorem atDirT_imgok {f : Nat → DirSt → DirSt × TRes} (hf : ImgStepOk X g f) (path : List Spec.Name) :
    ImgStepOk X g (fun base s => atDirT eqn f path base s) := by
  induction path with
  | nil => intro base s h; simp only [atDirT]; exact hf base s h
  | cons n path ih =>
    intro base s h
    simp only [atDirT]
    split
    · rename_i nm c ks hfd
      have hchild := (kidsImgOk_iff X g s.kids).1 h _ (kfind_mem hfd)
      rw [imgOk_dir] at hchild
      have IH := ih 2 ⟨s.m, s.d, c, ks⟩ hchild.2
      simp only at IH
      generalize atDirT eqn f path 2 ⟨s.m, s.d, c, ks⟩ = r at IH ⊢
      by_cases hok : r.2 = .ok
      · simp only [hok, if_true]
        rw [kidsImgOk_iff] at h ⊢
        intro t ht
        rcases mem_kset ht with rfl | ht
        · exact (imgOk_dir ..).2 ⟨hchild.1, IH⟩
        · exact h t ht
      · simp only [hok, if_false]
        exact h
    · exact h
    · exact h

theorem tstep_imgok (s : DirSt) (op : TOp) (hop : OpOk X g op) (h : kidsImgOk X g s.kids) :
    kidsImgOk X g (tstep eqn g fuel s op).1.kids :=
  atDirT_imgok (dstep_imgok (eqn := eqn) (fuel := fuel) op hop) op.dir g.rootBase s h

theorem trun_imgok (ops : List TOp) (s : DirSt) (hops : ∀ op ∈ ops, OpOk X g op) (h : kidsImgOk X g s.kids) :
    kidsImgOk X g (trun eqn g fuel s ops).kids := by
  induction ops generalizing s with
  | nil => exact h
  | cons op rest ih =>
    simp only [trun, List.foldl_cons]
    exact ih _ (fun o ho => hops o (List.mem_cons_of_mem _ ho)) (tstep_imgok s op (hops op List.mem_cons_self) h)

end imgstep

/-! ### non-vacuity: the volume `exTree2` (Proofs/FatTreeFit.lean) with a volume label, names spelled
    with a one-slot long name, all date/time words zero -/

def exX : ImgParams :=
  { enc := fun n => ⟨n, [], n, 0⟩, stamp := fun _ => ⟨0, 0, 0, 0, 0, 0⟩, dotMeta := ⟨0, 0, 0, 0, 0, 0⟩,
    rootPre := [{ short := [76], ext := [], long := [], attr := 8, lcase := 0, cTime := 0, cDate := 0, aDate := 0,
                  mTime := 0, mDate := 0, cluster := 0, size := 0 }],
    rootPar := 0 }

theorem exX_ok : ImgParamsOk exX exTGeom2 :=
  ⟨by decide, by decide, by decide, by decide, by decide, by decide⟩

theorem exTree2_imgok : kidsImgOk exX exTGeom2 exTree2.kids := by
  show kidsImgOk exX exTGeom2 [.dir [66] [3, 4] [.file [65] [2] 3]]
  rw [kidsImgOk_cons, imgOk_dir, kidsImgOk_cons, imgOk_file]
  exact ⟨⟨by decide, ⟨by decide, by decide⟩, kidsImgOk_nil _ _⟩, kidsImgOk_nil _ _⟩

theorem exTree2_depth : kidsDepth exTree2.kids ≤ 2 := by
  show kidsDepth [.dir [66] [3, 4] [.file [65] [2] 3]] ≤ 2
  rw [kidsDepth_cons, depth_dir, kidsDepth_cons, TNode.depth, kidsDepth_nil]
  decide

end Diskfs.Fat
