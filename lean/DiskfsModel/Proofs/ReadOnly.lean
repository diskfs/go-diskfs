/-
  C11: what `step` does on a storage without a writer, by the class of the entry point (`Op.cls`) and not
  entry point by entry point; and on a finalized staged filesystem whose guards reject, on any storage.
-/
import DiskfsModel.Model.ReadOnly
namespace Diskfs.ReadOnly

theorem Method.mem_all (m : Method) : m ∈ Method.all := by
  cases m <;> decide

theorem writable_ro (s : Storage) (h : s.ro = true) : s.writable = none := by
  simp [Storage.writable, h]

theorem needWriter_ro (s : Storage) (h : s.ro = true) (p : List Wr) : needWriter s p = ⟨.err, []⟩ := by
  simp [needWriter, writable_ro s h]

/-- `Create` of a staged kind behind its block-size check `b`, on a storage without a writer: it succeeds only
    if it does not ask for one (`x = false`).  The expression is the `createFs` arm of `step` once `needWriter` has
    been rewritten to its answer on such a storage; `h` is `trigger … = false` for that arm. -/
theorem stagedCreate_ro (x b : Bool) (h : (!x && b) = false) :
    (if !b then ⟨.err, []⟩ else if x then ⟨.err, []⟩ else ⟨.ok, []⟩ : Res).out = .err := by
  revert x b
  decide

theorem step_guarded (c : Cfg) (s : Storage) (k : FsKind) (ss : Nat) (op : Op) (p : List Wr) (hst : k.staged = true)
    (hg : ∀ m, guardClass (c.guards k) m ≠ 0) (hfs : op.fsLevel = true) (hm : op.isMutator = true) :
    step c s k true ss op p = ⟨.err, []⟩ := by
  have hg' : ∀ m, (guardClass (c.guards k) m != 0) = true := fun m => by simpa using hg m
  unfold step
  generalize hcl : op.cls = cl
  cases cl with
  | reader => simp [Op.isMutator, hcl] at hm
  | diskMutator => cases op <;> cases hcl <;> cases hfs
  | _ => simp only [hst, hg', if_true]

/-- on a storage without a writer a mutating call fails, except on the inputs where the tree as found hands out
    success without asking for one (`trigger`); a staged filesystem that lives on the image is finalized (`hfin`),
    and then the call is refused by its guard or, failing that, for want of a writer -/
theorem step_ro_out (c : Cfg) (s : Storage) (hro : s.ro = true) (k : FsKind) (fin : Bool) (ss : Nat) (op : Op)
    (p : List Wr) (hm : op.isMutator = true) (ht : trigger c k fin ss op = false)
    (hfin : k.staged = true → fin = true) : (step c s k fin ss op p).out = .err := by
  unfold step
  simp only [needWriter_ro s hro, writable_ro s hro]
  generalize hcl : op.cls = cl
  cases cl with
  | reader => simp [Op.isMutator, hcl] at hm
  | fsMutator m => cases hk : k.staged <;> simp only [hfin, hk, Bool.false_eq_true, if_true, if_false, ite_self]
  | handleWrite => cases hk : k.staged <;> simp only [hfin, hk, Bool.false_eq_true, if_true, if_false, ite_self]
  | diskMutator =>
    -- only `createFs` of a staged kind can succeed without a writer: when the as-found `Create` does not ask
    cases op <;> cases hcl <;> first | rfl | skip
    rename_i k'
    cases k' <;> first | rfl | exact stagedCreate_ro _ _ ht
  | openWrite create trunc =>
    cases hk : k.staged
    · -- FAT / ext4 OpenFile for writing: succeeds without a writer exactly on `trigger`
      cases op <;> cases hcl
      all_goals
        simp only [trigger, hk] at ht
        simp only [Bool.false_eq_true, if_false]
        revert ht
        generalize k.isFat = a; generalize c.fatOpenChecks = x; generalize c.ext4OpenChecks = y
        revert a x y; decide
    · simp only [hfin, hk, if_true, ite_self]

theorem applyWrs_nil (d : Dev) : applyWrs d [] = d := rfl

/-- a history none of whose calls emits a write leaves the image as it was -/
theorem run_quiet (c : Cfg) (s : Storage) (img : Dev) (calls : List Call)
    (h : ∀ x ∈ calls, (step c s x.k x.fin x.ss x.op x.payload).writes = []) : run c s img calls = img := by
  induction calls with
  | nil => rfl
  | cons x xs ih =>
    rw [run, h x List.mem_cons_self]
    exact ih fun y hy => h y (List.mem_cons_of_mem _ hy)

end Diskfs.ReadOnly
