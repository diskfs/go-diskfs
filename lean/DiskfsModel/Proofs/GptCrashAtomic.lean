/-
  C09 on the flat model for ANY well-formed geometry: every flat crash state of `writeUp` for an
  initialised table satisfying `GeomWF` is a record-level `Crash` state and the completed device reads as
  the new table (`write_crash_view`); with `read_view` this gives crash atomicity of `Gpt.read` for tables
  read from a foreign disk and edited (other entry counts, arrays that do not end on a sector boundary, any
  sector size ≥ 512), and for fresh tables on any sector size ≥ 512.
-/
import DiskfsModel.Proofs.GptCrashRead
import DiskfsModel.Proofs.GptGeomRegions
namespace Diskfs.GptCrash
open Diskfs Diskfs.Gpt

/-- the array whose byte `j` is `new`'s iff sector `j / lss` was kept -/
def mixArr (lss : Nat) (keep : Nat → Bool) (new old : Bytes) : Bytes :=
  (List.range old.length).map fun j => if keep (j / lss) then new.getD j 0 else old.getD j 0

/-- explicit premise (CRC32 is not collision free): no sector-wise mixture of the old and the new entry
    array has the old array's CRC unless it IS the old or the new array.  Any array length. -/
def NoCrcCollisionG (crc : Bytes → Nat) (lss : Nat) (old new : Bytes) : Prop :=
  ∀ keep : Nat → Bool, crc (mixArr lss keep new old) = crc old →
    mixArr lss keep new old = old ∨ mixArr lss keep new old = new

/-- reading back the region a torn write was aimed at: `mixArr` is what `tornPieces` leaves there -/
theorem torn_mixArr (d : Dev) (lss : Nat) (hl : 0 < lss) (off : Nat) (a : Bytes) (keep : Nat → Bool) :
    readAt (applyWrs d (tornPieces lss ⟨off, a⟩ keep)) off a.length = mixArr lss keep a (readAt d off a.length) := by
  unfold mixArr
  rw [readAt_length]
  apply List.map_congr_left
  intro j hj
  have hj' : j < a.length := List.mem_range.1 hj
  rw [torn_byte d lss hl, readAt_getD d off _ j hj']
  simp only [Nat.le_add_right, Nat.add_lt_add_iff_left, hj', true_and, Nat.add_sub_cancel_left]

/-- a sector-wise mixture of the arrays of two devices, put together by any `cat`, is their bytewise mixture:
    the mixed sectors are those of the device a torn write of the one array over the other leaves (`secs_torn`) -/
theorem cat_mix {g : Geo} {p : Nat} (L : Lay g p) (cat : (Fin p → Bytes) → Bytes)
    (hcat : ∀ d off, cat (secs d g.lss g.ab p off) = readAt d off g.ab) (d0 dN : Dev) (off : Nat) (keep : Nat → Bool) :
    cat (mix (fun i => keep i.val) (secs dN g.lss g.ab p off) (secs d0 g.lss g.ab p off)) =
      mixArr g.lss keep (readAt dN off g.ab) (readAt d0 off g.ab) := by
  have h512 := L.h512
  have hlen : (readAt dN off g.ab).length = g.ab := readAt_length _ _ _
  have t := torn_mixArr d0 g.lss (by omega) off (readAt dN off g.ab) keep
  rw [hlen] at t
  rw [secs_eq L dN off _ rfl, ← secs_torn L d0 off _ hlen keep, hcat, t]

/-- the old device carries a valid primary GPT of geometry `g` -/
def OldOkFlatG (crc : Bytes → Nat) (d0 : Dev) (g : Geo) : Prop :=
  ∃ h, readHeader crc (readAt d0 g.lss g.lss) = .ok h ∧ h.arrLBA = g.aP ∧ h.count = g.n ∧ h.entSize = 128 ∧
    h.arrCrc = crc (readAt d0 (g.aP * g.lss) g.ab)

theorem oldOk_view {p : Nat} {crc : Bytes → Nat} {g : Geo} {d : Dev} (cat : (Fin p → Bytes) → Bytes)
    (hcat : ∀ off, cat (secs d g.lss g.ab p off) = readAt d off g.ab) (hOld : OldOkFlatG crc d g) :
    PStdG crc d g ∧ OldOk (readerOf crc g cat) (viewOf d g p) := by
  obtain ⟨h, hh, g1, g2, g3, g4⟩ := hOld
  refine ⟨fun h' hh' => ?_, ⟨?_⟩⟩
  · rw [hh] at hh'
    cases hh'
    exact ⟨g1, g2, g3⟩
  · show (readerOf crc g cat).hdrP (readAt d g.lss g.lss) = some (crc (cat (secs d _ _ _ _)))
    rw [hcat]
    simp only [readerOf, hh, g1, g2, g3, and_self, if_true, g4]

/-- what the crash theorems take from an accepted `writeUp` of a table of well-formed geometry, over any device: the
    write list is `fiveWrsG` of the table's geometry, so every crash state is a record-level `Crash` state
    (`crash_view`); the header sectors it leaves are the encoded ones, which readHeader reads back
    (`readHeader_hdrEncUp`), so the completed view is `NewOk` and the completed device meets the premises put on an
    old device -/
theorem write_crash_view (c : Cfg) (hpl : c.pmbrLast = true) (crc : Bytes → Nat) (hcrc : ∀ b, crc b < two32)
    (d0 : Dev) (t : Table) (size : Nat) (ws : List Wr) (t' : Table)
    (hg : GeomWF t size) (hpm : t.pmbr = true) (hw : writeUp c crc t size = .ok (ws, t'))
    {p : Nat} (hp : p = (geoOf t).p) (cat : (Fin p → Bytes) → Bytes)
    (hcat : ∀ d off, cat (secs d (geoOf t).lss (geoOf t).ab p off) = readAt d off (geoOf t).ab) (k : Nat) (keep : Nat → Bool) :
    NewOk (readerOf crc (geoOf t) cat) (viewOf (applyWrs d0 ws) (geoOf t) p) ∧
    PStdG crc (applyWrs d0 ws) (geoOf t) ∧ BStdG crc (applyWrs d0 ws) (geoOf t) ∧
    OldOkFlatG crc (applyWrs d0 ws) (geoOf t) ∧
    Crash false (viewOf d0 (geoOf t) p) (viewOf (applyWrs d0 ws) (geoOf t) p)
      (viewOf (crashDev d0 (geoOf t).lss ws k keep) (geoOf t) p) := by
  subst hp
  obtain ⟨arr, ps, harr, hlen, ht, hws, r1, r2, r3, r4, _⟩ := write_regionsG c crc d0 t size ws t' hg hw
  obtain ⟨G, gp, gab⟩ := geoOf_ok t size hg
  obtain ⟨k1, k2, k3, k4, k5, k6, k7, k8⟩ := geom_bounds t size hg
  have L := lay_of G
  have hP := readHeader_hdrEncUp crc hcrc t true arr hg.guid k2 k3 hg.fd hg.ld k6 k8
  have hB := readHeader_hdrEncUp crc hcrc t false arr hg.guid k2 k3 hg.fd hg.ld k7 k8
  simp only [if_true, Bool.false_eq_true, if_false, k4, k5, hg.ph] at hP hB
  rw [← gab] at hlen r2 r4
  have hfive : ws = fiveWrsG (geoOf t) arr (hdrEncUp crc t true arr) (hdrEncUp crc t false arr) (pmbrEnc c t) := by
    rw [hws, hpl]
    simp only [if_true, coreUp, pmWrs, hpm, fiveWrsG, geoOf, offBA, offBH, List.cons_append, List.nil_append]
  have hCrash := crash_view L d0 arr _ _ _ hlen (hdrEncUp_length crc t true arr hg.guid k1)
    (hdrEncUp_length crc t false arr hg.guid k1) (show (pmbrEnc c t).length = 66 by simp [pmbrEnc]) k keep
  rw [← hfive] at hCrash
  generalize applyWrs d0 ws = dN at *
  -- the header sectors of the completed device are the ones `Write` encoded
  have r3 : readAt dN ((geoOf t).hB * (geoOf t).lss) (geoOf t).lss = hdrEncUp crc t false arr := r3
  rw [← r1] at hP
  rw [← r3] at hB
  have r2 : readAt dN ((geoOf t).aP * (geoOf t).lss) (geoOf t).ab = arr := r2
  have r4 : readAt dN ((geoOf t).aB * (geoOf t).lss) (geoOf t).ab = arr := r4
  have hOO : OldOkFlatG crc dN (geoOf t) := ⟨_, hP, rfl, rfl, rfl, by rw [r2]⟩
  obtain ⟨hPdN, ⟨hNP⟩⟩ := oldOk_view cat (hcat dN) hOO
  refine ⟨⟨hNP, ?_, (secs_eq L dN _ arr r4).trans (secs_eq L dN _ arr r2).symm⟩, hPdN, ?_, hOO, hCrash⟩
  · show (readerOf crc (geoOf t) cat).hdrB (readAt dN ((geoOf t).hB * (geoOf t).lss) (geoOf t).lss)
      = some (crc (cat (secs dN _ _ _ _)))
    rw [hcat, r4]
    simp only [readerOf, hB]
    simp [geoOf]
  · intro h' hh' _
    rw [hB] at hh'
    cases hh'
    exact ⟨rfl, rfl, rfl⟩

theorem write_crash_setupG (c : Cfg) (hpl : c.pmbrLast = true) (crc : Bytes → Nat) (hcrc : ∀ b, crc b < two32)
    (d0 : Dev) (t : Table) (size : Nat) (ws : List Wr) (t' : Table)
    (hg : GeomWF t size) (hpm : t.pmbr = true) (hw : writeUp c crc t size = .ok (ws, t')) (k : Nat) (keep : Nat → Bool) :
    NewOk (flatReaderG crc (geoOf t)) (toDiskG (applyWrs d0 ws) (geoOf t)) ∧
    PStdG crc (applyWrs d0 ws) (geoOf t) ∧ BStdG crc (applyWrs d0 ws) (geoOf t) ∧
    OldOkFlatG crc (applyWrs d0 ws) (geoOf t) ∧
    Crash false (toDiskG d0 (geoOf t)) (toDiskG (applyWrs d0 ws) (geoOf t))
      (toDiskG (crashDev d0 t.lss ws k keep) (geoOf t)) :=
  write_crash_view c hpl crc hcrc d0 t size ws t' hg hpm hw rfl _
    (fun d off => asm_secs (lay_of (geoOf_ok t size hg).1) d off) k keep

/-- a crash state's header sectors are those of the old or of the completed device (`crash_headers`), so it
    inherits their `PStdG` / `BStdG` -/
theorem crash_std {p : Nat} (crc : Bytes → Nat) (g : Geo) (d0 dN dC : Dev)
    (hCrash : Crash false (viewOf d0 g p) (viewOf dN g p) (viewOf dC g p))
    (hP0 : PStdG crc d0 g) (hB0 : BStdG crc d0 g) (hPN : PStdG crc dN g) (hBN : BStdG crc dN g) :
    PStdG crc dC g ∧ BStdG crc dC g := by
  obtain ⟨hph, hbh⟩ := crash_headers false _ _ _ hCrash
  simp only [viewOf] at hph hbh
  unfold PStdG BStdG
  constructor
  · rcases hph with e | e <;> rw [e] <;> assumption
  · rcases hbh with e | e <;> rw [e] <;> assumption

/-- a device neither of whose header sectors passes readHeader: the record reader sees no header, and `PStdG` /
    `BStdG` hold for want of one -/
theorem blank_std {p : Nat} (crc : Bytes → Nat) (g : Geo) (d0 : Dev) (cat : (Fin p → Bytes) → Bytes)
    (hNoP : ∀ h, readHeader crc (readAt d0 g.lss g.lss) ≠ .ok h)
    (hNoB : ∀ h, readHeader crc (readAt d0 (g.hB * g.lss) g.lss) ≠ .ok h) :
    (readerOf crc g cat).hdrP (viewOf d0 g p).ph = none ∧ (readerOf crc g cat).hdrB (viewOf d0 g p).bh = none ∧
    PStdG crc d0 g ∧ BStdG crc d0 g := by
  refine ⟨?_, ?_, fun h hh => absurd hh (hNoP h), fun h hh _ => absurd hh (hNoB h)⟩
  · show (readerOf crc g cat).hdrP (readAt d0 g.lss g.lss) = none
    simp only [readerOf]
  · show (readerOf crc g cat).hdrB (readAt d0 (g.hB * g.lss) g.lss) = none
    simp only [readerOf]

/-- `t`: an initialised table (as gpt.Read returns it, then edited); `d0`: any device with a valid primary GPT
    of `t`'s geometry whose last sector, if it validates as a backup header, describes that geometry -/
theorem crash_atomic_flatG (c : Cfg) (hpl : c.pmbrLast = true) (crc : Bytes → Nat) (hcrc : ∀ b, crc b < two32)
    (d0 : Dev) (t : Table) (size : Nat) (ws : List Wr) (t' : Table)
    (hg : GeomWF t size) (hpm : t.pmbr = true) (hw : writeUp c crc t size = .ok (ws, t'))
    (hOld : OldOkFlatG crc d0 (geoOf t)) (hOldB : BStdG crc d0 (geoOf t))
    (hColl : NoCrcCollisionG crc t.lss (readAt d0 (2 * t.lss) (arrBytes t)) (readAt (applyWrs d0 ws) (2 * t.lss) (arrBytes t)))
    (k : Nat) (keep : Nat → Bool) :
    ∃ po pn, outOf (Gpt.read c crc d0 size t.lss).1 = .ok po false ∧
      outOf (Gpt.read c crc (applyWrs d0 ws) size t.lss).1 = .ok pn false ∧
      ((outOf (Gpt.read c crc (crashDev d0 t.lss ws k keep) size t.lss).1).parts? = some po ∨
       (outOf (Gpt.read c crc (crashDev d0 t.lss ws k keep) size t.lss).1).parts? = some pn) := by
  obtain ⟨G, gp, gab⟩ := geoOf_ok t size hg
  have hcat := fun d off => asm_secs (lay_of G) d off
  obtain ⟨hNewOk, hPdN, hBdN, _, hCrash⟩ := write_crash_view c hpl crc hcrc d0 t size ws t' hg hpm hw rfl _ hcat k keep
  generalize applyWrs d0 ws = dN at *
  obtain ⟨hPd0, hOldOk⟩ := oldOk_view _ (hcat d0) hOld
  obtain ⟨hPD, hBD⟩ := crash_std crc (geoOf t) d0 dN _ hCrash hPd0 hOldB hPdN hBdN
  have rv := fun d => read_view c crc d G rfl _ (hcat d)
  rw [show t.lss = (geoOf t).lss from rfl, rv d0 hPd0 hOldB, rv dN hPdN hBdN, rv _ hPD hBD]
  refine ⟨_, _, old_reads_primary _ _ hOldOk, complete_reads_primary _ _ hNewOk,
    crash_atomic_parts _ false _ _ hOldOk hNewOk ?_ _ hCrash⟩
  intro keepF hc
  -- the record level tears over `Fin p`, the flat premise over all of `Nat`: extend the subset by `false`
  obtain ⟨keep', rfl⟩ : ∃ keep' : Nat → Bool, keepF = fun i => keep' i.val :=
    ⟨fun i => if h : i < _ then keepF ⟨i, h⟩ else false, funext fun i => by simp only [i.isLt, dif_pos]⟩
  rw [← gab] at hColl
  simp only [readerOf, viewOf, cat_mix (lay_of G) _ hcat, hcat] at hc ⊢
  exact (hColl _ hc).imp (congrArg (decodeArr · _)) (congrArg (decodeArr · _))

/-- first-ever write: `hNoP` and `hNoB` hold of a blank disk, an MBR disk, garbage -/
theorem blank_old_flatG (c : Cfg) (hpl : c.pmbrLast = true) (crc : Bytes → Nat) (hcrc : ∀ b, crc b < two32)
    (d0 : Dev) (t : Table) (size : Nat) (ws : List Wr) (t' : Table)
    (hg : GeomWF t size) (hpm : t.pmbr = true) (hw : writeUp c crc t size = .ok (ws, t'))
    (hNoP : ∀ h, readHeader crc (readAt d0 t.lss t.lss) ≠ .ok h)
    (hNoB : ∀ h, readHeader crc (readAt d0 (offBH t) t.lss) ≠ .ok h)
    (k : Nat) (keep : Nat → Bool) :
    ∃ pn, outOf (Gpt.read c crc d0 size t.lss).1 = .err ∧
      outOf (Gpt.read c crc (applyWrs d0 ws) size t.lss).1 = .ok pn false ∧
      (outOf (Gpt.read c crc (crashDev d0 t.lss ws k keep) size t.lss).1 = .err ∨
       (outOf (Gpt.read c crc (crashDev d0 t.lss ws k keep) size t.lss).1).parts? = some pn) := by
  obtain ⟨G, gp, gab⟩ := geoOf_ok t size hg
  have hcat := fun d off => asm_secs (lay_of G) d off
  obtain ⟨hNewOk, hPdN, hBdN, _, hCrash⟩ := write_crash_view c hpl crc hcrc d0 t size ws t' hg hpm hw rfl _ hcat k keep
  generalize applyWrs d0 ws = dN at *
  obtain ⟨hP0, hB0, hPd0, hBd0⟩ := blank_std crc (geoOf t) d0 (asm (geoOf t).lss (geoOf t).ab) hNoP hNoB
  obtain ⟨hPD, hBD⟩ := crash_std crc (geoOf t) d0 dN _ hCrash hPd0 hBd0 hPdN hBdN
  have rv := fun d => read_view c crc d G rfl _ (hcat d)
  rw [show t.lss = (geoOf t).lss from rfl, rv d0 hPd0 hBd0, rv dN hPdN hBdN, rv _ hPD hBD]
  exact ⟨_, blank_reads_err _ _ hP0 hB0, complete_reads_primary _ _ hNewOk, blank_old _ false _ _ hP0 hB0 hNewOk _ hCrash⟩

theorem first_write_atomic_flatG (c : Cfg) (hpl : c.pmbrLast = true) (hab : c.arrayBounded = true)
    (crc : Bytes → Nat) (hcrc : ∀ b, crc b < two32)
    (d0 : Dev) (t : Table) (size : Nat) (ws : List Wr) (t' : Table)
    (hg : GeomWF t size) (hpm : t.pmbr = true) (hw : writeUp c crc t size = .ok (ws, t'))
    (hNoP : ∀ h, readHeader crc (readAt d0 t.lss t.lss) ≠ .ok h)
    (hNoB : ∀ h, readHeader crc (readAt d0 (offBH t) t.lss) ≠ .ok h)
    (k : Nat) (keep : Nat → Bool) :
    ∃ pn, outP (PartTable.read c crc (applyWrs d0 ws) size t.lss).1 = .gpt pn ∧
      (outP (PartTable.read c crc (crashDev d0 t.lss ws k keep) size t.lss).1 =
          outP (PartTable.read c crc d0 size t.lss).1 ∨
       outP (PartTable.read c crc (crashDev d0 t.lss ws k keep) size t.lss).1 = .gpt pn) := by
  obtain ⟨G, gp, gab⟩ := geoOf_ok t size hg
  have hcat := fun d off => asm_secs (lay_of G) d off
  obtain ⟨hNewOk, hPdN, hBdN, _, hCrash⟩ := write_crash_view c hpl crc hcrc d0 t size ws t' hg hpm hw rfl _ hcat k keep
  generalize applyWrs d0 ws = dN at *
  obtain ⟨hP0, hB0, hPd0, hBd0⟩ := blank_std crc (geoOf t) d0 (asm (geoOf t).lss (geoOf t).ab) hNoP hNoB
  obtain ⟨hPD, hBD⟩ := crash_std crc (geoOf t) d0 dN _ hCrash hPd0 hBd0 hPdN hBdN
  have rv := fun d => partread_view c hab crc d G rfl _ (hcat d)
  rw [show t.lss = (geoOf t).lss from rfl, rv d0 hPd0 hBd0, rv dN hPdN hBdN, rv _ hPD hBD]
  refine ⟨_, ?_, first_write_atomic _ mbrViewFlat _ _ hP0 hB0 hNewOk _ hCrash⟩
  simp only [partRead, complete_reads_primary _ _ hNewOk]

end Diskfs.GptCrash
