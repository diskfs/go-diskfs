/-
  For C12 (Props/C12.lean): what the readers see on the device iso9660 Finalize leaves behind
  (Model/Iso/Writes.lean `ImageIn.imageOn`: the WriteAt calls of a plain image over ARBITRARY prior content).
  The 32 KiB system area reads zero, the primary volume descriptor `encodePVD` sits at byte 32768 and the set
  terminator behind it, so iso9660.Read's header tests and its descriptor loop (Model/DetectMid.lean `isoMid`)
  go through to `deep`.
-/
import DiskfsModel.Model.DetectMid
import DiskfsModel.Proofs.Detect
import DiskfsModel.Proofs.IsoWrites
namespace Diskfs.Detect
open Diskfs.Iso

theorem encodePVD_head (p : PVD) : (encodePVD p).take 7 = pvdMagic := by
  simp [encodePVD, pvdMagic]

theorem terminator_head : terminator.take 6 = [255, 0x43, 0x44, 0x30, 0x30, 0x31] := rfl

/-- the three regions the probes look at, on the device Finalize leaves (block size 2048, the only one whose
    descriptors the readers find: finding iso-blocksize-unrecognised) -/
theorem iso_image_regions (i : ImageIn) (d0 : Dev) (hbs : i.bs = 2048) (hp : i.pvd.WF) (hpl : i.Placed) :
    (∀ j, j < 32768 → i.imageOn d0 j = 0) ∧
    readAt (i.imageOn d0) 32768 2048 = encodePVD i.pvd ∧
    readAt (i.imageOn d0) 34816 2048 = terminator := by
  have hdisj := placed_writes_disjoint i (by omega) hp hpl
  have r1 := readAt_applyWrs_mem d0 i.writes hdisj ⟨0, zeros (16 * i.bs)⟩ (by simp [ImageIn.writes])
  have r2 := image_pvd_on i d0 hdisj hp
  have r3 := readAt_applyWrs_mem d0 i.writes hdisj ⟨17 * i.bs, terminator⟩ (by simp [ImageIn.writes])
  rw [← imageOn_eq, zeros_length, hbs] at r1
  rw [← imageOn_eq, terminator_length, hbs] at r3
  rw [hbs] at r2
  refine ⟨fun j hj => ?_, r2, r3⟩
  have := readAt_getD (i.imageOn d0) 0 (16 * 2048) j hj
  rwa [r1, zeros_getD, Nat.zero_add, eq_comm] at this

/-- 38912 = 32768 + 4096 + 2048 is iso9660.Read's minimum size (system area, two descriptors, one block);
    36864 = 34816 + 2048 is where the set terminator ends -/
theorem iso_read_on_regions (img : Dev) (p : PVD) (size avail : Nat) (deep : Verdict)
    (r2 : readAt img 32768 2048 = encodePVD p) (r3 : readAt img 34816 2048 = terminator)
    (hsz : size = 0 ∨ (38912 ≤ size ∧ size ≤ two32 * 2048)) (hav : 36864 ≤ avail) :
    verdictIso img size avail 0 (isoMid img avail deep) = deep := by
  have h7 : readAt img 32768 7 = pvdMagic := by
    rw [← readAt_take_of_le img 32768 2048 7 (by omega), r2, encodePVD_head]
  have h6 := (readAt_take_of_le img 34816 2048 6 (by omega)).symm
  rw [r3, terminator_head] at h6
  simp [readAt, List.range_succ, pvdMagic] at h7 h6
  obtain ⟨i0, i1, i2, i3, i4, i5, i6⟩ := h7
  obtain ⟨j0, j1, j2, j3, j4, j5⟩ := h6
  have ro0 : readOk avail 0 32768 = true := by simp [readOk]; omega
  have ro1 : readOk avail 32768 2048 = true := by simp [readOk]; omega
  have ro2 : readOk avail 34816 2048 = true := by simp [readOk]; omega
  have hmid : isoMid img avail deep = deep := by
    obtain ⟨f, hf⟩ : ∃ f, avail / 2048 + 1 = f + 2 := ⟨avail / 2048 - 1, by omega⟩
    unfold isoMid
    rw [hf]
    simp [isoLoop, isoIdOk, u8, ro1, ro2, i0, i1, i2, i3, i4, i5, i6, j0, j1, j2, j3, j4, j5]
  rw [hmid]
  unfold verdictIso
  rcases hsz with rfl | ⟨hlo, hhi⟩
  · simp [ro0, ro1, u8, i0, i1, i2, i3, i4, i5, i6]
  · have c1 : ¬ (size > two32 * 2048) := by omega
    have c2 : ¬ (size < 32768 + 4096 + 2048) := by omega
    simp [ro0, ro1, u8, i0, i1, i2, i3, i4, i5, i6, c1, c2]

end Diskfs.Detect
