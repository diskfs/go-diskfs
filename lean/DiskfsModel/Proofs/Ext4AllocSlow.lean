/-
  Lemmas about allocateExtents' block-allocation policy (Model/Ext4/AllocSlow.lean): whatever order the sort
  leaves the pieces in, the extents handed out are free, pairwise disjoint, inside their groups and exactly as
  many as asked for; the slow path gives up only when too few blocks are free (or more than 65535 are asked for).

  Inside one group the pieces are followed through FreeList, the cutting, the sort and the taking by the list of
  bit positions they cover (`cover`): for FreeList's runs it is the list of clear positions (`cover_freeRuns`),
  cutting keeps it, sorting permutes it, taking leaves a sublist; that no bit is covered twice, that every bit
  covered is clear and how many there are is read off that one list at the end (`pieces_of_cover`).
-/
import DiskfsModel.Model.Ext4.AllocSlow
import DiskfsModel.Proofs.Ext4Alloc
namespace Diskfs.Ext4.Alloc

theorem drop_cons_step {α : Type} {b : List α} {pos : Nat} {x : α} {xs : List α} (h : b.drop pos = x :: xs) :
    b[pos]? = some x ∧ b.drop (pos + 1) = xs := by
  have h1 := congrArg (fun l => l[0]?) h
  have h2 := congrArg (fun l => l.drop 1) h
  exact ⟨by simpa [List.getElem?_drop] using h1, by simpa [List.drop_drop, Nat.add_comm] using h2⟩

/-- the bit positions of a list of pieces `(position, count)`, piece after piece -/
def cover (cs : List (Nat × Nat)) : List Nat := cs.flatMap fun c => List.range' c.1 c.2

/-- the positions of the clear bits of `xs`, whose head is bit `pos` -/
def clearAt : Bits → Nat → List Nat
  | [], _ => []
  | false :: xs, pos => pos :: clearAt xs (pos + 1)
  | true :: xs, pos => clearAt xs (pos + 1)

theorem clearAt_nodup : ∀ (xs : Bits) (pos : Nat), (clearAt xs pos).Nodup ∧ ∀ i ∈ clearAt xs pos, pos ≤ i
  | [], _ => by simp [clearAt]
  | true :: xs, pos => by
    obtain ⟨h1, h2⟩ := clearAt_nodup xs (pos + 1)
    exact ⟨h1, fun i hi => by have := h2 i hi; omega⟩
  | false :: xs, pos => by
    obtain ⟨h1, h2⟩ := clearAt_nodup xs (pos + 1)
    exact ⟨List.nodup_cons.2 ⟨fun h => by have := h2 pos h; omega, h1⟩,
      fun i hi => (List.mem_cons.1 hi).elim (fun e => by omega) fun hi => by have := h2 i hi; omega⟩

theorem clearAt_clear (b : Bits) : ∀ (xs : Bits) (pos : Nat), b.drop pos = xs → ∀ i ∈ clearAt xs pos, b[i]? = some false
  | [], _, _, i, h => by simp [clearAt] at h
  | true :: xs, pos, hd, i, h => clearAt_clear b xs (pos + 1) (drop_cons_step hd).2 i h
  | false :: xs, pos, hd, i, h =>
    (List.mem_cons.1 h).elim (fun e => e ▸ (drop_cons_step hd).1) (clearAt_clear b xs (pos + 1) (drop_cons_step hd).2 i)

theorem length_clearAt : ∀ (xs : Bits) (pos : Nat), (clearAt xs pos).length = countFree xs
  | [], _ => rfl
  | true :: xs, pos => by rw [clearAt, length_clearAt xs, countFree_cons]; simp
  | false :: xs, pos => by rw [clearAt, List.length_cons, length_clearAt xs, countFree_cons]; simp; omega

theorem length_cover (cs : List (Nat × Nat)) : (cover cs).length = (cs.map (·.2)).sum := by
  induction cs with
  | nil => rfl
  | cons c cs ih => simp [cover, List.flatMap_cons] at ih ⊢

/-- FreeList's runs laid end to end are the clear positions, in order; `cur` is the open run, which ends at `pos` -/
theorem cover_freeRunsAux : ∀ (xs : Bits) (pos : Nat) (cur : Option (Nat × Nat)), (∀ r, cur = some r → r.1 + r.2 = pos) →
    cover (freeRunsAux xs pos cur) = (cur.elim [] fun r => List.range' r.1 r.2) ++ clearAt xs pos
  | [], _, none, _ => rfl
  | [], _, some r, _ => by simp [freeRunsAux, cover, clearAt]
  | false :: xs, pos, none, _ => by
    rw [freeRunsAux, cover_freeRunsAux xs (pos + 1) (some (pos, 1)) (by simp)]; rfl
  | false :: xs, pos, some (p, c), h => by
    obtain rfl := h _ rfl
    rw [freeRunsAux, cover_freeRunsAux xs (p + c + 1) (some (p, c + 1)) (by simp; omega)]
    simp [clearAt, List.range'_1_concat]
  | true :: xs, pos, none, _ => by
    rw [freeRunsAux, cover_freeRunsAux xs (pos + 1) none (by simp)]; rfl
  | true :: xs, pos, some r, _ => by
    rw [freeRunsAux, cover, List.flatMap_cons, ← cover, cover_freeRunsAux xs (pos + 1) none (by simp)]; rfl


theorem cover_freeRuns (b : Bits) : cover (freeRuns b) = clearAt b 0 := by
  simpa [freeRuns] using cover_freeRunsAux b 0 none (by simp)

/-- the pieces a run is cut into cover the run, and none is empty -/
theorem cover_chunksF : ∀ (fuel start len : Nat), len ≤ fuel →
    cover (chunksF fuel start len) = List.range' start len ∧ ∀ c ∈ chunksF fuel start len, 0 < c.2
  | 0, _, len, h => by obtain rfl : len = 0 := by omega
                       simp [chunksF, cover]
  | fuel + 1, start, len, h => by
    by_cases hl : len = 0
    · subst hl; simp [chunksF, cover]
    · simp only [chunksF, hl, if_false]
      generalize hm : min len maxBlocksPerExtent = m
      have hmm : 0 < m ∧ m ≤ len := by rw [← hm]; simp only [maxBlocksPerExtent]; omega
      obtain ⟨h1, h2⟩ := cover_chunksF fuel (start + m) (len - m) (by omega)
      refine ⟨?_, fun c hc => (List.mem_cons.1 hc).elim (fun e => e ▸ hmm.1) (h2 c)⟩
      rw [cover, List.flatMap_cons, ← cover, h1, List.range'_append_1, Nat.add_sub_cancel' hmm.2]

theorem candidates_spec (b : Bits) : cover (candidates b) = clearAt b 0 ∧ ∀ c ∈ candidates b, 0 < c.2 := by
  refine ⟨?_, fun c hc => ?_⟩
  · rw [← cover_freeRuns]
    simp only [cover, candidates, List.flatMap_assoc]
    congr 1; funext r
    exact (cover_chunksF r.2 r.1 r.2 (Nat.le_refl _)).1
  · obtain ⟨r, _, hr⟩ := List.mem_flatMap.1 hc
    exact (cover_chunksF r.2 r.1 r.2 (Nat.le_refl _)).2 c hr

/-- the pieces taken are prefixes of pieces offered; when blocks are still needed afterwards, every piece was
    taken whole -/
theorem takeCands_spec : ∀ (cs : List (Nat × Nat)) (extra : Nat), (∀ c ∈ cs, 0 < c.2) →
    (cover (takeCands cs extra).1).Sublist (cover cs) ∧ (∀ p ∈ (takeCands cs extra).1, 0 < p.2) ∧
    (((takeCands cs extra).1.map (·.2)).sum + (takeCands cs extra).2 = extra) ∧
    (0 < (takeCands cs extra).2 → ((takeCands cs extra).1.map (·.2)).sum = (cs.map (·.2)).sum)
  | [], extra, _ => by simp [takeCands, cover]
  | c :: cs, extra, hp => by
    by_cases he : extra = 0
    · subst he; simp [takeCands, cover]
    · simp only [takeCands, he, if_false]
      generalize ht : (if c.2 ≥ extra then extra else c.2) = t
      replace ht : t ≤ c.2 ∧ t ≤ extra ∧ (t = c.2 ∨ t = extra) := by rw [← ht]; split <;> omega
      have hc := hp c (List.mem_cons_self ..)
      obtain ⟨i1, i2, i3, i4⟩ := takeCands_spec cs (extra - t) fun c' hc' => hp c' (List.mem_cons_of_mem _ hc')
      refine ⟨(List.range'_sublist_right.2 ht.1).append i1,
        fun p hp' => (List.mem_cons.1 hp').elim (fun e => by subst e; simp only; omega) (i2 p),
        by simp only [List.map_cons, List.sum_cons]; omega, fun hpos => ?_⟩
      -- blocks are still needed after this piece, so it was taken whole
      have := i4 hpos
      simp only [List.map_cons, List.sum_cons, this]
      omega

/-- a piece of clear bits of `b` -/
def Piece (b : Bits) (c : Nat × Nat) : Prop := 0 < c.2 ∧ ∀ i, c.1 ≤ i → i < c.1 + c.2 → b[i]? = some false

/-- two pieces share no bit -/
def Disj (a c : Nat × Nat) : Prop := a.1 + a.2 ≤ c.1 ∨ c.1 + c.2 ≤ a.1

/-- pieces, none empty, that cover clear bits of `b` and no bit twice -/
theorem pieces_of_cover (b : Bits) : ∀ (cs : List (Nat × Nat)), (∀ c ∈ cs, 0 < c.2) → (cover cs).Nodup →
    (∀ i ∈ cover cs, b[i]? = some false) → (∀ c ∈ cs, Piece b c) ∧ cs.Pairwise Disj
  | [], _, _, _ => by simp
  | c :: cs, hp, hnd, hclr => by
    rw [cover, List.flatMap_cons, ← cover] at hnd hclr
    obtain ⟨_, hnd2, hdis⟩ := List.nodup_append.1 hnd
    obtain ⟨i1, i2⟩ := pieces_of_cover b cs (fun c' hc' => hp c' (List.mem_cons_of_mem _ hc')) hnd2
      fun i hi => hclr i (List.mem_append_right _ hi)
    have hc := hp c (List.mem_cons_self ..)
    refine ⟨List.forall_mem_cons.2 ⟨⟨hc, fun i h1 h2 => hclr i (List.mem_append_left _ (List.mem_range'_1.2 ⟨h1, h2⟩))⟩, i1⟩,
      List.pairwise_cons.2 ⟨fun c' hc' => ?_, i2⟩⟩
    -- otherwise the later of the two first bits belongs to both pieces
    have hpos := hp c' (List.mem_cons_of_mem _ hc')
    have := hdis (max c.1 c'.1)
    rw [Disj]
    apply Classical.byContradiction
    intro hno
    exact this (List.mem_range'_1.2 (by omega)) (max c.1 c'.1)
      (List.mem_flatMap.2 ⟨c', hc', List.mem_range'_1.2 (by omega)⟩) rfl

/-- two extents share no block -/
def RunDisj (a c : Run) : Prop := a.1 ≠ c.1 ∨ a.2.1 + a.2.2 ≤ c.2.1 ∨ c.2.1 + c.2.2 ≤ a.2.1

/-- an extent made of clear bits of its group's block bitmap in state `s` -/
def GoodRun (s : Acc) (r : Run) : Prop := ∃ g, s.groups[r.1]? = some g ∧ Piece g.bbm (r.2.1, r.2.2)

theorem goodRun_of_bbm {s : Acc} {r : Run} {b : Bits} (hb : (s.groups.map (·.bbm))[r.1]? = some b)
    (hp : Piece b (r.2.1, r.2.2)) : GoodRun s r := by
  rw [List.getElem?_map, Option.map_eq_some_iff] at hb
  obtain ⟨g, hg, rfl⟩ := hb
  exact ⟨g, hg, hp⟩

theorem totalFree_cons (b : Bits) (bs : List Bits) : totalFree (b :: bs) = countFree b + totalFree bs := by
  simp [totalFree]

theorem totalFree_of_accInv (s : Acc) (h : AccInv s) : totalFree (s.groups.map (·.bbm)) = s.sbFreeBlocks := by
  obtain ⟨hg, hb, _⟩ := h
  rw [hb]
  simp only [totalFree, List.map_map]
  exact congrArg List.sum (List.map_congr_left fun g hgm => (hg g hgm).1.symm)

theorem slowGroups_spec (order : Nat → List (Nat × Nat) → List (Nat × Nat))
    (horder : ∀ g l, (order g l).Perm l) (s : Acc) :
    ∀ (bs : List Bits) (g extra : Nat), (s.groups.map (·.bbm)).drop g = bs →
      (extra ≤ maxUint16 → slowGroups order bs g extra ≠ none) ∧
      ∀ rs e, slowGroups order bs g extra = some (rs, e) →
        (∀ r ∈ rs, g ≤ r.1 ∧ GoodRun s r) ∧ rs.Pairwise RunDisj ∧
        (rs.map (·.2.2)).sum + e = extra ∧ (0 < e → (rs.map (·.2.2)).sum = totalFree bs) := by
  intro bs
  induction bs with
  | nil =>
    intro g extra _
    simp only [slowGroups]
    exact ⟨fun _ => by simp, by rintro _ _ ⟨⟩; simp [totalFree]⟩
  | cons b bs ih =>
    intro g extra hdrop
    obtain ⟨hget, hdrop'⟩ := drop_cons_step hdrop
    by_cases he : extra = 0
    · subst he
      simp only [slowGroups, if_true]
      exact ⟨fun _ => by simp, by rintro _ _ ⟨⟩; simp⟩
    by_cases hbig : extra > maxUint16
    · simp only [slowGroups, he, hbig, if_false, if_true]
      exact ⟨fun h => by omega, fun rs e h => by cases h⟩
    -- the pieces of this group, in the order the sort left them
    obtain ⟨c1, c2⟩ := candidates_spec b
    have hperm := horder g (candidates b)
    have hcov : (cover (order g (candidates b))).Perm (clearAt b 0) := c1 ▸ hperm.flatMap_right _
    obtain ⟨u1, u2, t3, t4⟩ := takeCands_spec (order g (candidates b)) extra fun c hc => c2 c (hperm.mem_iff.1 hc)
    rw [← length_cover (order g (candidates b)), hcov.length_eq, length_clearAt] at t4
    -- the bits taken are among those offered: clear bits of `b`, none twice
    obtain ⟨t1, t2⟩ := pieces_of_cover b _ u2 (u1.nodup (hcov.nodup_iff.2 (clearAt_nodup b 0).1))
      fun i hi => clearAt_clear b b 0 rfl i (hcov.mem_iff.1 (u1.subset hi))
    generalize htk : takeCands (order g (candidates b)) extra = tk at t1 t2 t3 t4
    obtain ⟨ihn, ihs⟩ := ih (g + 1) tk.2 hdrop'
    have hunf : slowGroups order (b :: bs) g extra =
        match slowGroups order bs (g + 1) tk.2 with
        | none => none
        | some (rs, e) => some (tk.1.map (fun p => (g, p.1, p.2)) ++ rs, e) := by
      simp only [slowGroups, he, hbig, if_false, htk]
      rfl
    rw [hunf]
    cases hsg : slowGroups order bs (g + 1) tk.2 with
    | none => exact ⟨fun _ => absurd hsg (ihn (by omega)), fun rs e h => by cases h⟩
    | some v =>
      obtain ⟨rs', e'⟩ := v
      obtain ⟨s1, s2, s3, s4⟩ := ihs rs' e' hsg
      refine ⟨fun _ => by simp, ?_⟩
      rintro _ _ ⟨⟩
      have hsum : ((tk.1.map (fun p => ((g, p.1, p.2) : Run)) ++ rs').map (·.2.2)).sum =
          (tk.1.map (·.2)).sum + (rs'.map (·.2.2)).sum := by
        simp [List.map_append, List.sum_append, List.map_map, Function.comp_def]
      refine ⟨?_, List.pairwise_append.2 ⟨?_, s2, ?_⟩, by rw [hsum]; omega, fun hpos => ?_⟩
      · intro r hr
        rcases List.mem_append.1 hr with hr | hr
        · obtain ⟨p, hp, rfl⟩ := List.mem_map.1 hr
          exact ⟨Nat.le_refl _, goodRun_of_bbm hget (t1 p hp)⟩
        · exact ⟨by have := (s1 r hr).1; omega, (s1 r hr).2⟩
      · rw [List.pairwise_map]
        exact t2.imp (fun h => Or.inr h)
      · intro a ha c hc
        obtain ⟨p, _, rfl⟩ := List.mem_map.1 ha
        have := (s1 c hc).1
        left; simp only; omega
      · rw [hsum, totalFree_cons, s4 hpos, t4 (by omega)]

theorem runFree_of_good (s : Acc) (r : Run) (h : GoodRun s r) : runFree s r = true := by
  obtain ⟨g, hg, _, hp⟩ := h
  exact (runFree_iff s r).2 ⟨g, hg, (allAre_iff false g.bbm r.2.1 r.2.2).2 hp⟩

theorem goodRun_markRun (s : Acc) (r r' : Run) (h' : GoodRun s r') (hd : RunDisj r r') : GoodRun (markRun s r) r' := by
  obtain ⟨g, hg, hpos, hp⟩ := h'
  simp only [GoodRun, markRun, modifyAt_getElem?]
  by_cases hj : r'.1 = r.1
  · rw [if_pos hj, hg]
    refine ⟨_, rfl, hpos, fun i h1 h2 => ?_⟩
    have hdd := hd.resolve_left fun h => h hj.symm
    simp only [setRun_get]
    rw [if_neg (by simp only at h1 h2; omega)]
    exact hp i h1 h2
  · rw [if_neg hj]
    exact ⟨g, hg, hpos, hp⟩

theorem runsOK_of_good : ∀ (rs : List Run) (s : Acc), (∀ r ∈ rs, GoodRun s r) → rs.Pairwise RunDisj →
    runsOK s rs = true := by
  intro rs
  induction rs with
  | nil => intro s _ _; rfl
  | cons r rs ih =>
    intro s hg hpw
    obtain ⟨hr, hrest⟩ := List.pairwise_cons.1 hpw
    simp only [runsOK, Bool.and_eq_true]
    refine ⟨runFree_of_good s r (hg r (List.mem_cons_self ..)), ih (markRun s r) ?_ hrest⟩
    intro r' hr'
    exact goodRun_markRun s r r' (hg r' (List.mem_cons_of_mem _ hr')) (hr r' hr')

theorem allocPolicy_spec (order : Nat → List (Nat × Nat) → List (Nat × Nat))
    (horder : ∀ g l, (order g l).Perm l) (s : Acc) (n : Nat) (hn : 0 < n) :
    (∀ rs, allocPolicy order (s.groups.map (·.bbm)) n = some rs →
      (∀ r ∈ rs, GoodRun s r) ∧ rs.Pairwise RunDisj ∧ (rs.map (·.2.2)).sum = n ∧ runsOK s rs = true) ∧
    (allocPolicy order (s.groups.map (·.bbm)) n = none →
      maxUint16 < n ∨ totalFree (s.groups.map (·.bbm)) < n) := by
  obtain ⟨hnn, hsome⟩ := slowGroups_spec order horder s (s.groups.map (·.bbm)) 0 n (by simp)
  have hslow : (∀ rs, slowAlloc order (s.groups.map (·.bbm)) n = some rs →
        (∀ r ∈ rs, GoodRun s r) ∧ rs.Pairwise RunDisj ∧ (rs.map (·.2.2)).sum = n) ∧
      (slowAlloc order (s.groups.map (·.bbm)) n = none → maxUint16 < n ∨ totalFree (s.groups.map (·.bbm)) < n) := by
    unfold slowAlloc
    cases hsg : slowGroups order (s.groups.map (·.bbm)) 0 n with
    | none => exact ⟨fun _ => nofun, fun _ => .inl (Nat.lt_of_not_le fun h1 => hnn h1 hsg)⟩
    | some v =>
      obtain ⟨rs, e⟩ := v
      obtain ⟨s1, s2, s3, s4⟩ := hsome rs e hsg
      cases e with
      | zero =>
        refine ⟨fun rs' h => ?_, fun h => by cases h⟩
        cases h
        exact ⟨fun r hr => (s1 r hr).2, s2, by omega⟩
      | succ e => exact ⟨fun _ => nofun, fun _ => .inr (by have := s4 (by omega); omega)⟩
  unfold allocPolicy
  split
  · rename_i g p heq
    refine ⟨fun rs h => ?_, fun h => by cases h⟩
    cases h
    split at heq
    · obtain ⟨bm, hget, hlen, hbits⟩ := fastPick_spec (s.groups.map (·.bbm)) n g p hn heq
      have hgood : GoodRun s (g, p, n) := goodRun_of_bbm hget ⟨hn, hbits⟩
      exact ⟨by simpa using hgood, by simp, by simp, by simp only [runsOK, Bool.and_true]; exact runFree_of_good s _ hgood⟩
    · cases heq
  · exact ⟨fun rs h => let ⟨k1, k2, k3⟩ := hslow.1 rs h; ⟨k1, k2, k3, runsOK_of_good rs s k1 k2⟩, hslow.2⟩

end Diskfs.Ext4.Alloc
