/-
  Re-opening the tree model's volume from its bytes (Model/Fat/TreeImg.lean):
  `reopen (image s) = tabs s`.  The images of the directories are written through pairwise disjoint
  chains, so each reads back as written and the files' chains are untouched (`image_facts`); a
  reader that finds that (`SubOk`) parses every directory back to its children's entries and walks
  their chains, by mutual induction over the tree (`reopen_kids`).  Core Lean only.
-/
import DiskfsModel.Model.Fat.TreeImg
import DiskfsModel.Proofs.FatTreeFit
import DiskfsModel.Proofs.FatDir
namespace Diskfs.Fat

theorem dirWrs_in_chain (io : IOGeom) (chain : List Nat) (img : Bytes) :
    ∀ w ∈ dirWrs io chain img, w.data.length = 0 ∨ ∃ c ∈ chain, InCluster io c w :=
  fun w hw => Or.inr (dirWrs_in io chain img w hw)

theorem dirWrs_bytes (io : IOGeom) (chain : List Nat) (img : Bytes) (d : Dev)
    (hnd : chain.Nodup) (h2 : ∀ c ∈ chain, 2 ≤ c) (hl : img.length = chain.length * io.bpc) :
    chainBytes (applyWrs d (dirWrs io chain img)) io chain = img := by
  rw [(dirWrs_through io chain img).effect hnd h2, put, chainBytes_length, List.take_zero, Nat.sub_zero,
    List.take_of_length_le (by omega), List.drop_of_length_le (by rw [chainBytes_length]; omega)]
  simp

theorem jobWrs_cons (io : IOGeom) (j : List Nat × Bytes) (js : List (List Nat × Bytes)) :
    jobWrs io (j :: js) = dirWrs io j.1 j.2 ++ jobWrs io js := by
  simp [jobWrs]

theorem jobWrs_in (io : IOGeom) (js : List (List Nat × Bytes)) :
    ∀ w ∈ jobWrs io js, ∃ c ∈ (js.map (·.1)).flatten, InCluster io c w := by
  intro w hw
  unfold jobWrs at hw
  obtain ⟨j, hj, hwj⟩ := List.mem_flatMap.1 hw
  obtain ⟨c, hc, h⟩ := dirWrs_in io j.1 j.2 w hwj
  exact ⟨c, List.mem_flatten.2 ⟨j.1, List.mem_map.2 ⟨j, hj, rfl⟩, hc⟩, h⟩

theorem jobs_other (io : IOGeom) (js : List (List Nat × Bytes)) (d : Dev)
    (h2 : ∀ c ∈ (js.map (·.1)).flatten, 2 ≤ c) (o : List Nat) (ho2 : ∀ c ∈ o, 2 ≤ c)
    (hdis : ∀ c ∈ o, c ∉ (js.map (·.1)).flatten) :
    chainBytes (applyWrs d (jobWrs io js)) io o = chainBytes d io o :=
  chainBytes_other d io _ o _ (jobWrs_in io js) h2 ho2 hdis

theorem jobs_bytes (io : IOGeom) : ∀ (js : List (List Nat × Bytes)) (d : Dev),
    (js.map (·.1)).flatten.Nodup → (∀ c ∈ (js.map (·.1)).flatten, 2 ≤ c) →
    (∀ j ∈ js, j.2.length = j.1.length * io.bpc) →
    ∀ j ∈ js, chainBytes (applyWrs d (jobWrs io js)) io j.1 = j.2
  | [], _, _, _, _ => by intro j hj; cases hj
  | j0 :: js, d, hnd, h2, hlen => by
    intro j hj
    simp only [List.map_cons, List.flatten_cons] at hnd h2
    obtain ⟨hnd0, hndr, hdis⟩ := List.nodup_append.1 hnd
    have h20 : ∀ c ∈ j0.1, 2 ≤ c := fun c hc => h2 c (List.mem_append_left _ hc)
    have h2r : ∀ c ∈ (js.map (·.1)).flatten, 2 ≤ c := fun c hc => h2 c (List.mem_append_right _ hc)
    rw [jobWrs_cons, applyWrs_append]
    rcases List.mem_cons.1 hj with rfl | hj
    · rw [jobs_other io js _ h2r j.1 h20 (fun c hc hc' => hdis c hc c hc' rfl)]
      exact dirWrs_bytes io j.1 j.2 d hnd0 h20 (hlen j List.mem_cons_self)
    · exact jobs_bytes io js _ hndr h2r (fun j' hj' => hlen j' (List.mem_cons_of_mem _ hj')) j hj

theorem kidsJobs_nil (X : ImgParams) (bpc par : Nat) : kidsJobs X bpc par [] = [] := by rw [kidsJobs]

theorem kidsJobs_cons (X : ImgParams) (bpc par : Nat) (t : TNode) (ks : List TNode) :
    kidsJobs X bpc par (t :: ks) = t.jobs X bpc par ++ kidsJobs X bpc par ks := by rw [kidsJobs]

theorem jobs_file (X : ImgParams) (bpc par : Nat) (n : Spec.Name) (c : List Nat) (sz : Nat) :
    (TNode.file n c sz).jobs X bpc par = [] := by rw [TNode.jobs]

theorem jobs_dir (X : ImgParams) (bpc par : Nat) (n : Spec.Name) (c : List Nat) (ks : List TNode) :
    (TNode.dir n c ks).jobs X bpc par =
      (c, serDir bpc (dots X (c.headD 0) par ++ ks.map (entOf X))) :: kidsJobs X bpc (c.headD 0) ks := by
  rw [TNode.jobs]

theorem kidsFileOwners_nil : kidsFileOwners [] = [] := by rw [kidsFileOwners]

theorem kidsFileOwners_cons (t : TNode) (ks : List TNode) :
    kidsFileOwners (t :: ks) = t.fileOwners ++ kidsFileOwners ks := by rw [kidsFileOwners]

theorem fileOwners_file (n : Spec.Name) (c : List Nat) (sz : Nat) : (TNode.file n c sz).fileOwners = [c] := by
  rw [TNode.fileOwners]

theorem fileOwners_dir (n : Spec.Name) (c : List Nat) (ks : List TNode) :
    (TNode.dir n c ks).fileOwners = kidsFileOwners ks := by rw [TNode.fileOwners]

mutual
theorem TNode.owners_split (X : ImgParams) (bpc par : Nat) (t : TNode) (a : List Nat) :
    t.owners.count a = ((t.jobs X bpc par).map (·.1)).count a + t.fileOwners.count a := by
  cases t with
  | file n c sz => rw [owners_file, jobs_file, fileOwners_file]; simp
  | dir n c ks =>
    rw [owners_dir, jobs_dir, fileOwners_dir, List.map_cons, List.count_cons, List.count_cons,
      kidsOwners_split X bpc (c.headD 0) ks a]
    simp only
    omega
theorem kidsOwners_split (X : ImgParams) (bpc par : Nat) (ks : List TNode) (a : List Nat) :
    (kidsOwners ks).count a = ((kidsJobs X bpc par ks).map (·.1)).count a + (kidsFileOwners ks).count a := by
  cases ks with
  | nil => rw [kidsOwners_nil, kidsJobs_nil, kidsFileOwners_nil]; simp
  | cons t ks =>
    rw [kidsOwners_cons, kidsJobs_cons, kidsFileOwners_cons, List.map_append, List.count_append,
      List.count_append, List.count_append, TNode.owners_split X bpc par t a, kidsOwners_split X bpc par ks a]
    omega
end

theorem kidsOwners_perm (X : ImgParams) (bpc par : Nat) (ks : List TNode) :
    List.Perm (kidsOwners ks) ((kidsJobs X bpc par ks).map (·.1) ++ kidsFileOwners ks) := by
  rw [List.perm_iff_count]
  intro a
  rw [List.count_append]
  exact kidsOwners_split X bpc par ks a

theorem mkEnt_wf {X : ImgParams} {g : TGeom} {n : Spec.Name} (h : NameOk X g n) (dirBit cl sz : Nat)
    (hb : dirBit = 0 ∨ dirBit = 16) (hcl : cl < 4294967296) (hsz : sz < 4294967296) :
    (mkEnt X n dirBit cl sz).WF := by
  have ha : (X.stamp n).attr + dirBit < 64 ∧ (X.stamp n).attr + dirBit ≠ 15 := by
    have := h.2.2.2.2.1
    omega
  -- only attribute, cluster and size differ from the entry `NameOk` speaks of
  obtain ⟨h1, h2, h3, h4, h5, h6, h7, h8, h9, _, _, h12, h13, h14, h15, h16, h17, _, _, h20, h21, h22⟩ := h.1
  exact ⟨h1, h2, h3, h4, h5, h6, h7, h8, h9, ha.1, ha.2, h12, h13, h14, h15, h16, h17, hcl, hsz, h20, h21, h22⟩

theorem mkEnt_name {X : ImgParams} {g : TGeom} {n : Spec.Name} (h : NameOk X g n) (dirBit cl sz : Nat) :
    entryName (mkEnt X n dirBit cl sz) = n := h.2.1

theorem mkEnt_real {X : ImgParams} {g : TGeom} {n : Spec.Name} (h : NameOk X g n) (dirBit cl sz : Nat)
    (hb : dirBit = 0 ∨ dirBit = 16) : isRealEntry (mkEnt X n dirBit cl sz) = true := by
  obtain ⟨hwf, _, hd1, hd2, hattr, _⟩ := h
  have hne : (X.enc n).short ≠ [] := by
    unfold DirEntry.WF mkEnt at hwf
    exact hwf.2.2.2.2.1
  have hl : (((X.stamp n).attr + dirBit) / 8 % 2 = 1) = False := by
    apply eq_false
    omega
  simp [isRealEntry, DirEntry.isLabel, mkEnt, hne, hd1, hd2, hl]

theorem mkEnt_isDir {X : ImgParams} {g : TGeom} {n : Spec.Name} (h : NameOk X g n) (cl sz : Nat) :
    (mkEnt X n 0 cl sz).isDir = false ∧ (mkEnt X n 16 cl sz).isDir = true := by
  obtain ⟨_, _, _, _, hattr, _⟩ := h
  constructor
  · show decide (((X.stamp n).attr + 0) / 16 % 2 = 1) = false
    apply decide_eq_false; omega
  · show decide (((X.stamp n).attr + 16) / 16 % 2 = 1) = true
    apply decide_eq_true; omega

theorem dotEnt_wf {X : ImgParams} (hm : metaOk X.dotMeta) (nm : List Nat) (hnm : nm = [46] ∨ nm = [46, 46])
    (cl : Nat) (hcl : cl < 4294967296) : (dotEnt X nm cl).WF := by
  obtain ⟨t1, t2, t3, t4, t5⟩ := hm
  unfold DirEntry.WF dotEnt
  simp only
  rcases hnm with rfl | rfl <;>
    exact ⟨by decide, by decide, by decide, by decide, by decide, by decide, by decide, by decide, by decide,
      by decide, by decide, by decide, t1, t2, t3, t4, t5, hcl, by decide, by decide, by decide, by decide⟩

theorem dots_wf {X : ImgParams} (hm : metaOk X.dotMeta) (self par : Nat) (h1 : self < 4294967296)
    (h2 : par < 4294967296) : ∀ e ∈ dots X self par, e.WF := by
  intro e he
  simp only [dots, List.mem_cons, List.mem_nil_iff, or_false] at he
  rcases he with rfl | rfl
  · exact dotEnt_wf hm _ (Or.inl rfl) _ h1
  · exact dotEnt_wf hm _ (Or.inr rfl) _ h2

theorem dots_skip (X : ImgParams) (self par : Nat) : ∀ e ∈ dots X self par, isRealEntry e = false := by
  intro e he
  simp only [dots, List.mem_cons, List.mem_nil_iff, or_false] at he
  rcases he with rfl | rfl <;> simp [isRealEntry, dotEnt]

theorem dots_slots (X : ImgParams) (self par : Nat) : slotCount (dots X self par) = 2 := by
  simp [slotCount, dots, dotEnt, calculateSlots, utf8Len]

theorem serDir_length (bpc : Nat) (hb : 0 < bpc) (es : List DirEntry) :
    (serDir bpc es).length = clusterCount bpc (32 * slotCount es) * bpc := by
  unfold serDir clusterCount
  simp only
  have hL := serEntries_length es
  generalize 32 * slotCount es = S at *
  generalize es.flatMap serEntry = b at *
  have hdm := Nat.div_add_mod S bpc
  have hm := Nat.mod_lt S hb
  rw [Nat.mul_comm bpc] at hdm
  rw [hL]
  split
  · rename_i h0
    rw [if_neg (by omega), Nat.add_zero, hL]
    omega
  · rename_i h0
    rw [if_pos (by omega), List.length_append, hL, zeros_length, Nat.add_mul, Nat.one_mul]
    generalize S / bpc * bpc = q at *
    omega

theorem serDir_eq_zeros (bpc : Nat) (es : List DirEntry) :
    ∃ z, serDir bpc es = es.flatMap serEntry ++ zeros z := by
  unfold serDir
  simp only
  split
  · exact ⟨0, by simp [zeros]⟩
  · exact ⟨_, rfl⟩

theorem parseDir_zeros (es : List DirEntry) (h : ∀ e ∈ es, e.WF) (z : Nat) :
    parseDir (es.flatMap serEntry ++ zeros z) = es := by
  unfold parseDir
  rw [List.length_append, serEntries_length, zeros_length]
  have : (32 * slotCount es + z) / 32 = z / 32 + slotCount es := by omega
  rw [this, parse_ser_entries es h, parseSlots_zeros, List.append_nil]

theorem kidsImgOk_nil (X : ImgParams) (g : TGeom) : kidsImgOk X g [] := by rw [kidsImgOk]; trivial

theorem kidsImgOk_cons (X : ImgParams) (g : TGeom) (t : TNode) (ks : List TNode) :
    kidsImgOk X g (t :: ks) ↔ t.ImgOk X g ∧ kidsImgOk X g ks := by rw [kidsImgOk]

theorem imgOk_file (X : ImgParams) (g : TGeom) (n : Spec.Name) (c : List Nat) (sz : Nat) :
    (TNode.file n c sz).ImgOk X g ↔ NameOk X g n ∧ sz < 4294967296 := by rw [TNode.ImgOk]

theorem imgOk_dir (X : ImgParams) (g : TGeom) (n : Spec.Name) (c : List Nat) (ks : List TNode) :
    (TNode.dir n c ks).ImgOk X g ↔ NameOk X g n ∧ kidsImgOk X g ks := by rw [TNode.ImgOk]

theorem imgOk_name {X : ImgParams} {g : TGeom} {t : TNode} (h : t.ImgOk X g) : NameOk X g t.name := by
  cases t with
  | file n c sz => exact ((imgOk_file X g n c sz).1 h).1
  | dir n c ks => exact ((imgOk_dir X g n c ks).1 h).1

theorem imgOk_rename {X : ImgParams} {g : TGeom} {t : TNode} {n : Spec.Name} (h : t.ImgOk X g) (hn : NameOk X g n) :
    (t.rename n).ImgOk X g := by
  cases t with
  | file n' c sz => rw [imgOk_file] at h; simp only [TNode.rename]; rw [imgOk_file]; exact ⟨hn, h.2⟩
  | dir n' c ks => rw [imgOk_dir] at h; simp only [TNode.rename]; rw [imgOk_dir]; exact ⟨hn, h.2⟩

theorem kidsImgOk_iff (X : ImgParams) (g : TGeom) (ks : List TNode) :
    kidsImgOk X g ks ↔ ∀ t ∈ ks, t.ImgOk X g := by
  induction ks with
  | nil => simp [kidsImgOk_nil]
  | cons t ks ih => rw [kidsImgOk_cons, ih]; simp

theorem entOf_slots {X : ImgParams} {g : TGeom} {t : TNode} (h : t.ImgOk X g) :
    calculateSlots (entOf X t).long + 1 = g.slots t.name := by
  have := (imgOk_name h).2.2.2.2.2
  cases t <;> exact this.symm

theorem slotCount_append (a b : List DirEntry) : slotCount (a ++ b) = slotCount a + slotCount b := by
  simp [slotCount]

theorem slotCount_kids {X : ImgParams} {g : TGeom} {ks : List TNode} (h : kidsImgOk X g ks) :
    slotCount (ks.map (entOf X)) = (ks.map fun t => g.slots t.name).sum := by
  induction ks with
  | nil => rfl
  | cons t ks ih =>
    rw [kidsImgOk_cons] at h
    simp only [slotCount, List.map_cons, List.sum_cons] at ih ⊢
    rw [ih h.2, entOf_slots h.1]

theorem entOf_real {X : ImgParams} {g : TGeom} {t : TNode} (h : t.ImgOk X g) : isRealEntry (entOf X t) = true := by
  cases t with
  | file n c sz => exact mkEnt_real ((imgOk_file X g n c sz).1 h).1 0 _ _ (Or.inl rfl)
  | dir n c ks => exact mkEnt_real ((imgOk_dir X g n c ks).1 h).1 16 _ _ (Or.inr rfl)

theorem entOf_wf {X : ImgParams} {g : TGeom} {m : CMap} (hX : ImgParamsOk X g) {t : TNode} (h : t.ImgOk X g)
    (hch : ∀ o ∈ t.owners, ChainOk g.f.kind g.f.lim m o) : (entOf X t).WF := by
  cases t with
  | file n c sz =>
    rw [imgOk_file] at h
    have := hch c (by rw [owners_file]; exact List.mem_cons_self)
    exact mkEnt_wf h.1 0 _ _ (Or.inl rfl) (Nat.lt_of_lt_of_le (chainOk_head this).2 hX.lim32) h.2
  | dir n c ks =>
    rw [imgOk_dir] at h
    have := hch c (by rw [owners_dir]; exact List.mem_cons_self)
    exact mkEnt_wf h.1 16 _ _ (Or.inr rfl) (Nat.lt_of_lt_of_le (chainOk_head this).2 hX.lim32) (by decide)

theorem kids_ent_wf {X : ImgParams} {g : TGeom} {m : CMap} (hX : ImgParamsOk X g) (ks : List TNode)
    (hok : kidsImgOk X g ks) (hch : ∀ o ∈ kidsOwners ks, ChainOk g.f.kind g.f.lim m o) :
    ∀ e ∈ ks.map (entOf X), e.WF := by
  intro e he
  obtain ⟨t, ht, rfl⟩ := List.mem_map.1 he
  exact entOf_wf hX ((kidsImgOk_iff X g ks).1 hok t ht) (fun o ho => hch o (owners_subset_of_mem ht ho))

theorem level_image_length {X : ImgParams} {g : TGeom} {pre : List DirEntry} {base : Nat} {chain : List Nat}
    {ks : List TNode} (hb : 0 < g.f.io.bpc) (hbase : base = slotCount pre) (hok : kidsImgOk X g ks)
    (hfit : LevelFit g base chain ks) (hne : chain ≠ []) :
    (serDir g.f.io.bpc (pre ++ ks.map (entOf X))).length = chain.length * g.f.io.bpc := by
  rw [serDir_length _ hb, slotCount_append, slotCount_kids hok, hfit.2 hne]
  unfold dirNeed dirSlots
  rw [hbase]

theorem depth_pos (t : TNode) : 1 ≤ t.depth := by
  cases t <;> rw [TNode.depth] <;> omega

theorem kidsDepth_nil : kidsDepth [] = 0 := by rw [kidsDepth]

theorem kidsDepth_cons (t : TNode) (ks : List TNode) : kidsDepth (t :: ks) = Nat.max t.depth (kidsDepth ks) := by
  rw [kidsDepth]

theorem depth_dir (n : Spec.Name) (c : List Nat) (ks : List TNode) : (TNode.dir n c ks).depth = 1 + kidsDepth ks := by
  rw [TNode.depth]

/-- the entries a reader skips (volume label, "." and "..") in front of a list do not count -/
theorem filter_real_skip (pre es : List DirEntry) (h : ∀ e ∈ pre, isRealEntry e = false) :
    (pre ++ es).filter isRealEntry = es.filter isRealEntry := by
  rw [List.filter_append, List.filter_eq_nil_iff.2 (fun a ha => by simp [h a ha]), List.nil_append]

section reopen
variable {X : ImgParams} {g : TGeom} {fuel : Nat} {m : CMap} {D d : Dev}

theorem reopenLvl_cons_real (depth : Nat) (e : DirEntry) (es : List DirEntry) (h : isRealEntry e = true) :
    reopenLvl g.f.kind g.f.max fuel m D g.f.io (depth + 1) (e :: es) =
      reopenNode g.f.kind g.f.max fuel m D g.f.io (reopenLvl g.f.kind g.f.max fuel m D g.f.io depth) e ::
        reopenLvl g.f.kind g.f.max fuel m D g.f.io (depth + 1) es := by
  simp [reopenLvl, h]

theorem reopenLvl_skip (depth : Nat) (pre es : List DirEntry) (h : ∀ e ∈ pre, isRealEntry e = false) :
    reopenLvl g.f.kind g.f.max fuel m D g.f.io depth (pre ++ es) =
      reopenLvl g.f.kind g.f.max fuel m D g.f.io depth es := by
  cases depth with
  | zero => rfl
  | succ depth => rw [reopenLvl, reopenLvl, filter_real_skip pre es h]

/-- what is assumed of one subtree: its chains are chains of the table short enough to walk, its
    directories read back as their images on `D`, its files read on `D` as on `d` -/
structure SubOk (X : ImgParams) (g : TGeom) (fuel : Nat) (m : CMap) (D d : Dev)
    (owners : List (List Nat)) (jobs : List (List Nat × Bytes)) (files : List (List Nat)) : Prop where
  chains : ∀ o ∈ owners, ChainOk g.f.kind g.f.lim m o ∧ o.length ≤ fuel
  dirs : ∀ j ∈ jobs, chainBytes D g.f.io j.1 = j.2
  files : ∀ o ∈ files, chainBytes D g.f.io o = chainBytes d g.f.io o

theorem SubOk.mono {O O' : List (List Nat)} {J J' : List (List Nat × Bytes)} {F F' : List (List Nat)}
    (h : SubOk X g fuel m D d O J F) (hO : O' ⊆ O) (hJ : J' ⊆ J) (hF : F' ⊆ F) : SubOk X g fuel m D d O' J' F' :=
  ⟨fun o ho => h.chains o (hO ho), fun j hj => h.dirs j (hJ hj), fun o ho => h.files o (hF ho)⟩

theorem SubOk.head {par : Nat} {t : TNode} {ks : List TNode}
    (h : SubOk X g fuel m D d (kidsOwners (t :: ks)) (kidsJobs X g.f.io.bpc par (t :: ks)) (kidsFileOwners (t :: ks))) :
    SubOk X g fuel m D d t.owners (t.jobs X g.f.io.bpc par) t.fileOwners := by
  rw [kidsOwners_cons, kidsJobs_cons, kidsFileOwners_cons] at h
  exact h.mono (List.subset_append_left _ _) (List.subset_append_left _ _) (List.subset_append_left _ _)

theorem SubOk.tail {par : Nat} {t : TNode} {ks : List TNode}
    (h : SubOk X g fuel m D d (kidsOwners (t :: ks)) (kidsJobs X g.f.io.bpc par (t :: ks)) (kidsFileOwners (t :: ks))) :
    SubOk X g fuel m D d (kidsOwners ks) (kidsJobs X g.f.io.bpc par ks) (kidsFileOwners ks) := by
  rw [kidsOwners_cons, kidsJobs_cons, kidsFileOwners_cons] at h
  exact h.mono (List.subset_append_right _ _) (List.subset_append_right _ _) (List.subset_append_right _ _)

theorem SubOk.walk {O : List (List Nat)} {J : List (List Nat × Bytes)} {F : List (List Nat)} (hg : TGeomOk g)
    (h : SubOk X g fuel m D d O J F) {c : List Nat} (hc : c ∈ O) :
    walk g.f.kind g.f.max m fuel (c.headD 0) = .ok c :=
  walk_complete hg.lim hg.max (h.chains c hc).1 (h.chains c hc).2

theorem SubOk.dir (hX : ImgParamsOk X g) (hg : TGeomOk g) {n : Spec.Name} {c : List Nat} {ks : List TNode} {par : Nat}
    (hpar : par < 4294967296) (hok : kidsImgOk X g ks)
    (h : SubOk X g fuel m D d (TNode.dir n c ks).owners ((TNode.dir n c ks).jobs X g.f.io.bpc par)
      (TNode.dir n c ks).fileOwners) :
    SubOk X g fuel m D d (kidsOwners ks) (kidsJobs X g.f.io.bpc (c.headD 0) ks) (kidsFileOwners ks) ∧
    c.headD 0 < 4294967296 ∧
    parseDir (chainBytes D g.f.io c) = dots X (c.headD 0) par ++ ks.map (entOf X) := by
  rw [owners_dir, jobs_dir, fileOwners_dir] at h
  have hsub := h.mono (List.subset_cons_self _ _) (List.subset_cons_self _ _) (List.Subset.refl _)
  have hh32 : c.headD 0 < 4294967296 :=
    Nat.lt_of_lt_of_le (chainOk_head (h.chains c List.mem_cons_self).1).2 hX.lim32
  refine ⟨hsub, hh32, ?_⟩
  -- the projections of the pair are reduced by `dsimp`: left to unification, `serDir` gets evaluated
  have hjob := h.dirs (c, serDir g.f.io.bpc (dots X (c.headD 0) par ++ ks.map (entOf X))) List.mem_cons_self
  dsimp only at hjob
  rw [hjob]
  apply dir_parse_ser _ _ _ hg.bpc
  intro e he
  rcases List.mem_append.1 he with he | he
  · exact dots_wf hX.dot _ _ hh32 hpar e he
  · exact kids_ent_wf hX ks hok (fun o ho => (hsub.chains o ho).1) e he

mutual
theorem reopen_node (hX : ImgParamsOk X g) (hg : TGeomOk g) (t : TNode) (par depth : Nat) (hpar : par < 4294967296)
    (hd : t.depth ≤ depth + 1) (hok : t.ImgOk X g)
    (h : SubOk X g fuel m D d t.owners (t.jobs X g.f.io.bpc par) t.fileOwners) :
    reopenNode g.f.kind g.f.max fuel m D g.f.io (reopenLvl g.f.kind g.f.max fuel m D g.f.io depth) (entOf X t)
      = t.abs d g.f.io := by
  cases t with
  | file n c sz =>
    rw [imgOk_file] at hok
    have hwc : walk g.f.kind g.f.max m fuel (entOf X (.file n c sz)).cluster = .ok c :=
      h.walk hg (by rw [owners_file]; exact List.mem_cons_self)
    have hdir : (entOf X (.file n c sz)).isDir = false := (mkEnt_isDir hok.1 _ _).1
    have hname : entryName (entOf X (.file n c sz)) = n := mkEnt_name hok.1 _ _ _
    have hsize : (entOf X (.file n c sz)).size = sz := rfl
    simp only [reopenNode, hwc, hdir, hname, hsize, abs_file]
    unfold fileContent
    rw [h.files c (by rw [fileOwners_file]; exact List.mem_cons_self)]
    simp
  | dir n c ks =>
    rw [imgOk_dir] at hok
    rw [depth_dir] at hd
    have hwc : walk g.f.kind g.f.max m fuel (entOf X (.dir n c ks)).cluster = .ok c :=
      h.walk hg (by rw [owners_dir]; exact List.mem_cons_self)
    have hdir : (entOf X (.dir n c ks)).isDir = true := (mkEnt_isDir hok.1 _ _).2
    have hname : entryName (entOf X (.dir n c ks)) = n := mkEnt_name hok.1 _ _ _
    obtain ⟨hsub, hh32, hparse⟩ := h.dir hX hg hpar hok.2
    simp only [reopenNode, hwc, hdir, hname, if_true, abs_dir, hparse]
    rw [reopenLvl_skip _ _ _ (dots_skip X _ _),
      reopen_kids hX hg ks (c.headD 0) depth hh32 (by omega) hok.2 hsub]
theorem reopen_kids (hX : ImgParamsOk X g) (hg : TGeomOk g) (ks : List TNode) (par depth : Nat) (hpar : par < 4294967296)
    (hd : kidsDepth ks ≤ depth) (hok : kidsImgOk X g ks)
    (h : SubOk X g fuel m D d (kidsOwners ks) (kidsJobs X g.f.io.bpc par ks) (kidsFileOwners ks)) :
    reopenLvl g.f.kind g.f.max fuel m D g.f.io depth (ks.map (entOf X)) = kidsAbs d g.f.io ks := by
  cases ks with
  | nil =>
    rw [kidsAbs_nil]
    cases depth <;> simp [reopenLvl]
  | cons t ks =>
    rw [kidsDepth_cons] at hd
    have hd' : max t.depth (kidsDepth ks) ≤ depth := hd
    have := depth_pos t
    obtain ⟨depth', rfl⟩ : ∃ k, depth = k + 1 := ⟨depth - 1, by omega⟩
    rw [kidsImgOk_cons] at hok
    rw [List.map_cons, reopenLvl_cons_real _ _ _ (entOf_real hok.1), kidsAbs_cons,
      reopen_node hX hg t par depth' hpar (by omega) hok.1 h.head,
      reopen_kids hX hg ks par (depth' + 1) hpar (by omega) hok.2 h.tail]
end

end reopen

mutual
theorem node_jobs_len {X : ImgParams} {g : TGeom} (hb : 0 < g.f.io.bpc) (t : TNode) (par : Nat)
    (hfit : t.Fit g) (hok : t.ImgOk X g) :
    ∀ j ∈ t.jobs X g.f.io.bpc par, j.2.length = j.1.length * g.f.io.bpc := by
  cases t with
  | file n c sz => rw [jobs_file]; intro j hj; cases hj
  | dir n c ks =>
    rw [fit_dir] at hfit
    rw [imgOk_dir] at hok
    rw [jobs_dir]
    intro j hj
    rcases List.mem_cons.1 hj with rfl | hj
    · -- without reducing the projections of the pair first, unification evaluates `serDir`
      dsimp only
      exact level_image_length hb (dots_slots X _ _).symm hok.2 hfit.2.1 hfit.1
    · exact kids_jobs_len hb ks _ hfit.2.2 hok.2 j hj
theorem kids_jobs_len {X : ImgParams} {g : TGeom} (hb : 0 < g.f.io.bpc) (ks : List TNode) (par : Nat)
    (hfit : kidsFit g ks) (hok : kidsImgOk X g ks) :
    ∀ j ∈ kidsJobs X g.f.io.bpc par ks, j.2.length = j.1.length * g.f.io.bpc := by
  cases ks with
  | nil => rw [kidsJobs_nil]; intro j hj; cases hj
  | cons t ks =>
    rw [kidsFit] at hfit
    rw [kidsImgOk_cons] at hok
    rw [kidsJobs_cons]
    intro j hj
    rcases List.mem_append.1 hj with hj | hj
    · exact node_jobs_len hb t par hfit.1 hok.1 j hj
    · exact kids_jobs_len hb ks par hfit.2 hok.2 j hj
end

theorem rootJobs_chains (X : ImgParams) (g : TGeom) (s : DirSt) :
    (rootJobs X g s).map (·.1) = chainOwner s.chain ++ (kidsJobs X g.f.io.bpc (rootParOf X s) s.kids).map (·.1) := by
  unfold rootJobs
  rw [List.map_append, List.map_map]
  congr 1
  exact List.map_id' _

theorem fixedImg_length {cap : Nat} {es : List DirEntry} (h : slotCount es ≤ cap) :
    (fixedImg cap es).length = 32 * cap := by
  unfold fixedImg
  simp only
  rw [List.length_append, zeros_length, serEntries_length]
  omega

theorem rootJobs_len {X : ImgParams} {g : TGeom} {s : DirSt} (hX : ImgParamsOk X g) (hb : 0 < g.f.io.bpc)
    (hfit : TFit g s) (hok : kidsImgOk X g s.kids) :
    ∀ j ∈ rootJobs X g s, j.2.length = j.1.length * g.f.io.bpc := by
  intro j hj
  unfold rootJobs at hj
  rcases List.mem_append.1 hj with hj | hj
  · obtain ⟨c, hc, rfl⟩ := List.mem_map.1 hj
    have hne : s.chain ≠ [] := by intro e; rw [e] at hc; cases hc
    rw [chainOwner_of_ne hne, List.mem_singleton] at hc
    subst hc
    -- projections first, as in `node_jobs_len`
    dsimp only
    exact level_image_length hb hX.pre_slots hok hfit.root hne
  · exact kids_jobs_len hb s.kids _ hfit.kids hok j hj

theorem rootEntries_slots {X : ImgParams} {g : TGeom} {s : DirSt} (hX : ImgParamsOk X g)
    (hfit : TFit g s) (hok : kidsImgOk X g s.kids) (hc : s.chain = []) :
    slotCount (rootEntries X s) ≤ g.rootCap := by
  have := hfit.root.1 hc
  unfold dirSlots at this
  rw [hX.pre_slots] at this
  unfold rootEntries
  rwa [slotCount_append, slotCount_kids hok]

/-- **what the image holds**: every directory's chain reads as the serialisation of its child
    list (behind the volume label, resp. "." and ".."), the fixed root region of FAT12/16 as the
    fixed-size serialisation, and every file's chain as on the model's device. -/
theorem image_facts {eqn : Spec.Name → Spec.Name → Bool} {X : ImgParams} {g : TGeom} {fuel : Nat} {s : DirSt}
    (hX : ImgParamsOk X g) (hg : TGeomOk g) (_hfuel : g.f.lim - 2 ≤ fuel)
    (h : TInv eqn g s) (hfit : TFit g s) (hok : kidsImgOk X g s.kids) :
    (∀ j ∈ rootJobs X g s, chainBytes (image X g s) g.f.io j.1 = j.2) ∧
    (∀ o ∈ kidsFileOwners s.kids, chainBytes (image X g s) g.f.io o = chainBytes s.d g.f.io o) ∧
    (s.chain = [] → readAt (image X g s) g.rootOff (32 * g.rootCap) = fixedImg g.rootCap (rootEntries X s)) := by
  -- the owners are the directories' chains and the files' chains: these share no cluster
  have hInv : Inv g.f.kind g.f.lim s.m ((rootJobs X g s).map (·.1) ++ kidsFileOwners s.kids) := by
    refine inv_perm ?_ h.table
    rw [rootJobs_chains, List.append_assoc]
    exact List.Perm.append_left _ (kidsOwners_perm X g.f.io.bpc (rootParOf X s) s.kids)
  obtain ⟨hndj, _, hdisj⟩ := List.nodup_append.1 (by have := hInv.nodup; rwa [List.flatten_append] at this)
  have h2j : ∀ c ∈ ((rootJobs X g s).map (·.1)).flatten, 2 ≤ c := by
    intro c hc
    obtain ⟨o, ho, hco⟩ := List.mem_flatten.1 hc
    exact inv_ge2 hInv (List.mem_append_left _ ho) c hco
  -- the fixed root region lies in front of every cluster
  have hroot := hg.root
  have hbelow : ∀ c, 2 ≤ c → g.rootOff + 32 * g.rootCap ≤ clusterOff g.f.io c := by
    intro c hc; unfold clusterOff; omega
  refine ⟨jobs_bytes g.f.io (rootJobs X g s) _ hndj h2j (rootJobs_len hX hg.bpc hfit hok), ?_, fun hc => ?_⟩
  · intro o ho
    unfold image
    rw [jobs_other g.f.io _ _ h2j o (inv_ge2 hInv (List.mem_append_right _ ho))
      (fun c hc hc' => hdisj c hc' c (List.mem_flatten.2 ⟨o, ho, hc⟩) rfl)]
    unfold rootWrs
    split
    · rename_i e
      apply frame_below
      simp only
      rw [fixedImg_length (rootEntries_slots hX hfit hok e)]
      exact hroot
    · rfl
  · have hlen := fixedImg_length (rootEntries_slots hX hfit hok hc)
    unfold image
    rw [readAt_applyWrs_disjoint _ _ _ _ (fun w hw => by
      obtain ⟨c, hc', hin⟩ := jobWrs_in g.f.io _ w hw
      exact Or.inl (Nat.le_trans (hbelow c (h2j c hc')) hin.1))]
    unfold rootWrs
    rw [hc]
    have := readAt_applyWr_same s.d ⟨g.rootOff, fixedImg g.rootCap (rootEntries X s)⟩
    rwa [hlen] at this

section image
variable {eqn : Spec.Name → Spec.Name → Bool} {X : ImgParams} {g : TGeom} {fuel : Nat} {s : DirSt}

theorem image_subOk (hX : ImgParamsOk X g) (hg : TGeomOk g) (hfuel : g.f.lim - 2 ≤ fuel)
    (h : TInv eqn g s) (hfit : TFit g s) (hok : kidsImgOk X g s.kids) :
    SubOk X g fuel s.m (image X g s) s.d (kidsOwners s.kids)
      (kidsJobs X g.f.io.bpc (rootParOf X s) s.kids) (kidsFileOwners s.kids) := by
  obtain ⟨hdirs, hfiles, _⟩ := image_facts hX hg hfuel h hfit hok
  exact ⟨fun o ho => inv_chain_fuel h.table hfuel o (List.mem_append_right _ ho),
    fun j hj => hdirs j (by unfold rootJobs; exact List.mem_append_right _ hj), hfiles⟩

theorem root_parse (hX : ImgParamsOk X g) (hg : TGeomOk g) (hfuel : g.f.lim - 2 ≤ fuel)
    (h : TInv eqn g s) (hfit : TFit g s) (hok : kidsImgOk X g s.kids) :
    parseDir (rootBytes g fuel s.m (image X g s) (s.chain.headD 0)) = rootEntries X s := by
  have hcf := inv_chain_fuel h.table hfuel
  obtain ⟨hdirs, _, hfixed⟩ := image_facts hX hg hfuel h hfit hok
  have hwfall : ∀ e ∈ rootEntries X s, e.WF := by
    intro e he
    rcases List.mem_append.1 he with he | he
    · exact hX.pre_wf e he
    · exact kids_ent_wf hX s.kids hok (fun o ho => (hcf o (List.mem_append_right _ ho)).1) e he
  unfold rootBytes
  cases hc : s.chain with
  | nil =>
    rw [if_pos (by rfl), hfixed hc]
    exact parseDir_zeros _ hwfall _
  | cons c cs =>
    obtain ⟨hch, hlen⟩ := hcf (c :: cs) (by rw [hc]; exact List.mem_append_left _ List.mem_cons_self)
    have hjob := hdirs (c :: cs, serDir g.f.io.bpc (rootEntries X s))
      (by unfold rootJobs; rw [hc]; exact List.mem_append_left _ List.mem_cons_self)
    dsimp only at hjob
    have hc2 : 2 ≤ c := (chainOk_head hch).1
    rw [if_neg (by simp only [List.headD_cons]; omega), walk_complete hg.lim hg.max hch hlen]
    simp only [hjob]
    exact dir_parse_ser _ _ hwfall hg.bpc

/-- **re-opening**: a reader that is given only the table and the bytes of the volume — the root
    directory's bytes parsed into entries, volume label, "." and ".." skipped, every entry's chain
    followed through the table from its first cluster, directories parsed in turn, files cut to
    their recorded size — builds exactly the tree the model's abstraction `tabs` reads. -/
theorem reopen_image {depth : Nat}
    (hX : ImgParamsOk X g) (hg : TGeomOk g) (hfuel : g.f.lim - 2 ≤ fuel)
    (h : TInv eqn g s) (hfit : TFit g s) (hok : kidsImgOk X g s.kids) (hd : kidsDepth s.kids ≤ depth) :
    reopen g fuel depth s.m (image X g s) (s.chain.headD 0) = tabs g s := by
  unfold reopen tabs
  rw [root_parse hX hg hfuel h hfit hok, rootEntries, reopenLvl_skip _ _ _ hX.pre_skip]
  exact reopen_kids hX hg s.kids (rootParOf X s) depth hX.par hd hok (image_subOk hX hg hfuel h hfit hok)

end image

end Diskfs.Fat
