/-
  File.Read with the guard `if leftInExtent < 0 { continue }` (the repair of finding
  ext4-read-extent-out-of-order) returns what File.Read without it returns whenever the latter does not panic —
  in particular on every sorted non-overlapping extent list, where all theorems about `sparseRead` (C20) and
  `readE` (C04) therefore hold for the guarded loop as well.  Once for C20's mirror (`sparseLoopC`), once for
  C04's (`readLoopS`).
-/
import DiskfsModel.Model.Ext4.SparseRead
import DiskfsModel.Model.Ext4.FileIO
namespace Diskfs.Ext4.Reader

/-- the two loops take the same way through every iteration except into the branch that panics, which the guard
    (`skip = true`) turns into a `continue` -/
theorem sparseLoopC_eq (skip : Bool) (dev : Dev) (devSize bs startBlock want : Nat) :
    ∀ (es : List Extent) (st : RdSt),
      (skip = true → ∀ st', sparseLoop dev devSize bs startBlock want es st ≠ .panic st') →
      sparseLoopC skip dev devSize bs startBlock want es st = sparseLoop dev devSize bs startBlock want es st := by
  intro es
  induction es with
  | nil => intro st _; rfl
  | cons e es ih =>
    intro st hnp
    rw [sparseLoop] at hnp
    rw [sparseLoopC, sparseLoop]
    extract_lets holeEnd nz st1 extentSize startPos toRead disk st2 at hnp
    extract_lets at ⊢
    by_cases h0 : e.fileBlock + e.count ≤ startBlock
    · simp only [if_pos h0] at hnp ⊢; exact ih st hnp
    simp only [if_neg h0] at hnp ⊢
    by_cases h1 : st.off < holeEnd ∧ st1.got.length ≥ want
    · simp only [if_pos h1]
    simp only [if_neg h1] at hnp ⊢
    by_cases h2 : startPos > extentSize
    · simp only [if_pos h2] at hnp ⊢
      cases skip with
      | false => rfl
      | true => exact absurd rfl (hnp rfl st1)
    simp only [if_neg h2] at hnp ⊢
    by_cases h3 : disk ≥ devSize ∨ disk + toRead > devSize
    · simp only [if_pos h3]
    simp only [if_neg h3] at hnp ⊢
    by_cases h4 : st2.got.length ≥ want
    · simp only [if_pos h4]
    simp only [if_neg h4] at hnp ⊢
    exact ih st2 hnp

theorem sparseLoopC_false (dev : Dev) (devSize bs startBlock want : Nat) :
    ∀ (es : List Extent) (st : RdSt),
      sparseLoopC false dev devSize bs startBlock want es st = sparseLoop dev devSize bs startBlock want es st :=
  fun es st => sparseLoopC_eq false dev devSize bs startBlock want es st nofun

theorem sparseReadC_eq (skip : Bool) (dev : Dev) (devSize bs : Nat) (es : List Extent) (size off n : Nat)
    (h : ∀ o, sparseRead dev devSize bs es size off n ≠ .panic o) :
    sparseReadC skip dev devSize bs es size off n = sparseRead dev devSize bs es size off n := by
  unfold sparseReadC sparseRead at *
  split
  · rfl
  · rename_i h1
    rw [if_neg h1] at h
    simp only [] at h ⊢
    rw [sparseLoopC_eq]
    intro _ st' hp
    rw [hp] at h
    exact h _ rfl

end Diskfs.Ext4.Reader

namespace Diskfs.Ext4

theorem readLoopS_eq (skip lt : Bool) (dev : Dev) (bs startBlock want : Nat) :
    ∀ (es : List Extent) (off : Nat) (got : Bytes) (ios : List (Nat × Nat)),
      (skip = true → readLoop lt dev bs startBlock want es off got ios ≠ .panic) →
      readLoopS skip lt dev bs startBlock want es off got ios = readLoop lt dev bs startBlock want es off got ios := by
  intro es
  induction es with
  | nil => intro off got ios _; rfl
  | cons e es ih =>
    intro off got ios hnp
    rw [readLoop] at hnp
    rw [readLoopS, readLoop]
    extract_lets extentSize holeEnd z got1 off1 startPos left toRead disk got' ios' at hnp
    extract_lets at ⊢
    by_cases h0 : skips lt e startBlock = true
    · simp only [if_pos h0] at hnp ⊢; exact ih _ _ _ hnp
    simp only [if_neg h0] at hnp ⊢
    by_cases h1 : off < holeEnd ∧ got.length + z ≥ want
    · simp only [if_pos h1]
    simp only [if_neg h1] at hnp ⊢
    by_cases h2 : startPos > extentSize
    · simp only [if_pos h2] at hnp ⊢
      cases skip with
      | false => rfl
      | true => exact absurd rfl (hnp rfl)
    simp only [if_neg h2] at hnp ⊢
    by_cases h4 : got'.length ≥ want
    · simp only [if_pos h4]
    simp only [if_neg h4] at hnp ⊢
    exact ih _ _ _ hnp

theorem readES_eq (skip lt : Bool) (dev : Dev) (bs : Nat) (es : List Extent) (size off n : Nat)
    (h : readE lt dev bs es size off n ≠ .panic) :
    readES skip lt dev bs es size off n = readE lt dev bs es size off n := by
  unfold readES readE at *
  split
  · rfl
  · rename_i h1
    rw [if_neg h1] at h
    simp only [] at h ⊢
    rw [readLoopS_eq]
    intro _ hp
    rw [hp] at h
    exact h rfl

theorem readES_false (lt : Bool) (dev : Dev) (bs : Nat) (es : List Extent) (size off n : Nat) :
    readES false lt dev bs es size off n = readE lt dev bs es size off n := by
  unfold readES readE
  simp only [readLoopS_eq false lt dev bs _ _ es _ _ _ nofun]

end Diskfs.Ext4
