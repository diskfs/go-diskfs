/-
  C08 over the PARSED entries: in the bytes of the volume (`image`) every directory entry found by
  parsing - at every level, from the root - has a chain of in-range clusters that ends in an
  end-of-chain mark and is long enough for the size the entry records (`reopenCheck`).
  Same induction as `reopen_kids` (Proofs/FatTreeImg.lean).
  Core Lean only.
-/
import DiskfsModel.Proofs.FatTreeImg
namespace Diskfs.Fat

section check
variable {eqn : Spec.Name → Spec.Name → Bool} {X : ImgParams} {g : TGeom} {fuel : Nat} {m : CMap} {D d : Dev}

theorem checkLvl_cons_real (depth : Nat) (e : DirEntry) (es : List DirEntry) (h : isRealEntry e = true) :
    checkLvl g fuel m D (depth + 1) (e :: es) =
      ((entryChainOkB g fuel m e &&
        (if e.isDir then
          match walk g.f.kind g.f.max m fuel e.cluster with
          | .ok c => checkLvl g fuel m D depth (parseDir (chainBytes D g.f.io c))
          | _ => false
        else true)) && checkLvl g fuel m D (depth + 1) es) := by
  show ((e :: es).filter isRealEntry).all _ = _
  rw [List.filter_cons_of_pos h, List.all_cons]
  rfl

theorem checkLvl_skip (depth : Nat) (pre es : List DirEntry) (h : ∀ e ∈ pre, isRealEntry e = false) :
    checkLvl g fuel m D depth (pre ++ es) = checkLvl g fuel m D depth es := by
  cases depth with
  | zero => rfl
  | succ depth => rw [checkLvl, checkLvl, filter_real_skip pre es h]

theorem entry_ok_of_chain (hg : TGeomOk g) {e : DirEntry} {c : List Nat}
    (hch : ChainOk g.f.kind g.f.lim m c) (hlen : c.length ≤ fuel) (hcl : e.cluster = c.headD 0)
    (hsz : e.size ≤ c.length * g.f.io.bpc) : entryChainOkB g fuel m e = true := by
  unfold entryChainOkB
  rw [hcl, walk_complete (fuel := fuel) hg.lim hg.max hch hlen]
  simp only [Bool.and_eq_true, decide_eq_true_eq]
  exact ⟨(chainOkB_iff c).2 hch, hsz⟩

mutual
theorem check_node (hX : ImgParamsOk X g) (hg : TGeomOk g) (t : TNode) (par depth : Nat) (hpar : par < 4294967296)
    (hok : t.ImgOk X g) (hwf : t.WF eqn g)
    (h : SubOk X g fuel m D d t.owners (t.jobs X g.f.io.bpc par) t.fileOwners) :
    (entryChainOkB g fuel m (entOf X t) &&
      (if (entOf X t).isDir then
        match walk g.f.kind g.f.max m fuel (entOf X t).cluster with
        | .ok c => checkLvl g fuel m D depth (parseDir (chainBytes D g.f.io c))
        | _ => false
      else true)) = true := by
  cases t with
  | file n c sz =>
    rw [imgOk_file] at hok
    rw [wf_file] at hwf
    obtain ⟨hch, hlen⟩ := h.chains c (by rw [owners_file]; exact List.mem_cons_self)
    have hdir : (entOf X (.file n c sz)).isDir = false := (mkEnt_isDir hok.1 _ _).1
    have hcov : sz ≤ c.length * g.f.io.bpc := by
      have h1 := clusterCount_covers sz g.f.io.bpc hg.bpc
      have h2 : clusterCount g.f.io.bpc sz ≤ c.length := by rw [hwf]; exact Nat.le_max_left _ _
      exact Nat.le_trans h1 (Nat.mul_le_mul_right _ h2)
    rw [entry_ok_of_chain hg hch hlen rfl hcov, hdir]
    simp
  | dir n c ks =>
    rw [imgOk_dir] at hok
    rw [wf_dir] at hwf
    obtain ⟨hch, hlen⟩ := h.chains c (by rw [owners_dir]; exact List.mem_cons_self)
    have hwc : walk g.f.kind g.f.max m fuel (entOf X (.dir n c ks)).cluster = .ok c :=
      walk_complete hg.lim hg.max hch hlen
    have hdir : (entOf X (.dir n c ks)).isDir = true := (mkEnt_isDir hok.1 _ _).2
    obtain ⟨hsub, hh32, hparse⟩ := h.dir hX hg hpar hok.2
    rw [entry_ok_of_chain hg hch hlen rfl (Nat.zero_le _), hdir, hwc]
    simp only [if_true, Bool.true_and, hparse]
    rw [checkLvl_skip _ _ _ (dots_skip X _ _)]
    exact check_kids hX hg ks (c.headD 0) depth hh32 hok.2 hwf hsub
theorem check_kids (hX : ImgParamsOk X g) (hg : TGeomOk g) (ks : List TNode) (par depth : Nat) (hpar : par < 4294967296)
    (hok : kidsImgOk X g ks) (hwf : kidsWF eqn g ks)
    (h : SubOk X g fuel m D d (kidsOwners ks) (kidsJobs X g.f.io.bpc par ks) (kidsFileOwners ks)) :
    checkLvl g fuel m D depth (ks.map (entOf X)) = true := by
  cases ks with
  | nil => cases depth <;> simp [checkLvl]
  | cons t ks =>
    cases depth with
    | zero => rfl
    | succ depth' =>
      rw [kidsImgOk_cons] at hok
      rw [kidsWF_cons] at hwf
      rw [List.map_cons, checkLvl_cons_real _ _ _ (entOf_real hok.1),
        check_node hX hg t par depth' hpar hok.1 hwf.1 h.head,
        check_kids hX hg ks par (depth' + 1) hpar hok.2 hwf.2.2 h.tail]
      rfl
end

end check

end Diskfs.Fat
