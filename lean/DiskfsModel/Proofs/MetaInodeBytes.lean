/-
  The ext4 attribute setters on the whole inode record (Model/Ext4/InodeAttrBytes.lean): a word read after a
  word written, and through that the words each setter changes and the bytes it leaves alone.
-/
import DiskfsModel.Model.Ext4.InodeAttrBytes
import DiskfsModel.Proofs.MetaCodec
import DiskfsModel.Proofs.Bytes
namespace Diskfs.Ext4.InodeCodec
open Diskfs

theorem putWord_length (b : Bytes) (off width v : Nat) : (putWord b off width v).length = b.length := by
  simp [putWord, put]; omega

theorem putWord_frame (b : Bytes) (off width v i : Nat) (hi : i < off ∨ off + width ≤ i) :
    (putWord b off width v)[i]? = b[i]? := by
  unfold putWord
  rw [put_getElem?, if_neg (by simp; omega)]

theorem getWord_lt (b : Bytes) (off width : Nat) : getWord b off width < 256 ^ width := by
  unfold getWord
  have h1 := leDec_lt (slice b off (off + width))
  have h2 : (slice b off (off + width)).length ≤ width := by
    unfold slice
    simp
    omega
  exact Nat.lt_of_lt_of_le h1 (Nat.pow_le_pow_right (by decide) h2)

theorem getWord_putWord_same (b : Bytes) (off width v : Nat) (h : off + width ≤ b.length) :
    getWord (putWord b off width v) off width = v % 256 ^ width := by
  have e := slice_put_same b off (leEnc width v) (by rw [leEnc_length]; exact h)
  rw [leEnc_length] at e
  rw [getWord, putWord, e, leDec_leEnc]

theorem getWord_putWord_other (b : Bytes) (off width v o2 w2 : Nat) (hd : o2 + w2 ≤ off ∨ off + width ≤ o2) :
    getWord (putWord b off width v) o2 w2 = getWord b o2 w2 :=
  congrArg leDec (slice_put_other b off _ o2 (o2 + w2) (by rw [leEnc_length]; omega))

/-! ### the setters on the record

  Each setter is a chain of `putWord`s; a word of the result is read by pushing `getWord` through the
  chain with the two lemmas above.  The offsets are numerals, so disjointness is decided; that the field
  written lies inside the record is arithmetic once `putWord_length` has brought the length back to that of `b`. -/

theorem wordsOf_chmodBytes (b : Bytes) (perm : Nat) (h : RecordWF b) :
    wordsOf (chmodBytes b perm) = { wordsOf b with mode := (getWord b 0x0 2 / 4096 * 4096 + perm) % 65536 } := by
  unfold RecordWF at h
  unfold chmodBytes wordsOf
  simp (disch := first | decide | omega) only [getWord_putWord_other, getWord_putWord_same]
  simp

theorem wordsOf_chownBytes (b : Bytes) (uid gid : Option Nat) (h : RecordWF b) :
    wordsOf (chownBytes b uid gid) = { wordsOf b with
      uidLo := (uid.getD (attrsOf b).uid) % 65536, uidHi := (uid.getD (attrsOf b).uid) / 65536 % 65536,
      gidLo := (gid.getD (attrsOf b).gid) % 65536, gidHi := (gid.getD (attrsOf b).gid) / 65536 % 65536 } := by
  unfold RecordWF at h
  unfold chownBytes wordsOf
  simp (disch := first | decide | omega | (simp only [putWord_length]; omega)) only
    [getWord_putWord_other, getWord_putWord_same]
  simp

/-- the six time words after Chtimes are the words `enc` makes of the three times: they fit their fields
    (`tsLo_lt`, `tsExtra_lt`) -/
theorem wordsOf_chtimesBytes (b : Bytes) (cr at' mt : Ts) (h : RecordWF b) :
    wordsOf (chtimesBytes b cr at' mt) = { wordsOf b with
      crtimeLo := tsLo cr, crtimeExtra := tsExtra cr, atimeLo := tsLo at', atimeExtra := tsExtra at',
      mtimeLo := tsLo mt, mtimeExtra := tsExtra mt } := by
  unfold RecordWF at h
  unfold chtimesBytes wordsOf
  simp (disch := first | decide | omega | (simp only [putWord_length]; omega)) only
    [getWord_putWord_other, getWord_putWord_same, Nat.mod_eq_of_lt (tsLo_lt _), Nat.mod_eq_of_lt (tsExtra_lt _)]

theorem attrsOf_ids_lt (b : Bytes) : (attrsOf b).uid < 4294967296 ∧ (attrsOf b).gid < 4294967296 := by
  have h1 := getWord_lt b 0x2 2
  have h2 := getWord_lt b 0x78 2
  have h3 := getWord_lt b 0x18 2
  have h4 := getWord_lt b 0x7a 2
  simp only [attrsOf, dec, wordsOf]
  omega

/-- `N` is a variable because unifying `Option.getD (some x) d < 4294967296` with `x < 4294967296` by
    unfolding is slow -/
theorem getD_lt {o : Option Nat} {d N : Nat} (ho : ∀ x, o = some x → x < N) (hd : d < N) : o.getD d < N := by
  cases o with
  | none => exact hd
  | some x => exact ho x rfl

theorem dec_ids (w : Words) (u g : Nat) (hu : u < 4294967296) (hg : g < 4294967296) :
    dec { w with uidLo := u % 65536, uidHi := u / 65536 % 65536, gidLo := g % 65536, gidHi := g / 65536 % 65536 } =
      { dec w with uid := u, gid := g } := by
  simp only [dec, halves_join u 65536 65536 hu, halves_join g 65536 65536 hg]

/-- the type nibble shares the mode word with the permission bits; that it is kept is part of
    `ext4_chmod_record` -/
theorem chmodBytes_frame (b : Bytes) (perm i : Nat) (_ : RecordWF b) (hi : 2 ≤ i) :
    (chmodBytes b perm)[i]? = b[i]? :=
  putWord_frame b 0x0 2 _ i (by omega)

theorem chownBytes_frame (b : Bytes) (uid gid : Option Nat) (i : Nat) (_ : RecordWF b)
    (hi : i < 0x2 ∨ (0x4 ≤ i ∧ i < 0x18) ∨ (0x1a ≤ i ∧ i < 0x78) ∨ 0x7c ≤ i) :
    (chownBytes b uid gid)[i]? = b[i]? := by
  unfold chownBytes
  simp (disch := omega) only [putWord_frame]

theorem chtimesBytes_frame (b : Bytes) (cr at' mt : Ts) (i : Nat) (_ : RecordWF b)
    (hi : i < 0x8 ∨ (0xc ≤ i ∧ i < 0x10) ∨ (0x14 ≤ i ∧ i < 0x88) ∨ 0x98 ≤ i) :
    (chtimesBytes b cr at' mt)[i]? = b[i]? := by
  unfold chtimesBytes
  simp (disch := omega) only [putWord_frame]

end Diskfs.Ext4.InodeCodec
