/-
  Entry-array round trip: the array `toPartitionArrayBytes` assembles (sparse, unordered indices → slots)
  decodes to the used partitions in slot order.
-/
import DiskfsModel.Proofs.GptTable
namespace Diskfs.Gpt

/-- the partition (if any) that slot `i` (0-based) of the array holds -/
def slotPart (ps : List Part) (i : Nat) : Option Part :=
  (ps.find? (fun q => q.index == i + 1)).bind fun p => if allZero p.typ then none else some p

/-- what reading back yields for the partition list `Write` was left with: slot order, unused entries dropped -/
def normParts (ps : List Part) (n : Nat) : List Part := (List.range n).filterMap (slotPart ps)

/-- an entry that reads back exactly: unused, or well formed with the size a reader derives -/
def EntryExact (lss : Nat) (p : Part) : Prop :=
  allZero p.typ = true ∨ (EntryWF p ∧ p.size = sizeOf p.start p.end_ lss)

theorem padTo_self (b : Bytes) (n : Nat) (h : b.length = n) : padTo n b = b := by
  simp [padTo, h, zeros]

theorem slotBytes_length (c : Cfg) (ps : List Part) (es i : Nat) (b : Bytes) (h : slotBytes c ps es i = .ok b) :
    b.length = es := by
  unfold slotBytes at h
  split at h
  · cases h; simp
  · obtain ⟨e, _, hs⟩ := bind_ok_inv _ _ _ h
    cases hs
    simp only [padTo, List.length_append, List.length_take, zeros_length]
    omega

theorem slotsFrom_length (c : Cfg) (ps : List Part) (es : Nat) :
    ∀ (is : List Nat) (b : Bytes), slotsFrom c ps es is = .ok b → b.length = es * is.length := by
  intro is
  induction is with
  | nil => intro b h; cases h; simp
  | cons i is ih =>
    intro b h
    simp only [slotsFrom] at h
    obtain ⟨s, hs, h2⟩ := bind_ok_inv _ _ _ h
    obtain ⟨rest, hrest, h3⟩ := bind_ok_inv _ _ _ h2
    cases h3
    rw [List.length_append, slotBytes_length c ps es i s hs, ih rest hrest, List.length_cons, Nat.mul_succ]
    omega

theorem slotBytes_some (c : Cfg) (ps : List Part) (i : Nat) (p : Part) (b : Bytes)
    (hf : ps.find? (fun q => q.index == i + 1) = some p) (he : entryEnc c p = .ok b) (hb : b.length = 128) :
    slotBytes c ps 128 i = .ok b := by
  simp only [slotBytes, hf, he, Res.ok_bind, Res.pure_eq]
  rw [List.take_of_length_le (by omega), padTo_self _ _ hb]

theorem slotBytes_spec (c : Cfg) (ps : List Part) (lss i : Nat) (hex : ∀ p ∈ ps, EntryExact lss p) (s : Bytes)
    (h : slotBytes c ps 128 i = .ok s) : entryDec (i + 1) s lss = slotPart ps i := by
  unfold slotPart
  cases hf : ps.find? (fun q => q.index == i + 1) with
  | none =>
    simp only [slotBytes, hf] at h
    cases h
    exact entryDec_zeros (i + 1) lss
  | some p =>
    have hidx : p.index = i + 1 := by simpa using List.find?_some hf
    rcases hex p (List.mem_of_find?_eq_some hf) with hu | ⟨hwf, hsz⟩
    · rw [slotBytes_some c ps i p _ hf (entryEnc_unused c p hu) (by simp)] at h
      cases h
      simp only [Option.bind_some, hu, if_true]
      exact entryDec_zeros (i + 1) lss
    · obtain ⟨b, hb, hlen, hdec⟩ := entryDec_entryEnc_exact c p lss hwf hsz
      rw [slotBytes_some c ps i p b hf hb hlen] at h
      cases h
      simp only [Option.bind_some, hwf.used, Bool.false_eq_true, if_false]
      exact hidx ▸ hdec

theorem chunk128_cons (s rest : Bytes) (n : Nat) (h : s.length = 128) :
    chunk128 (n + 1) (s ++ rest) = s :: chunk128 n rest := by
  simp only [chunk128]
  rw [List.take_left' h, List.drop_left' h]

theorem chunk128_length (n : Nat) : ∀ b : Bytes, (chunk128 n b).length = n := by
  induction n with
  | zero => intro b; simp [chunk128]
  | succ n ih => intro b; simp [chunk128, ih]

theorem decodeFrom_length_le (lss : Nat) (cs : List Bytes) : ∀ i, (decodeFrom lss i cs).length ≤ cs.length := by
  induction cs with
  | nil => intro i; simp [decodeFrom]
  | cons c cs ih =>
    intro i
    have := ih (i + 1)
    simp only [decodeFrom]
    split <;> simp only [List.length_cons] <;> omega

theorem decodeFrom_slotsFrom (c : Cfg) (ps : List Part) (lss : Nat) (hex : ∀ p ∈ ps, EntryExact lss p) :
    ∀ (n i0 : Nat) (b : Bytes), slotsFrom c ps 128 (List.range' i0 n) = .ok b →
      decodeFrom lss i0 (chunk128 n b) = (List.range' i0 n).filterMap (slotPart ps) := by
  intro n
  induction n with
  | zero =>
    intro i0 b _
    simp [chunk128, decodeFrom]
  | succ n ih =>
    intro i0 b h
    rw [List.range'_succ] at h ⊢
    simp only [slotsFrom] at h
    obtain ⟨s, hs, h2⟩ := bind_ok_inv _ _ _ h
    obtain ⟨rest, hrest, h3⟩ := bind_ok_inv _ _ _ h2
    simp only [Res.pure_eq, Res.ok.injEq] at h3
    subst h3
    rw [chunk128_cons s rest n (slotBytes_length c ps 128 i0 s hs)]
    simp only [decodeFrom, List.filterMap_cons]
    rw [slotBytes_spec c ps lss i0 hex s hs, ih (i0 + 1) rest hrest]
    cases slotPart ps i0 <;> rfl

theorem decodeArr_slotsN (c : Cfg) (ps : List Part) (lss : Nat) (hex : ∀ p ∈ ps, EntryExact lss p) (n : Nat) (b : Bytes)
    (h : slotsFrom c ps 128 (List.range n) = .ok b) :
    b.length = 128 * n ∧ decodeArr b lss = normParts ps n := by
  have hl : b.length = 128 * n := by rw [slotsFrom_length c ps 128 _ b h, List.length_range]
  rw [List.range_eq_range'] at h
  refine ⟨hl, ?_⟩
  unfold decodeArr normParts
  rw [hl, List.range_eq_range', Nat.mul_div_cancel_left n (by decide : 0 < 128)]
  exact decodeFrom_slotsFrom c ps lss hex n 0 b h

theorem initParts_spec (bs n : Nat) (hbs : 0 < bs) :
    ∀ (l acc ps : List Part), initParts bs n l acc = some ps →
      (∀ p ∈ l, allZero p.typ = true ∨ (EntryWF p ∧ p.size < two64)) →
      (∀ q ∈ acc, EntryExact bs q) → ∀ q ∈ ps, EntryExact bs q := by
  intro l
  induction l with
  | nil =>
    intro acc ps h _ hacc q hq
    simp only [initParts, Option.some.injEq] at h
    subst h
    exact hacc q (by simpa using hq)
  | cons p l ih =>
    intro acc ps h hl hacc
    simp only [initParts] at h
    cases hi : initEntry p bs with
    | none => rw [hi] at h; simp at h
    | some p' =>
      rw [hi] at h
      simp only at h
      split at h
      · simp at h
      · split at h
        · simp at h
        · apply ih (p' :: acc) ps h (fun x hx => hl x (List.mem_cons_of_mem _ hx))
          intro q hq
          simp only [List.mem_cons] at hq
          rcases hq with hq | hq
          · subst hq
            rcases hl p (List.mem_cons_self ..) with hu | ⟨hwf, hz⟩
            · left
              have : q = p := by
                unfold initEntry at hi
                simp [hu] at hi
                exact hi.symm
              rw [this]; exact hu
            · exact .inr (initEntry_wf p q bs hbs hwf hz hi)
          · exact hacc q hq

theorem arrEnc_ok_inv (c : Cfg) (t : Table) (arr : Bytes) (ps : List Part) (h : arrEnc c t = .ok (arr, ps)) :
    initParts t.lss t.arrCount t.parts [] = some ps ∧ slotsFrom c ps t.entSize (List.range t.arrCount) = .ok arr := by
  unfold arrEnc at h
  cases hip : initParts t.lss t.arrCount t.parts [] with
  | none => rw [hip] at h; cases h
  | some ps' =>
    rw [hip] at h
    obtain ⟨b, hb, hpair⟩ := bind_ok_inv _ _ _ h
    cases hpair
    exact ⟨rfl, hb⟩

theorem arrEnc_decode (c : Cfg) (t : Table) (arr : Bytes) (ps : List Part) (hes : t.entSize = 128) (hl : 0 < t.lss)
    (hwf : ∀ p ∈ t.parts, allZero p.typ = true ∨ (EntryWF p ∧ p.size < two64))
    (h : arrEnc c t = .ok (arr, ps)) :
    (∀ p ∈ ps, EntryExact t.lss p) ∧ decodeArr arr t.lss = normParts ps t.arrCount := by
  obtain ⟨hip, hb⟩ := arrEnc_ok_inv c t arr ps h
  rw [hes] at hb
  have hex := initParts_spec t.lss t.arrCount hl t.parts [] ps hip hwf nofun
  exact ⟨hex, (decodeArr_slotsN c ps t.lss hex t.arrCount arr hb).2⟩

theorem arrEnc_length (c : Cfg) (t : Table) (arr : Bytes) (ps : List Part) (h : arrEnc c t = .ok (arr, ps)) :
    arr.length = t.entSize * t.arrCount := by
  rw [slotsFrom_length c ps _ _ arr (arrEnc_ok_inv c t arr ps h).2, List.length_range]

end Diskfs.Gpt
