/-
  The inductive invariant of the N-thread machine of Model/Lru.lean.  Every step of every thread keeps
  it and moves that thread forward in its own program (`step_spec`), hence so does every schedule.
-/
import DiskfsModel.Proofs.LruCache
namespace Diskfs.Lru

theorem get_set_cases {α} {l : List α} {i j : Nat} {a b : α} (h : (l.set i a)[j]? = some b) :
    (j = i ∧ b = a) ∨ (j ≠ i ∧ l[j]? = some b) := by
  by_cases e : j = i
  · subst e
    rw [List.getElem?_set_self'] at h
    cases hl : l[j]? <;> simp [hl] at h
    exact Or.inl ⟨rfl, h.symm⟩
  · exact Or.inr ⟨e, by rwa [List.getElem?_set_ne (Ne.symm e)] at h⟩

theorem get_set_self {α} {l : List α} {i : Nat} {a x : α} (h : l[i]? = some x) : (l.set i a)[i]? = some a := by
  rw [List.getElem?_set_self', h]; rfl

theorem get_append_cases {α} {l : List α} {j : Nat} {a b : α} (h : (l ++ [a])[j]? = some b) :
    l[j]? = some b ∨ b = a := by
  rw [List.getElem?_append] at h
  split at h
  · exact Or.inl h
  · rw [List.getElem?_singleton] at h
    split at h
    · exact Or.inr (Option.some.inj h).symm
    · cases h

theorem get_append_old {α} {l : List α} {j : Nat} {a b : α} (h : l[j]? = some b) : (l ++ [a])[j]? = some b := by
  rw [List.getElem?_append_left (List.getElem?_eq_some_iff.1 h).1]; exact h

/-- the thread holds `l.mu` -/
def holdsCache : Pc → Bool
  | .gFind .. | .gLockBlock .. | .gUnlockCache .. | .sSet _ | .sUnlock _ => true
  | _ => false

/-- the thread holds `block.mu` of this block -/
def holdsBlock : Pc → Option Nat
  | .gUnlockCache _ _ b | .gCheck _ _ b | .gFetch _ _ b | .gStore _ _ b _ | .gUnlockBlock _ _ b _ => some b
  | _ => none

/-- the block a thread inside `get pos` refers to, with `pos` -/
def pcRef : Pc → Option (Pos × Nat)
  | .gLockBlock p _ b | .gUnlockCache p _ b | .gCheck p _ b | .gFetch p _ b | .gStore p _ b _
  | .gUnlockBlock p _ b _ => some (p, b)
  | _ => none

/-- the call a thread standing at this point is inside; `none` between calls -/
def curOp : Pc → Option Op
  | .idle => none
  | .gFind p ok | .gLockBlock p ok _ | .gUnlockCache p ok _ | .gCheck p ok _ | .gFetch p ok _
  | .gStore p ok _ _ | .gUnlockBlock p ok _ _ => some (.get p ok)
  | .sSet n | .sUnlock n => some (.setMax n)

/-- a return value is right: a `get pos` returns the disk's data for `pos`, or — only if its own
    fetch was attempted and failed — the error; `setMaxBlocks` returns nothing. -/
def retOk (disk : Pos → Data) : Op → Ret → Prop
  | .get p ok, r => r.value = some (disk p) ∨ (ok = false ∧ r = .err)
  | .setMax _, r => r = .unit

/-- data a thread carries in its program counter is right -/
def pcOk (disk : Pos → Data) : Pc → Prop
  | .gStore p _ _ d => d = disk p
  | .gUnlockBlock p ok _ r => retOk disk (.get p ok) r
  | _ => True

/-- What holds in every reachable state.  By group: the cache under `l.mu` (`cinv`, `size`, `nopanic`);
    who holds a lock is read off the program counters and agrees with the lock's owner field, in both
    directions (`cown1/2` for `l.mu`, `bown1/2` for `block.mu`); every reference to a block — from the map
    (`cpos`), from a program counter (`tref`) — finds a block of that position; what a block holds and what
    threads carry or have returned is the disk's data (`dcorr`, `tok`). -/
structure Inv (disk : Pos → Data) (s : Sys) : Prop where
  cinv : CacheInv s.c
  size : (s.c.cache.length : Int) ≤ max 1 s.maxBlocks
  nopanic : s.panicked = false
  cpos : ∀ r ∈ s.c.cache, ∃ blk : Block, s.blocks[r.2]? = some blk ∧ blk.pos = r.1
  cown1 : ∀ (t : Tid) (th : Thread), s.threads[t]? = some th → holdsCache th.pc = true → s.cacheOwner = some t
  cown2 : ∀ t : Tid, s.cacheOwner = some t → ∃ th : Thread, s.threads[t]? = some th ∧ holdsCache th.pc = true
  bown1 : ∀ (t : Tid) (th : Thread) (b : Nat), s.threads[t]? = some th → holdsBlock th.pc = some b →
    ∃ blk : Block, s.blocks[b]? = some blk ∧ blk.owner = some t
  bown2 : ∀ (b : Nat) (blk : Block) (t : Tid), s.blocks[b]? = some blk → blk.owner = some t →
    ∃ th : Thread, s.threads[t]? = some th ∧ holdsBlock th.pc = some b
  tref : ∀ (t : Tid) (th : Thread) (p : Pos) (b : Nat), s.threads[t]? = some th → pcRef th.pc = some (p, b) →
    ∃ blk : Block, s.blocks[b]? = some blk ∧ blk.pos = p
  dcorr : ∀ (b : Nat) (blk : Block) (d : Data), s.blocks[b]? = some blk → blk.data = some d → d = disk blk.pos
  tok : ∀ (t : Tid) (th : Thread), s.threads[t]? = some th →
    pcOk disk th.pc ∧ ∀ x ∈ th.rets, retOk disk x.1 x.2

@[simp] theorem setThread_c (s : Sys) (t th) : (setThread s t th).c = s.c := rfl
@[simp] theorem setThread_maxBlocks (s : Sys) (t th) : (setThread s t th).maxBlocks = s.maxBlocks := rfl
@[simp] theorem setThread_cacheOwner (s : Sys) (t th) : (setThread s t th).cacheOwner = s.cacheOwner := rfl
@[simp] theorem setThread_blocks (s : Sys) (t th) : (setThread s t th).blocks = s.blocks := rfl
@[simp] theorem setThread_panicked (s : Sys) (t th) : (setThread s t th).panicked = s.panicked := rfl
@[simp] theorem setThread_threads (s : Sys) (t th) : (setThread s t th).threads = s.threads.set t th := rfl
@[simp] theorem setBlock_c (s : Sys) (b blk) : (setBlock s b blk).c = s.c := rfl
@[simp] theorem setBlock_maxBlocks (s : Sys) (b blk) : (setBlock s b blk).maxBlocks = s.maxBlocks := rfl
@[simp] theorem setBlock_cacheOwner (s : Sys) (b blk) : (setBlock s b blk).cacheOwner = s.cacheOwner := rfl
@[simp] theorem setBlock_blocks (s : Sys) (b blk) : (setBlock s b blk).blocks = s.blocks.set b blk := rfl
@[simp] theorem setBlock_panicked (s : Sys) (b blk) : (setBlock s b blk).panicked = s.panicked := rfl
@[simp] theorem setBlock_threads (s : Sys) (b blk) : (setBlock s b blk).threads = s.threads := rfl

/-! Every step has the shape: thread `t` moves from `th` to `th1`; the shared components change to
  `c1, mb1, co1, bl1`.  The hypotheses of `Inv.update` are what each case has to supply. -/

theorem Inv.update {disk : Pos → Data} {s : Sys} (h : Inv disk s) {t : Tid} {th th1 : Thread}
    (ht : s.threads[t]? = some th)
    {c1 : Cache} {mb1 : Int} {co1 : Option Tid} {bl1 : List Block}
    (hcinv : CacheInv c1)
    (hsize : (c1.cache.length : Int) ≤ max 1 mb1)
    (hcpos : ∀ r ∈ c1.cache, ∃ blk : Block, bl1[r.2]? = some blk ∧ blk.pos = r.1)
    -- cache lock
    (hco_self : holdsCache th1.pc = true → co1 = some t)
    (hco_other : ∀ (t' : Tid) (th' : Thread), t' ≠ t → s.threads[t']? = some th' → holdsCache th'.pc = true → co1 = some t')
    (hco2 : ∀ t', co1 = some t' → (t' = t ∧ holdsCache th1.pc = true) ∨ (t' ≠ t ∧ s.cacheOwner = some t'))
    -- block locks
    (hbo_self : ∀ b, holdsBlock th1.pc = some b → ∃ blk : Block, bl1[b]? = some blk ∧ blk.owner = some t)
    (hbo_other : ∀ (t' : Tid) (th' : Thread) (b : Nat), t' ≠ t → s.threads[t']? = some th' → holdsBlock th'.pc = some b →
      ∃ blk : Block, bl1[b]? = some blk ∧ blk.owner = some t')
    (hbo2 : ∀ (b : Nat) (blk : Block) (t' : Tid), bl1[b]? = some blk → blk.owner = some t' →
      (t' = t ∧ holdsBlock th1.pc = some b) ∨
      (t' ≠ t ∧ ∃ blk0 : Block, s.blocks[b]? = some blk0 ∧ blk0.owner = some t'))
    -- references
    (href_self : ∀ p b, pcRef th1.pc = some (p, b) → ∃ blk : Block, bl1[b]? = some blk ∧ blk.pos = p)
    (hext : ∀ (b : Nat) (blk : Block), s.blocks[b]? = some blk → ∃ blk' : Block, bl1[b]? = some blk' ∧ blk'.pos = blk.pos)
    -- data
    (hdcorr : ∀ (b : Nat) (blk : Block) (d : Data), bl1[b]? = some blk → blk.data = some d → d = disk blk.pos)
    (htok : pcOk disk th1.pc ∧ ∀ x ∈ th1.rets, retOk disk x.1 x.2) :
    Inv disk (setThread { s with c := c1, maxBlocks := mb1, cacheOwner := co1, blocks := bl1 } t th1) := by
  refine ⟨hcinv, hsize, h.nopanic, hcpos, ?_, ?_, ?_, ?_, ?_, hdcorr, ?_⟩
  · intro t' th' hg hc
    rcases get_set_cases hg with ⟨rfl, rfl⟩ | ⟨hne, hg'⟩
    · exact hco_self hc
    · exact hco_other t' th' hne hg' hc
  · intro t' hc
    rcases hco2 t' hc with ⟨rfl, hh⟩ | ⟨hne, hold⟩
    · exact ⟨th1, get_set_self ht, hh⟩
    · obtain ⟨th', hg, hh⟩ := h.cown2 t' hold
      exact ⟨th', by rwa [setThread_threads, List.getElem?_set_ne (Ne.symm hne)], hh⟩
  · intro t' th' b hg hb
    rcases get_set_cases hg with ⟨rfl, rfl⟩ | ⟨hne, hg'⟩
    · exact hbo_self b hb
    · exact hbo_other t' th' b hne hg' hb
  · intro b blk t' hg ho
    rcases hbo2 b blk t' hg ho with ⟨rfl, hh⟩ | ⟨hne, blk0, hg0, ho0⟩
    · exact ⟨th1, get_set_self ht, hh⟩
    · obtain ⟨th', hg', hh⟩ := h.bown2 b blk0 t' hg0 ho0
      exact ⟨th', by rwa [setThread_threads, List.getElem?_set_ne (Ne.symm hne)], hh⟩
  · intro t' th' p b hg hr
    rcases get_set_cases hg with ⟨rfl, rfl⟩ | ⟨_, hg'⟩
    · exact href_self p b hr
    · obtain ⟨blk, hb, hp⟩ := h.tref t' th' p b hg' hr
      obtain ⟨blk', hb', hp'⟩ := hext b blk hb
      exact ⟨blk', hb', hp'.trans hp⟩
  · intro t' th' hg
    rcases get_set_cases hg with ⟨rfl, rfl⟩ | ⟨_, hg'⟩
    · exact htok
    · exact h.tok t' th' hg'

/-- the owner of `l.mu` after thread `t` has moved to `pc1`: `t` if `pc1` holds it, else whoever else held it -/
def CacheLockOk (s : Sys) (t : Tid) (pc1 : Pc) (co1 : Option Tid) : Prop :=
  ∀ t', co1 = some t' ↔ if t' = t then holdsCache pc1 = true else s.cacheOwner = some t'

theorem CacheLockOk.lock {s : Sys} {t : Tid} {pc1 : Pc} (hnone : s.cacheOwner = none) (hheld : holdsCache pc1 = true) :
    CacheLockOk s t pc1 (some t) := by
  intro t'
  by_cases e : t' = t
  · simp [e, hheld]
  · simp [e, hnone, Ne.symm e]

theorem Inv.co_unlock {disk : Pos → Data} {s : Sys} (h : Inv disk s) {t : Tid} {th : Thread} {pc1 : Pc}
    (ht : s.threads[t]? = some th) (hheld : holdsCache th.pc = true) (hrel : holdsCache pc1 = false) :
    CacheLockOk s t pc1 none := by
  intro t'
  by_cases e : t' = t
  · simp [e, hrel]
  · simp [e, h.cown1 t th ht hheld, Ne.symm e]

theorem Inv.co_same {disk : Pos → Data} {s : Sys} (h : Inv disk s) {t : Tid} {th : Thread} {pc1 : Pc}
    (ht : s.threads[t]? = some th) (hsame : holdsCache pc1 = holdsCache th.pc) : CacheLockOk s t pc1 s.cacheOwner := by
  intro t'
  by_cases e : t' = t
  · subst e
    rw [if_pos rfl, hsame]
    refine ⟨fun e => ?_, h.cown1 t' th ht⟩
    obtain ⟨th0, hg0, hc0⟩ := h.cown2 t' e
    rw [ht] at hg0; cases hg0; exact hc0
  · rw [if_neg e]

/-- the obligations of `Inv.update` about the cache lock -/
theorem Inv.cacheLock {disk : Pos → Data} {s : Sys} (h : Inv disk s) {t : Tid} {pc1 : Pc} {co1 : Option Tid}
    (hco : CacheLockOk s t pc1 co1) :
    (holdsCache pc1 = true → co1 = some t) ∧
    (∀ (t' : Tid) (th' : Thread), t' ≠ t → s.threads[t']? = some th' → holdsCache th'.pc = true → co1 = some t') ∧
    (∀ t', co1 = some t' → (t' = t ∧ holdsCache pc1 = true) ∨ (t' ≠ t ∧ s.cacheOwner = some t')) := by
  refine ⟨fun hc => (hco t).2 (by rwa [if_pos rfl]), fun t' th' hne hg hc => (hco t').2 ?_, fun t' e => ?_⟩
  · rw [if_neg hne]; exact h.cown1 t' th' hg hc
  · have := (hco t').1 e
    by_cases hne : t' = t
    · exact Or.inl ⟨hne, by rwa [if_pos hne] at this⟩
    · exact Or.inr ⟨hne, by rwa [if_neg hne] at this⟩

/-- a step that leaves the block store alone and neither takes nor releases a block lock -/
theorem Inv.update_keep {disk : Pos → Data} {s : Sys} (h : Inv disk s) {t : Tid} {th th1 : Thread}
    (ht : s.threads[t]? = some th)
    {c1 : Cache} {mb1 : Int} {co1 : Option Tid}
    (hcinv : CacheInv c1)
    (hsize : (c1.cache.length : Int) ≤ max 1 mb1)
    (hcsub : ∀ r ∈ c1.cache, r ∈ s.c.cache)
    (hco : CacheLockOk s t th1.pc co1)
    (hhb : holdsBlock th1.pc = holdsBlock th.pc)
    (href : ∀ p b, pcRef th1.pc = some (p, b) → ∃ blk : Block, s.blocks[b]? = some blk ∧ blk.pos = p)
    (htok : pcOk disk th1.pc ∧ ∀ x ∈ th1.rets, retOk disk x.1 x.2) :
    Inv disk (setThread { s with c := c1, maxBlocks := mb1, cacheOwner := co1 } t th1) := by
  obtain ⟨hc1, hc2, hc3⟩ := h.cacheLock hco
  refine Inv.update (bl1 := s.blocks) h ht hcinv hsize (fun r hr => h.cpos r (hcsub r hr)) hc1 hc2 hc3
    (fun b hb => h.bown1 t th b ht (hhb ▸ hb)) (fun t' th' b _ hg hb => h.bown1 t' th' b hg hb)
    (fun b blk t' hg ho => ?_) href (fun b blk hb => ⟨blk, hb, rfl⟩) h.dcorr htok
  by_cases hne : t' = t
  · subst hne
    obtain ⟨th0, hg0, hb0⟩ := h.bown2 b blk t' hg ho
    rw [ht] at hg0; cases hg0
    exact Or.inl ⟨rfl, hhb ▸ hb0⟩
  · exact Or.inr ⟨hne, blk, hg, ho⟩

/-- a step that rewrites block `b`, keeping its position, while the cache and its lock stay as they are; before
    and after it the thread holds no block lock (the block being free) or the lock of `b` -/
theorem Inv.update_block {disk : Pos → Data} {s : Sys} (h : Inv disk s) {t : Tid} {th th1 : Thread}
    (ht : s.threads[t]? = some th) {b : Nat} {blk blk1 : Block} (hb : s.blocks[b]? = some blk)
    (hpos : blk1.pos = blk.pos)
    (hco : holdsCache th1.pc = holdsCache th.pc)
    (hth : holdsBlock th.pc = none ∧ blk.owner = none ∨ holdsBlock th.pc = some b)
    (hth1 : holdsBlock th1.pc = none ∧ blk1.owner = none ∨ holdsBlock th1.pc = some b ∧ blk1.owner = some t)
    (href : ∀ p b', pcRef th1.pc = some (p, b') → pcRef th.pc = some (p, b'))
    (hdata : ∀ d, blk1.data = some d → d = disk blk.pos)
    (htok : pcOk disk th1.pc ∧ ∀ x ∈ th1.rets, retOk disk x.1 x.2) :
    Inv disk (setThread (setBlock s b blk1) t th1) := by
  have hext : ∀ (b' : Nat) (blk' : Block), s.blocks[b']? = some blk' →
      ∃ blk'' : Block, (s.blocks.set b blk1)[b']? = some blk'' ∧ blk''.pos = blk'.pos := by
    intro b' blk' hb'
    by_cases e : b' = b
    · subst e; rw [hb] at hb'; cases hb'
      exact ⟨_, get_set_self hb, hpos⟩
    · exact ⟨blk', by rwa [List.getElem?_set_ne (Ne.symm e)], rfl⟩
  have hown : ∀ t', blk.owner = some t' → t' = t := by
    rcases hth with ⟨_, ho⟩ | hh
    · rw [ho]; nofun
    · obtain ⟨blk0, hb0, ho0⟩ := h.bown1 t th b ht hh
      rw [hb] at hb0; cases hb0
      exact fun t' e => Option.some.inj (e.symm.trans ho0)
  obtain ⟨hc1, hc2, hc3⟩ := h.cacheLock (h.co_same ht hco)
  refine Inv.update (bl1 := s.blocks.set b blk1) h ht h.cinv h.size ?_ hc1 hc2 hc3 ?_ ?_ ?_ ?_ hext ?_ htok
  · intro r hr
    obtain ⟨blk', hb', hp⟩ := h.cpos r hr
    obtain ⟨blk'', hb'', hp'⟩ := hext _ _ hb'
    exact ⟨blk'', hb'', hp'.trans hp⟩
  · intro b' hb'
    rcases hth1 with ⟨hn, _⟩ | ⟨hh, ho⟩
    · rw [hn] at hb'; cases hb'
    · rw [hh] at hb'; cases hb'
      exact ⟨_, get_set_self hb, ho⟩
  · intro t' th' b' hne hg hbl
    obtain ⟨blk0, hb0, ho0⟩ := h.bown1 t' th' b' hg hbl
    by_cases e : b' = b
    · subst e; rw [hb] at hb0; cases hb0
      exact absurd (hown t' ho0) hne
    · exact ⟨blk0, by rwa [List.getElem?_set_ne (Ne.symm e)], ho0⟩
  · intro b' blk' t' hg ho
    rcases get_set_cases hg with ⟨rfl, rfl⟩ | ⟨hne, hg'⟩
    · rcases hth1 with ⟨_, hn⟩ | ⟨hh, ho1⟩
      · rw [hn] at ho; cases ho
      · exact Or.inl ⟨Option.some.inj (ho.symm.trans ho1), hh⟩
    · by_cases e : t' = t
      · subst e
        obtain ⟨th0, hg0, hb0⟩ := h.bown2 b' blk' t' hg' ho
        rw [ht] at hg0; cases hg0
        rcases hth with ⟨hn, _⟩ | hh
        · rw [hn] at hb0; cases hb0
        · rw [hh] at hb0; cases hb0
          exact absurd rfl hne
      · exact Or.inr ⟨e, blk', hg', ho⟩
  · intro p b' hr
    obtain ⟨blk', hb', hp⟩ := h.tref t th p b' ht (href p b' hr)
    obtain ⟨blk'', hb'', hp'⟩ := hext _ _ hb'
    exact ⟨blk'', hb'', hp'.trans hp⟩
  · intro b' blk' d hg hd
    rcases get_set_cases hg with ⟨rfl, rfl⟩ | ⟨_, hg'⟩
    · rw [hpos]; exact hdata d hd
    · exact h.dcorr b' blk' d hg' hd

/-- at most this many steps of the current call are still to come (a `get` takes up to 8 steps, fewer on a hit or
    a failed fetch; a `setMaxBlocks` 3) -/
def pcRank : Pc → Nat
  | .idle => 0
  | .gFind .. => 7
  | .gLockBlock .. => 6
  | .gUnlockCache .. => 5
  | .gCheck .. => 4
  | .gFetch .. => 3
  | .gStore .. => 2
  | .gUnlockBlock .. => 1
  | .sSet _ => 2
  | .sUnlock _ => 1

/-- upper bound on the number of further steps of a thread -/
def Thread.measure (th : Thread) : Nat := 8 * th.prog.length + pcRank th.pc

def measure (s : Sys) : Nat := (s.threads.map Thread.measure).sum

/-- the thread's whole program: returned calls, the call in progress, calls not yet started -/
def Thread.all (th : Thread) : List Op := th.rets.map Prod.fst ++ (curOp th.pc).toList ++ th.prog

/-- a step moves the thread forward in its own program: fewer steps left, same calls overall -/
def Thread.Adv (th th1 : Thread) : Prop := th1.measure < th.measure ∧ th1.all = th.all

theorem Thread.adv_start {op : Op} {rest : List Op} {rets : List (Op × Ret)} {pc : Pc} (hop : curOp pc = some op)
    (hr : pcRank pc ≤ 7) : Thread.Adv ⟨op :: rest, .idle, rets⟩ ⟨rest, pc, rets⟩ :=
  ⟨by simp only [Thread.measure, List.length_cons, show pcRank .idle = 0 from rfl]; omega,
    by simp [Thread.all, hop, show curOp .idle = none from rfl]⟩

theorem Thread.adv_mid {prog : List Op} {rets : List (Op × Ret)} {pc pc1 : Pc} (hop : curOp pc1 = curOp pc)
    (hr : pcRank pc1 < pcRank pc) : Thread.Adv ⟨prog, pc, rets⟩ ⟨prog, pc1, rets⟩ :=
  ⟨Nat.add_lt_add_left hr _, by simp only [Thread.all, hop]⟩

theorem Thread.adv_end {prog : List Op} {rets : List (Op × Ret)} {pc : Pc} {op : Op} {r : Ret}
    (hop : curOp pc = some op) (hr : 0 < pcRank pc) : Thread.Adv ⟨prog, pc, rets⟩ ⟨prog, .idle, rets ++ [(op, r)]⟩ :=
  ⟨Nat.add_lt_add_left hr _, by simp [Thread.all, hop, show curOp .idle = none from rfl]⟩

theorem step_spec {disk : Pos → Data} {slack : Nat} {s s' : Sys} {t : Tid} (hs : 1 ≤ slack)
    (h : Inv disk s) (hstep : step disk slack s t = some s') :
    Inv disk s' ∧ ∃ th th1, s.threads[t]? = some th ∧ s'.threads = s.threads.set t th1 ∧ th.Adv th1 := by
  unfold step at hstep
  rw [if_neg (by rw [h.nopanic]; exact Bool.false_ne_true)] at hstep
  cases ht : s.threads[t]? with
  | none => simp [ht] at hstep
  | some th =>
    simp only [ht] at hstep
    obtain ⟨prog, pc, rets⟩ := th
    have htok := h.tok t _ ht
    have href := fun p' b' hr => h.tref t _ p' b' ht hr
    cases pc with
    | idle =>
      simp only at hstep
      cases prog with
      | nil => simp at hstep
      | cons op rest =>
        simp only at hstep
        split at hstep
        · rename_i hco
          cases Option.some.inj hstep
          have hnone : s.cacheOwner = none := by simpa using hco
          cases op with
          | get p ok =>
            refine ⟨?_, _, _, rfl, rfl, Thread.adv_start rfl (Nat.le_refl 7)⟩
            exact h.update_keep ht h.cinv h.size (fun r hr => hr) (.lock (pc1 := .gFind p ok) hnone rfl) rfl
              nofun ⟨trivial, htok.2⟩
          | setMax n =>
            refine ⟨?_, _, _, rfl, rfl, Thread.adv_start rfl (by decide : 2 ≤ 7)⟩
            exact h.update_keep ht h.cinv h.size (fun r hr => hr) (.lock (pc1 := .sSet n) hnone rfl) rfl
              nofun ⟨trivial, htok.2⟩
        · cases hstep
    | gFind p ok =>
      simp only at hstep
      obtain ⟨c', r, isNew, hfa, hinv, hrp, _, hsub, hnew, hold⟩ :=
        findOrAdd_spec slack s.maxBlocks s.c p s.blocks.length h.cinv
      rw [hfa] at hstep
      cases Option.some.inj hstep
      refine ⟨?_, _, _, rfl, rfl, Thread.adv_mid rfl (Nat.lt_succ_self 6)⟩
      have hco := h.co_same (pc1 := .gLockBlock p ok r.2) ht rfl
      cases isNew with
      | false =>
        obtain ⟨hrc, hceq⟩ := hold rfl
        refine Inv.update_keep h ht hinv (hceq ▸ h.size) (fun x hx => hceq ▸ hx) hco rfl (fun p' b' hr => ?_)
          ⟨trivial, htok.2⟩
        cases hr
        obtain ⟨blk, hb, hp⟩ := h.cpos r hrc
        exact ⟨blk, hb, hp.trans hrp⟩
      | true =>
        -- nobody owns the new block, and only the map and this thread refer to it
        obtain ⟨hreq, hlen⟩ := hnew rfl
        subst hreq
        obtain ⟨hc1, hc2, hc3⟩ := h.cacheLock hco
        refine Inv.update (bl1 := s.blocks ++ [(⟨p, none, none⟩ : Block)]) h ht hinv ?_ ?_ hc1 hc2 hc3
          nofun ?_ ?_ ?_ (fun b' blk' hb' => ⟨blk', get_append_old hb', rfl⟩) ?_ ⟨trivial, htok.2⟩
        · rcases hlen with h1 | h1 <;> omega
        · intro x hx
          rcases hsub x hx with rfl | hx'
          · exact ⟨_, List.getElem?_concat_length, rfl⟩
          · obtain ⟨blk', hb', hp⟩ := h.cpos x hx'
            exact ⟨blk', get_append_old hb', hp⟩
        · intro t' th' b' _ hg hbl
          obtain ⟨blk0, hb0, ho0⟩ := h.bown1 t' th' b' hg hbl
          exact ⟨blk0, get_append_old hb0, ho0⟩
        · intro b' blk' t' hg ho
          rcases get_append_cases hg with hg' | rfl
          · by_cases e : t' = t
            · subst e
              obtain ⟨th0, hg0, hb0⟩ := h.bown2 b' blk' t' hg' ho
              rw [ht] at hg0; cases hg0; cases hb0
            · exact Or.inr ⟨e, blk', hg', ho⟩
          · cases ho
        · intro p' b' hr
          cases hr
          exact ⟨_, List.getElem?_concat_length, rfl⟩
        · intro b' blk' d hg hd
          rcases get_append_cases hg with hg' | rfl
          · exact h.dcorr b' blk' d hg' hd
          · cases hd
    | gLockBlock p ok b =>
      simp only at hstep
      cases hb : s.blocks[b]? with
      | none => simp [hb] at hstep
      | some blk =>
        simp only [hb] at hstep
        split at hstep
        · rename_i hfree
          cases Option.some.inj hstep
          refine ⟨?_, _, _, rfl, rfl, Thread.adv_mid rfl (Nat.lt_succ_self 5)⟩
          exact h.update_block ht hb rfl rfl (Or.inl ⟨rfl, by simpa using hfree⟩) (Or.inr ⟨rfl, rfl⟩) (fun _ _ e => e)
            (fun d hd => h.dcorr b blk d hb hd) ⟨trivial, htok.2⟩
        · cases hstep
    | gUnlockCache p ok b =>
      simp only at hstep
      cases Option.some.inj hstep
      refine ⟨?_, _, _, rfl, rfl, Thread.adv_mid rfl (Nat.lt_succ_self 4)⟩
      exact h.update_keep ht h.cinv h.size (fun r hr => hr) (h.co_unlock (pc1 := .gCheck p ok b) ht rfl rfl) rfl
        href ⟨trivial, htok.2⟩
    | gCheck p ok b =>
      simp only at hstep
      split at hstep
      · rename_i d hd
        cases Option.some.inj hstep
        refine ⟨?_, _, _, rfl, rfl, Thread.adv_mid rfl (by decide : 1 < 4)⟩
        refine h.update_keep ht h.cinv h.size (fun r hr => hr) (h.co_same (pc1 := .gUnlockBlock p ok b (.hit d)) ht rfl) rfl
          href ⟨?_, htok.2⟩
        obtain ⟨blk, hb, hp⟩ := href p b rfl
        rw [hb] at hd
        have := h.dcorr b blk d hb (by simpa using hd)
        exact Or.inl (by simp [Ret.value, this, hp])
      · cases Option.some.inj hstep
        refine ⟨?_, _, _, rfl, rfl, Thread.adv_mid rfl (Nat.lt_succ_self 3)⟩
        exact h.update_keep ht h.cinv h.size (fun r hr => hr) (h.co_same (pc1 := .gFetch p ok b) ht rfl) rfl
          href ⟨trivial, htok.2⟩
    | gFetch p ok b =>
      simp only at hstep
      split at hstep
      · cases Option.some.inj hstep
        refine ⟨?_, _, _, rfl, rfl, Thread.adv_mid rfl (Nat.lt_succ_self 2)⟩
        exact h.update_keep ht h.cinv h.size (fun r hr => hr) (h.co_same (pc1 := .gStore p ok b (disk p)) ht rfl) rfl
          href ⟨rfl, htok.2⟩
      · rename_i hok
        cases Option.some.inj hstep
        refine ⟨?_, _, _, rfl, rfl, Thread.adv_mid rfl (by decide : 1 < 3)⟩
        exact h.update_keep ht h.cinv h.size (fun r hr => hr) (h.co_same (pc1 := .gUnlockBlock p ok b .err) ht rfl) rfl
          href ⟨Or.inr ⟨by simpa using hok, rfl⟩, htok.2⟩
    | gStore p ok b d =>
      simp only at hstep
      obtain ⟨blk, hb, hown⟩ := h.bown1 t _ b ht rfl
      simp only [hb] at hstep
      cases Option.some.inj hstep
      have hpos : blk.pos = p := by
        obtain ⟨blk', hb', hp⟩ := href p b rfl
        rw [hb] at hb'; cases hb'; exact hp
      have hd : d = disk p := htok.1
      refine ⟨?_, _, _, rfl, rfl, Thread.adv_mid rfl (Nat.lt_succ_self 1)⟩
      exact h.update_block ht hb rfl rfl (Or.inr rfl) (Or.inr ⟨rfl, hown⟩) (fun _ _ e => e)
        (fun d' e => by rw [← Option.some.inj e, hd, hpos]) ⟨Or.inl (by simp [Ret.value, hd]), htok.2⟩
    | gUnlockBlock p ok b r =>
      simp only at hstep
      obtain ⟨blk, hb, hown⟩ := h.bown1 t _ b ht rfl
      simp only [hb] at hstep
      cases Option.some.inj hstep
      refine ⟨?_, _, _, rfl, rfl, Thread.adv_end rfl Nat.one_pos⟩
      exact h.update_block ht hb rfl rfl (Or.inr rfl) (Or.inl ⟨rfl, rfl⟩) nofun (fun d hd => h.dcorr b blk d hb hd)
        ⟨trivial, List.forall_mem_append.2 ⟨htok.2, List.forall_mem_singleton.2 htok.1⟩⟩
    | sSet n =>
      simp only at hstep
      obtain ⟨c', hrun, hinv, hc, hsub⟩ := trim_spec n s.c h.cinv
      rw [hrun] at hstep
      cases Option.some.inj hstep
      refine ⟨?_, _, _, rfl, rfl, Thread.adv_mid rfl (Nat.lt_succ_self 1)⟩
      refine h.update_keep ht hinv ?_ hsub (h.co_same (pc1 := .sUnlock n) ht rfl) rfl nofun ⟨trivial, htok.2⟩
      rcases trimCond_false hc with h1 | h1 <;> omega
    | sUnlock n =>
      simp only at hstep
      cases Option.some.inj hstep
      refine ⟨?_, _, _, rfl, rfl, Thread.adv_end rfl Nat.one_pos⟩
      exact h.update_keep ht h.cinv h.size (fun r hr => hr) (h.co_unlock (pc1 := .idle) ht rfl rfl) rfl
        nofun ⟨trivial, List.forall_mem_append.2 ⟨htok.2, List.forall_mem_singleton.2 rfl⟩⟩

theorem init_inv (disk : Pos → Data) (maxBlocks : Int) (progs : List (List Op)) : Inv disk (init maxBlocks progs) := by
  have hth : ∀ (t : Tid) (th : Thread), (init maxBlocks progs).threads[t]? = some th → ∃ p, th = ⟨p, .idle, []⟩ := by
    intro t th hg
    rw [init, List.getElem?_map] at hg
    cases hp : progs[t]? with
    | none => rw [hp] at hg; cases hg
    | some p => rw [hp] at hg; exact ⟨p, (Option.some.inj hg).symm⟩
  refine ⟨⟨List.nodup_nil, List.nodup_nil, fun _ => Iff.rfl⟩, ?_, rfl, nofun, ?_, nofun, ?_, ?_, ?_, ?_, ?_⟩
  · show ((0 : Nat) : Int) ≤ max 1 maxBlocks
    omega
  · intro t th hg hc; obtain ⟨p, rfl⟩ := hth t th hg; cases hc
  · intro t th b hg hb; obtain ⟨p, rfl⟩ := hth t th hg; cases hb
  · intro b blk t hg; cases hg
  · intro t th p b hg hr; obtain ⟨p, rfl⟩ := hth t th hg; cases hr
  · intro b blk d hg; cases hg
  · intro t th hg; obtain ⟨p, rfl⟩ := hth t th hg; exact ⟨trivial, fun _ hx => nomatch hx⟩

theorem run_inv {disk : Pos → Data} {slack : Nat} (hs : 1 ≤ slack) :
    ∀ (sched : List Tid) (s : Sys), Inv disk s → Inv disk (run disk slack s sched)
  | [], _, h => h
  | t :: sched, s, h => by
    simp only [run, List.foldl_cons]
    cases hst : step disk slack s t with
    | none => exact run_inv hs sched s h
    | some s' => exact run_inv hs sched s' (step_spec hs h hst).1

end Diskfs.Lru
