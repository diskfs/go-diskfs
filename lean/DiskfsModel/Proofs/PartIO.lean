/-
  The partition streaming loops of Model/PartIO.lean: where the write loop writes, when it succeeds and
  what the partition then holds; what the read loop returns and which requests it issues.
-/
import DiskfsModel.Model.PartIO
import DiskfsModel.Proofs.Bytes
namespace Diskfs.PartIO

theorem writeLoop_in_range (start size : Nat) (cs : List Bytes) (total : Nat) (ws : List Wr)
    (hws : ∀ w ∈ ws, start ≤ w.off ∧ w.off + w.data.length ≤ start + size) :
    ∀ w ∈ (writeLoop start size cs total ws).ws, start ≤ w.off ∧ w.off + w.data.length ≤ start + size := by
  fun_induction writeLoop start size cs total ws with
  | case1 => exact hws
  | case2 => exact hws
  | case3 c cs total ws _ _ ih =>
    apply ih
    intro w hw
    rcases List.mem_append.1 hw with hw | hw
    · exact hws w hw
    · rw [List.mem_singleton.1 hw]
      exact ⟨Nat.le_add_right .., by dsimp only; omega⟩
  | case4 _ _ _ _ _ _ ih => exact ih hws

theorem writeLoop_ok_iff (start size : Nat) (cs : List Bytes) (total : Nat) (ws : List Wr) :
    (writeLoop start size cs total ws).ok = true ↔ total + (cs.map List.length).sum = size := by
  fun_induction writeLoop start size cs total ws with
  | case1 => simp
  | case2 => simp; omega
  | case3 _ _ _ _ _ _ ih => rw [ih]; simp; omega
  | case4 _ _ _ _ _ _ ih => rw [ih]; simp; omega

theorem writeLoop_fits (start size : Nat) (cs : List Bytes) (total : Nat) (ws : List Wr)
    (h : total + (cs.map List.length).sum ≤ size) :
    (writeLoop start size cs total ws).total = total + (cs.map List.length).sum ∧
    ∀ d : Dev, readAt (applyWrs d (writeLoop start size cs total ws).ws) start (total + (cs.map List.length).sum)
      = readAt (applyWrs d ws) start total ++ cs.flatten := by
  fun_induction writeLoop start size cs total ws with
  | case1 => simp
  | case2 c cs total ws hc => simp only [List.map_cons, List.sum_cons] at h; omega
  | case3 c cs total ws _ _ ih =>
    simp only [List.map_cons, List.sum_cons, ← Nat.add_assoc] at h ⊢
    refine ⟨(ih h).1, fun d => ?_⟩
    rw [(ih h).2 d, readAt_append, applyWrs_snoc, readAt_applyWr_disjoint _ _ _ _ (.inl (Nat.le_refl _)),
      readAt_applyWr_same (applyWrs d ws) ⟨start + total, c⟩, List.flatten_cons, List.append_assoc]
  | case4 c cs total ws _ hp ih =>
    have hc : c = [] := List.eq_nil_of_length_eq_zero (by omega)
    subst hc
    simpa using ih (by simpa using h)

theorem writeContents_fits (start size : Nat) (chunks : List Bytes) (h : (chunks.map List.length).sum ≤ size) :
    (writeContents start size chunks).total = (chunks.map List.length).sum ∧
    ∀ d : Dev, readAt (applyWrs d (writeContents start size chunks).ws) start (chunks.map List.length).sum
      = chunks.flatten := by
  simpa [writeContents, readAt_zero] using writeLoop_fits start size chunks 0 [] (by omega)

theorem readLoop_spec (d : Dev) (devSize start size pss : Nat) (hdev : start + size ≤ devSize) (hpss : 0 < pss)
    (total : Nat) (acc : Bytes) (ht : total ≤ size) :
    readLoop d devSize start size pss total acc = (acc ++ readAt d (start + total) (size - total), size) := by
  fun_induction readLoop d devSize start size pss total acc with
  | case1 total acc toRead avail n acc' h =>
    have hn : n = min (min pss (size - total)) (devSize - (start + total)) := rfl
    have hn : n = size - total := by omega
    show (acc ++ readAt d (start + total) n, total + n) = _
    rw [hn, Nat.add_sub_cancel' ht]
  | case2 total acc toRead avail n acc' h ih =>
    have hsplit : size - total = n + (size - (total + n)) := by omega
    rw [ih (by omega), hsplit, readAt_append, List.append_assoc, Nat.add_assoc]

/-- `min r.2 (devSize - r.1)` is how many bytes the device returns for the request `r` -/
theorem readReqs_spec (devSize start size pss : Nat) (hdev : start + size ≤ devSize) (hpss : 0 < pss)
    (total : Nat) (acc : List (Nat × Nat)) (ht : total ≤ size) :
    ∃ ext, readReqs devSize start size pss total acc = acc ++ ext ∧
      (∀ r ∈ ext, start + total ≤ r.1 ∧ r.1 + r.2 ≤ start + size ∧ r.2 ≤ pss) ∧
      (ext.map (·.2)).sum = size - total ∧
      ∀ d : Dev, (ext.map fun r => readAt d r.1 (min r.2 (devSize - r.1))).flatten =
        readAt d (start + total) (size - total) := by
  fun_induction readReqs devSize start size pss total acc with
  | case1 total acc toRead avail n acc' h =>
    -- the last request: all that remains
    have hr : toRead = size - total ∧ toRead ≤ pss := by
      have : n = min (min pss (size - total)) (devSize - (start + total)) := rfl
      have : toRead = min pss (size - total) := rfl
      omega
    refine ⟨[(start + total, toRead)], rfl, ?_, ?_, ?_⟩
    · intro r hm
      rw [List.mem_singleton.1 hm]
      dsimp only
      omega
    · simp [hr.1]
    · intro d
      simp only [List.map_cons, List.map_nil, List.flatten_cons, List.flatten_nil, List.append_nil, hr.1]
      rw [Nat.min_eq_left (by omega)]
  | case2 total acc toRead avail n acc' h ih =>
    -- a full request, answered in full
    have hn : n = toRead ∧ toRead ≤ pss ∧ toRead ≤ devSize - (start + total) :=
      ⟨Nat.le_antisymm (Nat.min_le_left ..) (by omega), Nat.min_le_left .., by
        have : n ≤ devSize - (start + total) := Nat.min_le_right ..
        omega⟩
    obtain ⟨ext, he, hin, hsum, hfl⟩ := ih (by omega)
    refine ⟨(start + total, toRead) :: ext, by rw [he]; simp [acc'], ?_, ?_, ?_⟩
    · intro r hm
      rcases List.mem_cons.1 hm with rfl | hm
      · dsimp only; omega
      · have := hin r hm; omega
    · simp only [List.map_cons, List.sum_cons, hsum]; omega
    · intro d
      have hsplit : size - total = n + (size - (total + n)) := by omega
      simp only [List.map_cons, List.flatten_cons, hfl d]
      rw [hsplit, readAt_append, Nat.add_assoc, hn.1, Nat.min_eq_left hn.2.2]

end Diskfs.PartIO
