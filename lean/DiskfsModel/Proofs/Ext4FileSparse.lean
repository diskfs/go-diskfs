/-
  File.Read over extent lists WITH holes (Model/Ext4/FileIO.lean, the read loop after fix ea015d2): the bytes
  returned are the window of the byte string the list denotes, with zeros for every hole and behind the last
  extent, for every sorted extent list, offset and length.
-/
import DiskfsModel.Model.Ext4.FileIO
import DiskfsModel.Proofs.Bytes
namespace Diskfs.Ext4

/- `win F a m` is by definition `readAt` on `F` as a byte oracle, `fun j => F.getD j 0` -/
theorem win_length (F : Bytes) (a m : Nat) : (win F a m).length = m := by simp [win]

theorem win_zero (F : Bytes) (a : Nat) : win F a 0 = [] := rfl

theorem win_eq_drop_take (F : Bytes) (a m : Nat) (h : m ≤ F.length - a) : win F a m = (F.drop a).take m := by
  cases m with
  | zero => rfl
  | succ m => exact readAt_list F a _ (by omega)

/-! ### one pass through the body of the read loop, by where the offset lies (`hole`: `g` bytes in front of the extent,
    `data`: `sp` bytes into it) and whether the request ends there or goes on behind it -/

section
variable (dev : Dev) (bs sb want : Nat) (e : Extent) (es : List Extent) (off : Nat) (got : Bytes) (ios : List (Nat × Nat))

theorem readLoop_skip (h : e.fileBlock + e.count ≤ sb) :
    readLoop false dev bs sb want (e :: es) off got ios = readLoop false dev bs sb want es off got ios := by
  simp [readLoop, skips, h]

theorem readLoop_hole (h : ¬ e.fileBlock + e.count ≤ sb) (g m : Nat) (h1 : off + g = e.fileBlock * bs) (h2 : 0 < g)
    (hm : got.length + m = want) :
    readLoop false dev bs sb want (e :: es) off got ios =
      if m ≤ g then .ok ⟨got ++ zeros m, ios, off + m⟩
      else readLoop false dev bs sb want (e :: es) (e.fileBlock * bs) (got ++ zeros g) ios := by
  have e1 : want - got.length = m := by omega
  have e2 : e.fileBlock * bs - off = g := by omega
  have e3 : off < e.fileBlock * bs := by omega
  by_cases h3 : m ≤ g
  · simp only [readLoop, skips, h, decide_false, Bool.false_eq_true, if_false, e1, e2, e3, if_true, Nat.min_eq_right h3, h3]
    rw [if_pos ⟨trivial, by omega⟩]
  · have e4 : ¬ got.length + g ≥ want := by omega
    simp only [readLoop, skips, h, decide_false, Bool.false_eq_true, if_false, e1, e2, e3, if_true, h3,
      Nat.min_eq_left (Nat.le_of_not_le h3), e4, and_false, h1, Nat.lt_irrefl, false_and, zeros, List.replicate_zero,
      List.append_nil, Nat.add_zero]

theorem readLoop_data (h : ¬ e.fileBlock + e.count ≤ sb) (sp m : Nat) (h1 : e.fileBlock * bs + sp = off)
    (h2 : sp ≤ e.count * bs) (hm : got.length + m = want) :
    readLoop false dev bs sb want (e :: es) off got ios =
      (let k := min m (e.count * bs - sp)
       let got' := got ++ readAt dev (e.start * bs + sp) k
       let ios' := ios ++ [(e.start * bs + sp, k)]
       if m ≤ k then .ok ⟨got', ios', off + k⟩ else readLoop false dev bs sb want es (off + k) got' ios') := by
  have e1 : want - got.length = m := by omega
  have e2 : off - e.fileBlock * bs = sp := by omega
  have e3 : ¬ off < e.fileBlock * bs := by omega
  have e4 : ¬ sp > e.count * bs := by omega
  have e5 : (got ++ readAt dev (e.start * bs + sp) (min m (e.count * bs - sp))).length ≥ want ↔
      m ≤ min m (e.count * bs - sp) := by
    rw [List.length_append, readAt_length]
    omega
  simp only [readLoop, skips, h, decide_false, Bool.false_eq_true, if_false, e1, e2, e3, e4, false_and,
    zeros, List.replicate_zero, List.append_nil, Nat.add_zero, e5]

end

/- The file is taken as a byte oracle `L` that stays the same through the induction: from file block `first` on it is what
   the rest of the list denotes.  `sb` is the block of the offset the read began at: an extent is passed over (`skips`)
   exactly when it ends at or before the offset the loop has reached. -/
theorem readLoop_sparse (dev : Dev) (bs sb want : Nat) (hbs : 0 < bs) (L : Dev) :
    ∀ (es : List Extent) (first off m : Nat) (got : Bytes) (ios : List (Nat × Nat)),
      Sorted first es → first * bs ≤ off → (∀ i, L (first * bs + i) = (fileBytesS dev bs first es).getD i 0) →
      (∀ n, first < n → (n ≤ sb ↔ n * bs ≤ off)) → got.length + m = want →
      ∃ r, readLoop false dev bs sb want es off got ios = .ok r ∧ r.data = got ++ readAt L off m ∧ r.off = off + m := by
  intro es
  induction es with
  | nil =>
    intro first off m got ios _ hlo hL _ hm
    have : want - got.length = m := by omega
    obtain ⟨p, rfl⟩ := Nat.exists_eq_add_of_le hlo
    have hz : readAt L (first * bs + p) m = zeros m := readAt_zeros fun j _ => by rw [Nat.add_assoc, hL]; rfl
    exact ⟨_, rfl, by simp only [this, hz], by simp [this]⟩
  | cons e es ih =>
    intro first off m got ios ⟨hfb, hcnt, hrest⟩ hlo hL hsb hm
    obtain ⟨g0, hg0⟩ := Nat.exists_eq_add_of_le hfb
    have hFB : e.fileBlock * bs = first * bs + g0 * bs := by rw [hg0, Nat.add_mul]
    have hEnd : (e.fileBlock + e.count) * bs = e.fileBlock * bs + e.count * bs := Nat.add_mul ..
    have hC : 0 < e.count * bs := Nat.mul_pos hcnt hbs
    simp only [fileBytesS, hg0, Nat.add_sub_cancel_left] at hL
    rw [← hg0] at hL
    -- `L` around this extent: zero in front of it, the device inside, the rest of the list behind
    have Lhole : ∀ n, off + n ≤ e.fileBlock * bs → zeros n = readAt L off n := fun n hn => by
      obtain ⟨i, rfl⟩ := Nat.exists_eq_add_of_le hlo
      refine (readAt_zeros fun j hj => ?_).symm
      rw [Nat.add_assoc, hL, List.append_assoc, getD_append_left _ _ _ _ (by simp; omega), zeros_getD]
    have Ldata : ∀ sp n, sp + n ≤ e.count * bs →
        readAt dev (e.start * bs + sp) n = readAt L (e.fileBlock * bs + sp) n := fun sp n hn => readAt_ext fun j hj => by
      have := getD_append_right (zeros (g0 * bs)) (readAt dev (e.start * bs) (e.count * bs)) (sp + j) 0
      rw [zeros_length] at this
      rw [hFB, Nat.add_assoc, Nat.add_assoc, Nat.add_assoc, hL, getD_append_left _ _ _ _ (by simp; omega), this,
        readAt_getD _ _ _ _ (by omega)]
    have Lrest : ∀ i, L ((e.fileBlock + e.count) * bs + i) = (fileBytesS dev bs (e.fileBlock + e.count) es).getD i 0 :=
      fun i => by
        have := getD_append_right (zeros (g0 * bs) ++ readAt dev (e.start * bs) (e.count * bs))
          (fileBytesS dev bs (e.fileBlock + e.count) es) i 0
        rw [List.length_append, zeros_length, readAt_length] at this
        rw [hEnd, hFB, Nat.add_assoc, Nat.add_assoc, hL, ← Nat.add_assoc, this]
    have hsk := hsb (e.fileBlock + e.count) (by omega)
    by_cases hskip : e.fileBlock + e.count ≤ sb
    · rw [readLoop_skip _ _ _ _ _ _ _ _ _ hskip]
      exact ih _ off m got ios hrest (hsk.1 hskip) Lrest (fun n hn => hsb n (by omega)) hm
    · have hend : off < (e.fileBlock + e.count) * bs := Nat.lt_of_not_le (mt hsk.2 hskip)
      -- from `sp` bytes into the extent on
      have hdata : ∀ (got : Bytes) (sp m : Nat), sp < e.count * bs → got.length + m = want →
          ∃ r, readLoop false dev bs sb want (e :: es) (e.fileBlock * bs + sp) got ios = .ok r ∧
            r.data = got ++ readAt L (e.fileBlock * bs + sp) m ∧ r.off = e.fileBlock * bs + sp + m := by
        intro got sp m h2 hg
        rw [readLoop_data _ _ _ _ _ _ _ _ _ hskip sp m rfl (Nat.le_of_lt h2) hg]
        by_cases hfit : m ≤ e.count * bs - sp
        · simp only [Nat.min_eq_left hfit, Nat.le_refl, if_true]
          exact ⟨_, rfl, by rw [Ldata sp m (by omega)], rfl⟩
        · obtain ⟨k, hk⟩ : ∃ k, sp + k = e.count * bs := ⟨_, Nat.add_sub_cancel' (Nat.le_of_lt h2)⟩
          obtain ⟨m', rfl⟩ : ∃ m', m = k + m' := ⟨m - k, by omega⟩
          have hoff : e.fileBlock * bs + sp + k = (e.fileBlock + e.count) * bs := by omega
          simp only [show min (k + m') (e.count * bs - sp) = k by omega, show ¬ k + m' ≤ k by omega, if_false, hoff]
          obtain ⟨r, hr, hd, hro⟩ := ih _ ((e.fileBlock + e.count) * bs) m' (got ++ readAt dev (e.start * bs + sp) k)
            (ios ++ [(e.start * bs + sp, k)]) hrest (Nat.le_refl _) Lrest
            (fun n hn => by rw [Nat.mul_le_mul_right_iff hbs]; omega) (by simp; omega)
          exact ⟨r, hr, by rw [hd, readAt_append, hoff, Ldata sp k (by omega), List.append_assoc],
            by rw [hro, ← hoff, Nat.add_assoc]⟩
      by_cases hhole : off < e.fileBlock * bs
      · obtain ⟨g, hg⟩ : ∃ g, off + g = e.fileBlock * bs := ⟨_, Nat.add_sub_cancel' (Nat.le_of_lt hhole)⟩
        rw [readLoop_hole _ _ _ _ _ _ _ _ _ hskip g m hg (by omega) hm]
        by_cases hmg : m ≤ g
        · exact ⟨_, if_pos hmg, by rw [Lhole m (by omega)], rfl⟩
        · obtain ⟨m', rfl⟩ : ∃ m', m = g + m' := ⟨m - g, by omega⟩
          rw [if_neg hmg]
          obtain ⟨r, hr, hd, hro⟩ := hdata (got ++ zeros g) 0 m' hC (by simp; omega)
          rw [Nat.add_zero] at hr hd hro
          exact ⟨r, hr, by rw [hd, readAt_append, ← Lhole g (by omega), hg, List.append_assoc], by rw [hro, ← hg, Nat.add_assoc]⟩
      · obtain ⟨sp, rfl⟩ := Nat.exists_eq_add_of_le (Nat.le_of_not_lt hhole)
        exact hdata got sp m (by omega) hm

/-- a contiguous list is a sorted one without holes, and denotes the same bytes -/
theorem contig_sorted : ∀ (es : List Extent) (first : Nat), Contig first es → Sorted first es := by
  intro es
  induction es with
  | nil => intro _ _; trivial
  | cons e es ih => intro first h; exact ⟨by rw [h.1]; exact Nat.le_refl _, h.2.1, by rw [h.1]; exact ih _ h.2.2⟩

theorem fileBytesS_contig (dev : Dev) (bs : Nat) : ∀ (es : List Extent) (first : Nat), Contig first es →
    fileBytesS dev bs first es = fileBytes dev bs es := by
  intro es
  induction es with
  | nil => intro _ _; rfl
  | cons e es ih =>
    intro first h
    simp only [fileBytesS, fileBytes, h.1, Nat.sub_self, Nat.zero_mul, zeros, List.replicate_zero, List.nil_append]
    rw [ih _ h.2.2]

end Diskfs.Ext4
