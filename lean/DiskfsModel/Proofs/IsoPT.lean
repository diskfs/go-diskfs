/-
  The forward pass of `getLocation` (`ptScan`) through a well-formed path table is the walk down from
  the root: along a chain of records it ends at the last one (`ptScan_chain`), and every record other
  than the first ends such a chain (`chain_exists`).  `C06.pathtable_lookup_is_walk` puts `ptLookup`,
  which starts the pass, on top.
-/
import DiskfsModel.Model.Iso.Susp
import DiskfsModel.Proofs.Lists
namespace Diskfs.Iso

instance : Inhabited PtRec := ⟨⟨[], 0, 0⟩⟩

/-- record number `i` (numbers start at 1, as the parent fields count) -/
def ptRec (rs : List PtRec) (i : Nat) : PtRec := rs.getD (i - 1) default

/-- a path table as `createPathTable` makes it: a directory's record comes after its parent's, and
    two records with the same parent have different names (none is named "." ) -/
structure PtWF (rs : List PtRec) : Prop where
  parentBefore : ∀ i, 2 ≤ i → i ≤ rs.length → 1 ≤ (ptRec rs i).parent ∧ (ptRec rs i).parent < i
  uniq : ∀ i j, 1 ≤ i → i ≤ rs.length → 1 ≤ j → j ≤ rs.length → (ptRec rs i).parent = (ptRec rs j).parent →
    (ptRec rs i).name = (ptRec rs j).name → i = j
  noDot : ∀ i, 2 ≤ i → i ≤ rs.length → (ptRec rs i).name ≠ [46]

/-- `b₁, b₂, …` are record numbers, each the child of the one before, the first a child of `a` -/
def IsChain (rs : List PtRec) : Nat → List Nat → Prop
  | _, [] => True
  | a, b :: rest => 2 ≤ b ∧ b ≤ rs.length ∧ (ptRec rs b).parent = a ∧ IsChain rs b rest

/-- `PtWF` with every quantifier bounded, so that a concrete table is checked by evaluation -/
theorem ptWF_of_bounded (rs : List PtRec)
    (h1 : ∀ i, i < rs.length + 1 → 2 ≤ i →
      1 ≤ (ptRec rs i).parent ∧ (ptRec rs i).parent < i ∧ (ptRec rs i).name ≠ [46])
    (h2 : ∀ i, i < rs.length + 1 → ∀ j, j < rs.length + 1 →
      (1 ≤ i ∧ 1 ≤ j ∧ (ptRec rs i).parent = (ptRec rs j).parent ∧ (ptRec rs i).name = (ptRec rs j).name) → i = j) : PtWF rs :=
  ⟨fun i h2' hl => ⟨(h1 i (Nat.lt_succ_of_le hl) h2').1, (h1 i (Nat.lt_succ_of_le hl) h2').2.1⟩,
   fun i j hi hil hj hjl hp hn => h2 i (Nat.lt_succ_of_le hil) j (Nat.lt_succ_of_le hjl) ⟨hi, hj, hp, hn⟩,
   fun i h2' hl => (h1 i (Nat.lt_succ_of_le hl) h2').2.2⟩

theorem ptRec_of_drop (T : List PtRec) (idx : Nat) (r : PtRec) (rs' : List PtRec) (h : T.drop idx = r :: rs') :
    idx < T.length ∧ ptRec T (idx + 1) = r ∧ T.drop (idx + 1) = rs' := by
  have hlt : idx < T.length := Nat.lt_of_not_le fun hl => by rw [List.drop_eq_nil_iff.2 hl] at h; cases h
  rw [List.drop_eq_getElem_cons hlt, List.cons.injEq] at h
  refine ⟨hlt, ?_, h.2⟩
  rw [ptRec, Nat.add_sub_cancel, getD_eq_of_lt _ _ _ hlt, h.1]

theorem ptScan_chain (T : List PtRec) (hwf : PtWF T) : ∀ (sfxl : List PtRec) (idx a b : Nat) (rest : List Nat),
    T.drop idx = sfxl → IsChain T a (b :: rest) → idx < b →
    ptScan sfxl idx a ((b :: rest).map fun k => (ptRec T k).name) = (ptRec T ((b :: rest).getLast (by simp))).loc := by
  intro sfxl
  induction sfxl with
  | nil =>
    intro idx a b rest hd hch hlt
    have := List.drop_eq_nil_iff.1 hd
    have := hch.2.1
    omega
  | cons r rs' ih =>
    intro idx a b rest hd hch hlt
    obtain ⟨hidx, hr, hd'⟩ := ptRec_of_drop T idx r rs' hd
    obtain ⟨hb2, hbl, hbp, hrest⟩ := hch
    simp only [List.map_cons, ptScan]
    by_cases hm : r.parent = a ∧ r.name = (ptRec T b).name
    · rw [if_pos hm]
      have heq : idx + 1 = b := by
        apply hwf.uniq (idx + 1) b (by omega) (by omega) (by omega) hbl
        · rw [hr, hm.1, hbp]
        · rw [hr, hm.2]
      cases rest with
      | nil =>
        simp only [List.map_nil, List.getLast_singleton]
        rw [← heq, hr]
      | cons c rest' =>
        simp only [List.map_cons]
        have hc := hrest
        have hcp := hwf.parentBefore c hc.1 hc.2.1
        rw [hc.2.2.1] at hcp
        have := ih (idx + 1) (idx + 1) c rest' hd' (by rw [heq]; exact hc) (by omega)
        simp only [List.map_cons] at this
        rw [this]
        simp
    · rw [if_neg hm]
      have hne : idx + 1 ≠ b := by
        intro e
        apply hm
        rw [← hr, e]
        exact ⟨hbp, rfl⟩
      have := ih (idx + 1) a b rest hd' ⟨hb2, hbl, hbp, hrest⟩ (by omega)
      simp only [List.map_cons] at this
      exact this

theorem isChain_mem (T : List PtRec) : ∀ (l : List Nat) (a : Nat), IsChain T a l → ∀ k ∈ l, 2 ≤ k ∧ k ≤ T.length
  | [], _, _, _, hk => nomatch hk
  | x :: r, _, h, k, hk => by
    rcases List.mem_cons.1 hk with rfl | hk
    · exact ⟨h.1, h.2.1⟩
    · exact isChain_mem T r x h.2.2.2 k hk

theorem isChain_append (T : List PtRec) (a : Nat) (l : List Nat) (x : Nat) (hl : IsChain T a l)
    (hx : 2 ≤ x ∧ x ≤ T.length ∧ (ptRec T x).parent = (l.getLast?.getD a)) : IsChain T a (l ++ [x]) := by
  induction l generalizing a with
  | nil => simpa [IsChain] using hx
  | cons b r ih =>
    obtain ⟨h1, h2, h3, h4⟩ := hl
    refine ⟨h1, h2, h3, ih b h4 ?_⟩
    cases r with
    | nil => simpa using hx
    | cons c r' =>
      have hs : (c :: r').getLast? = some ((c :: r').getLast (by simp)) := List.getLast?_eq_some_getLast (by simp)
      simp only [List.getLast?_cons_cons, hs, Option.getD_some] at hx ⊢
      exact hx

theorem chain_exists (T : List PtRec) (hwf : PtWF T) : ∀ (n i : Nat), i ≤ n → 2 ≤ i → i ≤ T.length →
    ∃ l, IsChain T 1 (l ++ [i]) := by
  intro n
  induction n with
  | zero => intro i h1 h2; omega
  | succ n ih =>
    intro i hin h2 hl
    have hp := hwf.parentBefore i h2 hl
    by_cases h1 : (ptRec T i).parent = 1
    · exact ⟨[], by simp [IsChain]; exact ⟨h2, hl, h1⟩⟩
    · obtain ⟨l, hlc⟩ := ih (ptRec T i).parent (by omega) (by omega) (by omega)
      refine ⟨l ++ [(ptRec T i).parent], ?_⟩
      apply isChain_append T 1 _ i hlc
      refine ⟨h2, hl, ?_⟩
      simp

end Diskfs.Iso
