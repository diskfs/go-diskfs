/-
  Proofs about the ext4 bitmap mirror (Model/Ext4/Bitmap.lean): set/clear against the spec-level view `bit`;
  `firstFree` and `firstSet` under one scan specification over the whole bitmap (`FirstFrom`); `freeList` is the
  loop of Proofs/Ext4FreeList.lean over the predicate "bit p is clear" (`freeList_eq_scan`), hence exactly the
  partition of the clear bits into maximal runs, whose lengths add up to `countFree`; Set / Clear move `countFree`
  by one.  All theorems are for arbitrary bitmaps (induction); `decide` is used only for 8-row / 64-row tables
  about the masks and for the concrete examples.
-/
import DiskfsModel.Proofs.Ext4FreeList
namespace Diskfs.Ext4.Bitmap

theorem mask_toNat (j : Nat) (h : j < 8) : (mask j).toNat = 2 ^ j :=
  (by decide : ∀ j : Fin 8, (mask j.val).toNat = 2 ^ j.val) ⟨j, h⟩

theorem nat_and_two_pow (n i : Nat) : n &&& 2 ^ i = (n.testBit i).toNat * 2 ^ i := by
  apply Nat.eq_of_testBit_eq
  intro k
  rw [Nat.testBit_and, Nat.testBit_two_pow]
  by_cases hk : i = k
  · subst hk; cases n.testBit i <;> simp
  · cases n.testBit i <;> simp [hk]

theorem and_mask_toNat (b : UInt8) (j : Nat) (h : j < 8) :
    (b &&& mask j).toNat = (b.toNat.testBit j).toNat * 2 ^ j := by
  rw [UInt8.toNat_and, mask_toNat j h, nat_and_two_pow]

/-- Go's `b & mask == mask` is "bit j is set" -/
theorem testSet_eq (b : UInt8) (j : Nat) (h : j < 8) : testSet b j = byteBit b j := by
  have h1 := and_mask_toNat b j h
  have h2 := mask_toNat j h
  have hp : 0 < 2 ^ j := Nat.two_pow_pos j
  unfold testSet byteBit
  rw [Bool.eq_iff_iff, beq_iff_eq, ← UInt8.toNat_inj, h1, h2]
  cases b.toNat.testBit j <;> simp <;> omega

/-- Go's `b & (1<<j) == 0` is "bit j is clear" -/
theorem testClear_eq (b : UInt8) (j : Nat) (h : j < 8) : testClear b j = (byteBit b j == false) := by
  have h1 := and_mask_toNat b j h
  have hp : 0 < 2 ^ j := Nat.two_pow_pos j
  unfold testClear byteBit
  rw [Bool.eq_iff_iff, beq_iff_eq, ← UInt8.toNat_inj, h1]
  cases b.toNat.testBit j <;> simp <;> omega

theorem or_mask_bit (b : UInt8) (j k : Nat) (h : j < 8) :
    byteBit (b ||| mask j) k = if k = j then true else byteBit b k := by
  unfold byteBit
  rw [UInt8.toNat_or, Nat.testBit_or, mask_toNat j h, Nat.testBit_two_pow]
  by_cases hk : j = k
  · simp [hk]
  · simp [hk, Ne.symm hk]

theorem andnot_mask_bit (b : UInt8) (j k : Nat) (h : j < 8) (hk : k < 8) :
    byteBit (b &&& ~~~ mask j) k = if k = j then false else byteBit b k := by
  unfold byteBit
  rw [UInt8.toNat_and, Nat.testBit_and,
    (by decide : ∀ j k : Fin 8, (~~~ mask j.val).toNat.testBit k.val = !decide (j.val = k.val)) ⟨j, h⟩ ⟨k, hk⟩]
  by_cases hjk : j = k
  · simp [hjk]
  · simp [hjk, Ne.symm hjk]

theorem ff_bits (b : UInt8) (h : (b == 0xff) = true) (j : Nat) (hj : j < 8) :
    byteBit b j = true := by
  obtain rfl : b = 0xff := by simpa using h
  exact (by decide : ∀ j : Fin 8, byteBit 0xff j.val = true) ⟨j, hj⟩

theorem bit_def (bm : Bytes) (i : Nat) : bit bm i = byteBit (bm.getD (i / 8) 0) (i % 8) := rfl

theorem bit_at (bm : Bytes) (m j : Nat) (hj : j < 8) :
    bit bm (8 * m + j) = byteBit (bm.getD m 0) j := by
  rw [bit_def, Nat.mul_add_div (by decide), Nat.mul_add_mod, Nat.div_eq_of_lt hj, Nat.mod_eq_of_lt hj, Nat.add_zero]

theorem bit_modify (bm : Bytes) (i : Nat) (h : i < 8 * bm.length) (f : UInt8 → UInt8) (v : Bool)
    (hf : ∀ x k, k < 8 → byteBit (f x) k = if k = i % 8 then v else byteBit x k) :
    (bm.modify (i / 8) f).length = bm.length ∧ bit (bm.modify (i / 8) f) i = v ∧
      ∀ j, j ≠ i → bit (bm.modify (i / 8) f) j = bit bm j := by
  have hm : i / 8 < bm.length := by omega
  have key : ∀ j, bit (bm.modify (i / 8) f) j = if j = i then v else bit bm j := by
    intro j
    simp only [bit_def, List.getD_eq_getElem?_getD, List.getElem?_modify]
    by_cases hj : i / 8 = j / 8
    · have : (j % 8 = i % 8) ↔ j = i := by omega
      simp only [hj, if_true, List.getElem?_eq_getElem (hj ▸ hm), Option.map_eq_map, Option.map_some,
        Option.getD_some, hf _ _ (Nat.mod_lt j (by omega)), this]
    · have : j ≠ i := fun e => hj (by rw [e])
      simp [hj, this]
  exact ⟨by simp, by simp [key], fun j hj => by simp [key, hj]⟩

theorem bitmap_set_get (bm : Bytes) (i : Nat) (h : i < 8 * bm.length) :
    ∃ bm', set bm i = .ok bm' ∧ bm'.length = bm.length ∧ bit bm' i = true ∧
      ∀ j, j ≠ i → bit bm' j = bit bm j := by
  refine ⟨bm.modify (i / 8) (fun b => b ||| mask (i % 8)), ?_,
    bit_modify bm i h _ true (fun x k _ => or_mask_bit x _ k (by omega))⟩
  have : ¬ (i / 8 ≥ bm.length) := by omega
  simp [set, this]

theorem bitmap_clear_get (bm : Bytes) (i : Nat) (h : i < 8 * bm.length) :
    ∃ bm', clear bm i = .ok bm' ∧ bm'.length = bm.length ∧ bit bm' i = false ∧
      ∀ j, j ≠ i → bit bm' j = bit bm j := by
  refine ⟨bm.modify (i / 8) (fun b => b &&& ~~~ mask (i % 8)), ?_,
    bit_modify bm i h _ false (fun x k hk => andnot_mask_bit x _ k (by omega) hk)⟩
  have : ¬ (i / 8 ≥ bm.length) := by omega
  simp [clear, this]

/-- the Go off-by-one: a location in the byte just past the end makes `IsSet` panic -/
theorem isSet_panics_at_end (bm : Bytes) (i : Nat) (h : 8 * bm.length ≤ i)
    (h2 : i < 8 * bm.length + 8) : isSet bm i = .panic := by
  have hm : i / 8 = bm.length := by omega
  unfold isSet
  have h0 : ¬ ((i : Int) < 0) := by omega
  simp [h0, hm]

/-- further out `IsSet` returns an error -/
theorem isSet_err_of_gt (bm : Bytes) (i : Nat) (h : 8 * bm.length + 8 ≤ i) :
    isSet bm i = .err := by
  have hm : i / 8 > bm.length := by omega
  unfold isSet
  simp [hm]

theorem isSet_err_of_neg (bm : Bytes) (loc : Int) (h : loc < 0) : isSet bm loc = .err := by
  simp [isSet, h]

theorem set_err_of_ge (bm : Bytes) (i : Nat) (h : 8 * bm.length ≤ i) : set bm i = .err := by
  have hm : i / 8 ≥ bm.length := by omega
  unfold set
  simp [hm]

theorem clear_err_of_ge (bm : Bytes) (i : Nat) (h : 8 * bm.length ≤ i) : clear bm i = .err := by
  have hm : i / 8 ≥ bm.length := by omega
  unfold clear
  simp [hm]

theorem set_err_of_neg (bm : Bytes) (loc : Int) (h : loc < 0) : set bm loc = .err := by
  simp [set, h]

theorem clear_err_of_neg (bm : Bytes) (loc : Int) (h : loc < 0) : clear bm loc = .err := by
  simp [clear, h]

theorem set_ne_panic (bm : Bytes) (loc : Int) : set bm loc ≠ .panic := by
  unfold set
  split
  · simp
  · simp only []
    split <;> simp

theorem clear_ne_panic (bm : Bytes) (loc : Int) : clear bm loc ≠ .panic := by
  unfold clear
  split
  · simp
  · simp only []
    split <;> simp

theorem scanBits_spec (p : Nat → Bool) (j n : Nat) :
    match scanBits p j n with
    | none => ∀ k, j ≤ k → k < j + n → p k = false
    | some r => j ≤ r ∧ r < j + n ∧ p r = true ∧ ∀ k, j ≤ k → k < r → p k = false := by
  induction n generalizing j with
  | zero => intro k h1 h2; omega
  | succ n ih =>
    rw [scanBits]
    by_cases hp : p j = true
    · rw [if_pos hp]
      exact ⟨Nat.le_refl _, by omega, hp, fun k h1 h2 => by omega⟩
    · rw [if_neg hp]
      have hj : ∀ k, j ≤ k → (j + 1 ≤ k → p k = false) → p k = false := fun k hk h =>
        if e : k = j then by rw [e]; simpa using hp else h (by omega)
      have := ih (j + 1)
      cases hs : scanBits p (j + 1) n with
      | none =>
        rw [hs] at this
        exact fun k h1 h2 => hj k h1 fun h => this k h (by omega)
      | some r =>
        rw [hs] at this
        obtain ⟨h1, h2, h3, h4⟩ := this
        exact ⟨by omega, by omega, h3, fun k hk1 hk2 => hj k hk1 fun h => h4 k h hk2⟩

/-- a scan of `bm` for the first bit with value `v` at or after bit `lo` answered `r` -/
def FirstFrom (v : Bool) (bm : Bytes) (lo : Nat) (r : Int) : Prop :=
  (r = -1 ∧ ∀ i, lo ≤ i → i < 8 * bm.length → bit bm i = !v) ∨
  (∃ n : Nat, r = n ∧ lo ≤ n ∧ n < 8 * bm.length ∧ bit bm n = v ∧ ∀ i, lo ≤ i → i < n → bit bm i = !v)

theorem FirstFrom.skip {v : Bool} {bm : Bytes} {lo lo' : Nat} {r : Int} (h : FirstFrom v bm lo' r) (hle : lo ≤ lo')
    (hall : ∀ i, lo ≤ i → i < lo' → bit bm i = !v) : FirstFrom v bm lo r := by
  have hbits : ∀ n, (∀ i, lo' ≤ i → i < n → bit bm i = !v) → ∀ i, lo ≤ i → i < n → bit bm i = !v :=
    fun n hn i h1 h2 => if hi : i < lo' then hall i h1 hi else hn i (by omega) h2
  rcases h with ⟨h1, h2⟩ | ⟨n, h1, h2, h3, h4, h5⟩
  · exact .inl ⟨h1, hbits _ h2⟩
  · exact .inr ⟨n, h1, by omega, h3, h4, hbits n h5⟩

/-- one byte of a scan: `p` is the loop's test on byte `m` of `bm`, tried from bit `lo` of that byte on -/
theorem firstFrom_byte (v : Bool) (bm : Bytes) (m lo : Nat) (p : Nat → Bool) (hm : m < bm.length)
    (hp : ∀ k, k < 8 → p k = (bit bm (8 * m + k) == v)) (hlo : lo ≤ 8) :
    (∀ j, scanBits p lo (8 - lo) = some j → FirstFrom v bm (8 * m + lo) ((m * 8 + j : Nat) : Int)) ∧
    (∀ r, scanBits p lo (8 - lo) = none → FirstFrom v bm (8 * (m + 1)) r → FirstFrom v bm (8 * m + lo) r) := by
  have hnot : ∀ i, 8 * m + lo ≤ i → i < 8 * m + 8 → p (i - 8 * m) = false → bit bm i = !v := by
    intro i h1 h2 h
    rw [hp _ (by omega), Nat.add_sub_cancel' (by omega)] at h
    cases v <;> simpa using h
  have hs := scanBits_spec p lo (8 - lo)
  constructor
  · intro j hj
    rw [hj] at hs
    obtain ⟨h1, h2, h3, h4⟩ := hs
    rw [hp j (by omega)] at h3
    exact .inr ⟨8 * m + j, by rw [Nat.mul_comm], by omega, by omega, by simpa using h3,
      fun i hi1 hi2 => hnot i hi1 (by omega) (h4 _ (by omega) (by omega))⟩
  · intro r hn ih
    rw [hn] at hs
    exact ih.skip (by omega) fun i h1 h2 => hnot i h1 (by omega) (hs _ (by omega) (by omega))

theorem bit_append_at (pre : Bytes) (b : UInt8) (bs : Bytes) (k : Nat) (hk : k < 8) :
    bit (pre ++ b :: bs) (8 * pre.length + k) = byteBit b k := by
  rw [bit_at _ _ _ hk]; simp [List.getD_eq_getElem?_getD]

theorem firstFreeBytes_spec (bs pre : Bytes) :
    FirstFrom false (pre ++ bs) (8 * pre.length) (firstFreeBytes bs pre.length) := by
  induction bs generalizing pre with
  | nil => left; simp [firstFreeBytes]; intro i h1 h2; omega
  | cons b bs ih =>
    have hscan := firstFrom_byte false (pre ++ b :: bs) pre.length 0 (testClear b) (by simp)
      (fun k hk => by rw [bit_append_at _ _ _ _ hk, testClear_eq b k hk]) (by omega)
    have ih := ih (pre ++ [b])
    simp only [List.length_append, List.length_cons, List.length_nil, List.append_assoc, List.cons_append,
      List.nil_append, Nat.zero_add] at ih
    unfold firstFreeBytes
    split
    · exact ih.skip (by omega) fun i h1 h2 => by
        rw [show i = 8 * pre.length + (i - 8 * pre.length) by omega, bit_append_at _ _ _ _ (by omega)]
        exact ff_bits b ‹_› _ (by omega)
    · split
      · exact hscan.1 _ ‹_›
      · exact hscan.2 _ ‹_› ih

theorem firstFree_spec (bm : Bytes) (start : Nat) : FirstFrom false bm start (firstFree bm start) := by
  have h0 : ¬ ((start : Int) < 0) := by omega
  by_cases hge : start ≥ bm.length * 8
  · left
    simp only [firstFree, h0, if_false, Int.toNat_natCast, hge, if_true, true_and]
    intro k _ hk; omega
  · have hm : start / 8 < bm.length := by omega
    simp only [firstFree, h0, if_false, Int.toNat_natCast, hge]
    have hscan := firstFrom_byte false bm (start / 8) (start % 8) (testClear (bm.getD (start / 8) 0)) hm
      (fun k hk => by rw [bit_at _ _ _ hk, testClear_eq _ k hk]) (by omega)
    rw [Nat.div_add_mod] at hscan
    have hrest := firstFreeBytes_spec (bm.drop (start / 8 + 1)) (bm.take (start / 8 + 1))
    rw [List.take_append_drop, List.length_take, Nat.min_eq_left hm] at hrest
    by_cases hff : bm.getD (start / 8) 0 = 0xff
    · simp only [hff, bne_self_eq_false, Bool.false_eq_true, if_false]
      exact hrest.skip (by omega) fun i h1 h2 => by
        rw [show i = 8 * (start / 8) + (i - 8 * (start / 8)) by omega, bit_at _ _ _ (by omega), hff]
        exact ff_bits _ rfl _ (by omega)
    · simp only [bne_iff_ne, ne_eq, hff, not_false_eq_true, if_true]
      split
      · exact hscan.1 _ ‹_›
      · exact hscan.2 _ ‹_› hrest

theorem firstFree_neg (bm : Bytes) (start : Int) (h : start < 0) :
    firstFree bm start = firstFree bm 0 := by
  unfold firstFree
  simp [h]

theorem firstSetBytes_spec (bs pre : Bytes) :
    FirstFrom true (pre ++ bs) (8 * pre.length) (firstSetBytes bs pre.length) := by
  induction bs generalizing pre with
  | nil => left; simp [firstSetBytes]; intro i h1 h2; omega
  | cons b bs ih =>
    have hscan := firstFrom_byte true (pre ++ b :: bs) pre.length 0 (fun j => b &&& mask j != 0) (by simp)
      (fun k hk => by
        rw [bit_append_at _ _ _ _ hk]
        have := testClear_eq b k hk; unfold testClear at this; simp [bne, this]) (by omega)
    have ih := ih (pre ++ [b])
    simp only [List.length_append, List.length_cons, List.length_nil, List.append_assoc, List.cons_append,
      List.nil_append, Nat.zero_add] at ih
    unfold firstSetBytes
    split
    · obtain rfl : b = 0 := by simpa using ‹(b == 0) = true›
      exact ih.skip (by omega) fun i h1 h2 => by
        rw [show i = 8 * pre.length + (i - 8 * pre.length) by omega, bit_append_at _ _ _ _ (by omega)]
        simp [byteBit]
    · split
      · exact hscan.1 _ ‹_›
      · exact hscan.2 _ ‹_› ih

/-- `FirstSet` returns the least set bit, or -1 when every bit is clear -/
theorem firstSet_spec (bm : Bytes) :
    (firstSet bm = -1 ∧ ∀ i, i < 8 * bm.length → bit bm i = false) ∨
    (∃ n : Nat, firstSet bm = n ∧ n < 8 * bm.length ∧ bit bm n = true ∧
      ∀ i, i < n → bit bm i = false) := by
  simpa [FirstFrom, firstSet] using firstSetBytes_spec bm []

theorem flByte_eq (bm : Bytes) (b : UInt8) (i : Nat) (s : FLState) (hb : bm.getD i 0 = b) :
    flByte b i s = scanFrom (fun p => !bit bm p) (8 * i) 8 s := by
  have hr : List.range 8 = [0, 1, 2, 3, 4, 5, 6, 7] := by decide
  have hbit : ∀ j, j < 8 → (!testSet b j) = !bit bm (8 * i + j) := by
    intro j hj
    rw [bit_at _ _ _ hj, hb, testSet_eq _ _ hj]
  unfold flByte scanFrom
  rw [hr]
  simp only [List.range', List.foldl_cons, List.foldl_nil, Nat.add_assoc, Nat.reduceAdd]
  rw [hbit 0 (by omega), hbit 1 (by omega), hbit 2 (by omega), hbit 3 (by omega),
    hbit 4 (by omega), hbit 5 (by omega), hbit 6 (by omega), hbit 7 (by omega)]
  rfl

theorem flBytes_eq (bs pre : Bytes) (s : FLState) :
    flBytes bs pre.length s
      = scanFrom (fun p => !bit (pre ++ bs) p) (8 * pre.length) (8 * bs.length) s := by
  induction bs generalizing pre s with
  | nil => simp [flBytes, scanFrom]
  | cons b bs ih =>
    unfold flBytes
    have e : 8 * (b :: bs).length = 8 + 8 * bs.length := by simp only [List.length_cons]; omega
    rw [e, scanFrom_add]
    have hb : (pre ++ b :: bs).getD pre.length 0 = b := by
      simp [List.getD_eq_getElem?_getD]
    rw [← flByte_eq (pre ++ b :: bs) b pre.length s hb]
    have := ih (pre ++ [b]) (flByte b pre.length s)
    simp only [List.length_append, List.length_cons, List.length_nil, List.append_assoc,
      List.cons_append, List.nil_append] at this
    rw [this]
    congr 1

theorem freeList_eq_scan (bm : Bytes) :
    freeList bm = flFlush (scanFrom (fun p => !bit bm p) 0 (8 * bm.length) ⟨[], none, 0⟩) := by
  unfold freeList
  have := flBytes_eq bm [] ⟨[], none, 0⟩
  simp only [List.length_nil, Nat.mul_zero, List.nil_append] at this
  rw [this]

theorem freeList_runsSpec (bm : Bytes) :
    RunsSpec (fun p => !bit bm p) (8 * bm.length) (freeList bm) := by
  rw [freeList_eq_scan]
  exact flFlush_spec _ _ _ (inv_scan _ _)

/-- `FreeList` returns exactly the partition of the clear bits into maximal runs:
    (a) each run is non-empty, inside the bitmap and all clear;
    (b) each clear bit lies in a run, and in only one;
    (c) the runs are in increasing position with a gap between any two (Pairwise, so
        in particular for consecutive ones), and the bits just before / after a run,
        when inside the bitmap, are set. -/
theorem freeList_spec (bm : Bytes) :
    (∀ r ∈ freeList bm, 0 < r.2 ∧ r.1 + r.2 ≤ 8 * bm.length ∧
        ∀ i, r.1 ≤ i → i < r.1 + r.2 → bit bm i = false) ∧
    (∀ i, i < 8 * bm.length → bit bm i = false →
        ∃ r ∈ freeList bm, r.1 ≤ i ∧ i < r.1 + r.2) ∧
    (∀ i, ∀ r1 ∈ freeList bm, ∀ r2 ∈ freeList bm,
        r1.1 ≤ i → i < r1.1 + r1.2 → r2.1 ≤ i → i < r2.1 + r2.2 → r1 = r2) ∧
    (freeList bm).Pairwise (fun a b => a.1 + a.2 < b.1) ∧
    (∀ r ∈ freeList bm, (0 < r.1 → bit bm (r.1 - 1) = true) ∧
        (r.1 + r.2 < 8 * bm.length → bit bm (r.1 + r.2) = true)) := by
  obtain ⟨hsound, hcover, hsorted, hmax⟩ := freeList_runsSpec bm
  refine ⟨?_, ?_, ?_, hsorted, ?_⟩
  · intro r hr
    obtain ⟨a, b, c⟩ := hsound r hr
    exact ⟨a, b, fun i h1 h2 => by simpa using c i h1 h2⟩
  · intro i hi hb
    exact hcover i hi (by simp [hb])
  · intro i r1 h1 r2 h2 a1 b1 a2 b2
    exact runs_unique _ hsorted i r1 r2 h1 h2 a1 b1 a2 b2
  · intro r hr
    obtain ⟨a, b⟩ := hmax r hr
    exact ⟨fun h => by simpa using a h, fun h => by simpa using b h⟩

/-- (c) in index form: consecutive runs are separated by at least one bit -/
theorem freeList_consecutive (bm : Bytes) (k : Nat) (h : k + 1 < (freeList bm).length) :
    (freeList bm)[k].1 + (freeList bm)[k].2 < (freeList bm)[k + 1].1 := by
  exact List.pairwise_iff_getElem.mp (freeList_runsSpec bm).sorted k (k + 1) (by omega) h (by omega)

theorem countFree_zero (bm : Bytes) : countFree bm 0 = 0 := rfl

theorem countFree_succ (bm : Bytes) (n : Nat) :
    countFree bm (n + 1) = countFree bm n + (if bit bm n then 0 else 1) := by
  unfold countFree
  rw [List.range_succ, List.foldl_append]
  simp only [List.foldl_cons, List.foldl_nil]
  split <;> rfl

theorem total_scan (bm : Bytes) (N : Nat) :
    total (scanFrom (fun p => !bit bm p) 0 N ⟨[], none, 0⟩) = countFree bm N := by
  induction N with
  | zero => simp [scanFrom, total, countFree_zero]
  | succ N ih =>
    rw [scanFrom_succ, total_step, ih, countFree_succ]
    simp only [Nat.zero_add]
    cases bit bm N <;> simp

theorem countFree_congr (a b : Bytes) (n : Nat) (h : ∀ i, i < n → bit a i = bit b i) :
    countFree a n = countFree b n := by
  induction n with
  | zero => rfl
  | succ n ih =>
    rw [countFree_succ, countFree_succ, ih (fun i hi => h i (by omega)), h n (by omega)]

theorem countFree_le (bm : Bytes) (n : Nat) : countFree bm n ≤ n := by
  induction n with
  | zero => simp [countFree_zero]
  | succ n ih => rw [countFree_succ]; split <;> omega

theorem countFree_flip (a b : Bytes) (i n : Nat) (hi : i < n)
    (ha : bit a i = false) (hb : bit b i = true) (hrest : ∀ j, j ≠ i → bit b j = bit a j) :
    countFree b n + 1 = countFree a n := by
  induction n with
  | zero => omega
  | succ n ih =>
    rw [countFree_succ, countFree_succ]
    by_cases hin : i = n
    · subst hin
      rw [ha, hb, countFree_congr b a i (fun j hj => hrest j (by omega))]
      simp
    · rw [hrest n (fun e => hin e.symm), ← ih (by omega)]
      omega

/-- `Set` on a free bit inside the counted range uses up exactly one free bit -/
theorem countFree_set (bm bm' : Bytes) (i n : Nat) (hi : i < n) (h : i < 8 * bm.length)
    (hs : set bm i = .ok bm') (hfree : bit bm i = false) :
    countFree bm' n + 1 = countFree bm n := by
  obtain ⟨bm'', e, _, h2, h3⟩ := bitmap_set_get bm i h
  rw [hs] at e
  cases e
  exact countFree_flip bm bm' i n hi hfree h2 h3

/-- `Clear` on a set bit inside the counted range frees exactly one bit -/
theorem countFree_clear (bm bm' : Bytes) (i n : Nat) (hi : i < n) (h : i < 8 * bm.length)
    (hs : clear bm i = .ok bm') (hset : bit bm i = true) :
    countFree bm' n = countFree bm n + 1 := by
  obtain ⟨bm'', e, _, h2, h3⟩ := bitmap_clear_get bm i h
  rw [hs] at e
  cases e
  exact (countFree_flip bm' bm i n hi h2 hset (fun j hj => (h3 j hj).symm)).symm

/-- the bitmap of the Go doc comment of `FreeList`, `10010010 00100000 10000010` in
    position order, is bytes `49 04 41`; the code returns a run `7:3` where the
    comment says `8:3` (bit 7 is clear too). -/
example : freeList [0x49, 0x04, 0x41] = [(1, 2), (4, 2), (7, 3), (11, 5), (17, 5), (23, 1)] := by
  decide

example : countFree [0x49, 0x04, 0x41] 24 = 18 := by decide

example : freeList [0xff, 0xff] = [] ∧ freeList [] = [] ∧ freeList [0x00] = [(0, 8)] := by decide

example : firstFree [0xff, 0x07] 3 = 11 ∧ firstFree [0xff, 0x07] (-3) = 11 ∧
    firstFree [0x0f, 0x07] 2 = 4 ∧ firstFree [0xff, 0xff] 0 = -1 ∧ firstFree [0x00] 8 = -1 := by
  decide

example : firstSet [0, 0, 8] = 19 ∧ firstSet [0, 0] = -1 := by decide

/-- the `IsSet` off-by-one: one byte, location 8 panics, location 16 is an error -/
example : isSet [1] 8 = .panic ∧ isSet [1] 16 = .err ∧ isSet [1] 0 = .ok true ∧
    isSet [1] 7 = .ok false ∧ isSet [1] (-1) = .err := by decide

example : set [1, 0] 9 = .ok [1, 2] ∧ clear [1, 0xff] 9 = .ok [1, 0xfd] ∧
    set [1, 0] 16 = .err ∧ clear [1, 0] 16 = .err := by decide

end Diskfs.Ext4.Bitmap
