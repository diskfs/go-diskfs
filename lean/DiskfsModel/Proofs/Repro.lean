/-
  C14: a write list shifted, applied twice or on two devices (a covered byte does not depend on the prior
  content); the MBR entry round trip, and with it that a table mbr.Read accepts encodes to the bytes it was read from.
-/
import DiskfsModel.Model.Repro
import DiskfsModel.Proofs.Bytes
namespace Diskfs.Repro

theorem readAt16 (d : Dev) (o : Nat) : readAt d o 16 =
    [d o, d (o+1), d (o+2), d (o+3), d (o+4), d (o+5), d (o+6), d (o+7), d (o+8), d (o+9), d (o+10), d (o+11),
     d (o+12), d (o+13), d (o+14), d (o+15)] := by
  simp [readAt, List.range, List.range.loop]

theorem le4_roundtrip (a b c e : UInt8) : leEnc 4 (leDec [a, b, c, e]) = [a, b, c, e] :=
  leEnc_leDec [a, b, c, e]

/-- partitionFromBytes then toBytes gives the 16 bytes back -/
theorem MbrPart.roundtrip (b : Bytes) (p : MbrPart) (h : MbrPart.fromBytes b = some p) : p.toBytes = b := by
  match b, h with
  | [b0, b1, b2, b3, b4, b5, b6, b7, s0, s1, s2, s3, z0, z1, z2, z3], h =>
    simp only [MbrPart.fromBytes] at h
    split at h
    · rename_i h0
      cases h
      simp [MbrPart.toBytes, le4_roundtrip, h0]
    · split at h
      · rename_i h0
        cases h
        simp [MbrPart.toBytes, le4_roundtrip, h0]
      · cases h

/-- 66 bytes: the four 16-byte entries and the signature -/
theorem mbrRead_toBytes (d : Dev) (t : MbrTable) (h : mbrRead d = some t) : t.toBytes = readAt d 446 66 := by
  unfold mbrRead at h
  split at h
  · rename_i hsig
    split at h
    · rename_i a b c e ha hb hc he
      cases h
      have hs : readAt d 510 2 = [0x55, 0xAA] := by
        simp [readAt, List.range, List.range.loop, hsig.1, hsig.2]
      rw [show (66 : Nat) = 16 + (16 + (16 + (16 + 2))) from rfl, readAt_append, readAt_append, readAt_append,
        readAt_append, hs]
      simp only [MbrTable.toBytes, MbrPart.roundtrip _ _ ha, MbrPart.roundtrip _ _ hb, MbrPart.roundtrip _ _ hc,
        MbrPart.roundtrip _ _ he, List.append_assoc]
    · cases h
  · cases h

theorem applyWrs_shift (d : Dev) (s : Nat) (ws : List Wr) (i : Nat) :
    applyWrs d (Detect.shift s ws) (s + i) = applyWrs (fun j => d (s + j)) ws i := by
  induction ws generalizing d with
  | nil => rfl
  | cons w ws ih =>
    have hw : (fun j => applyWr d ⟨s + w.off, w.data⟩ (s + j)) = applyWr (fun j => d (s + j)) w := by
      funext j
      by_cases h : w.off ≤ j ∧ j < w.off + w.data.length
      · rw [applyWr_hit _ _ _ (by simp only; omega) (by simp only; omega), applyWr_hit _ w _ h.1 h.2,
          Nat.add_sub_add_left]
      · rw [applyWr_frame _ _ _ (by simp only; omega), applyWr_frame _ w _ (by omega)]
    rw [Detect.shift, List.map_cons, applyWrs_cons, applyWrs_cons, ← hw]
    exact ih _

/-- some write of the list covers byte `i` -/
def Covered (ws : List Wr) (i : Nat) : Prop := ∃ w ∈ ws, w.off ≤ i ∧ i < w.off + w.data.length

theorem applyWrs_covered (ws : List Wr) (i : Nat) : ∀ (d1 d2 : Dev), (d1 i = d2 i ∨ Covered ws i) →
    applyWrs d1 ws i = applyWrs d2 ws i := by
  induction ws with
  | nil =>
    intro d1 d2 h
    rcases h with h | ⟨w, hw, _⟩
    · exact h
    · cases hw
  | cons w ws ih =>
    intro d1 d2 h
    rw [applyWrs_cons, applyWrs_cons]
    apply ih
    by_cases hc : w.off ≤ i ∧ i < w.off + w.data.length
    · exact .inl (by rw [applyWr_hit _ _ _ hc.1 hc.2, applyWr_hit _ _ _ hc.1 hc.2])
    · rw [applyWr_frame _ _ _ (by omega), applyWr_frame _ _ _ (by omega)]
      rcases h with h | ⟨w', hw', hcov⟩
      · exact .inl h
      · rcases List.mem_cons.1 hw' with rfl | hm
        · exact absurd hcov hc
        · exact .inr ⟨w', hm, hcov⟩

theorem applyWrs_twice (d : Dev) (ws : List Wr) : applyWrs (applyWrs d ws) ws = applyWrs d ws := by
  funext i
  by_cases hc : Covered ws i
  · exact applyWrs_covered ws i _ _ (Or.inr hc)
  · apply applyWrs_frame
    intro w hw
    have : ¬ (w.off ≤ i ∧ i < w.off + w.data.length) := fun h => hc ⟨w, hw, h.1, h.2⟩
    omega

theorem take_pad_length (b : Bytes) (n : Nat) : (b.take n ++ zeros (n - b.length)).length = n := by
  simp only [List.length_append, List.length_take, zeros_length]
  omega

end Diskfs.Repro
