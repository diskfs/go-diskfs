/-
  squashfs id table cut into metadata blocks and read back (Model/MetaSqfs.lean), and the bodies of the inode
  types outside the data-path model.
-/
import DiskfsModel.Model.MetaSqfs
import DiskfsModel.Proofs.Bytes
namespace Diskfs.Meta

theorem chunks_take_flatten (n : Nat) (hn : 0 < n) : ∀ (f : Nat) (l : List Nat) (k : Nat), l.length ≤ f →
    ((chunks n f l).take k).flatten = l.take (k * n) := by
  intro f
  induction f with
  | zero =>
    intro l k h
    have : l = [] := List.length_eq_zero_iff.1 (by omega)
    subst this; simp [chunks]
  | succ f ih =>
    intro l k h
    simp only [chunks]
    split
    · rename_i he; simp [List.isEmpty_iff.1 he]
    · rename_i hne
      cases k with
      | zero => simp
      | succ k =>
        have hl : 0 < l.length := by
          cases l with
          | nil => simp at hne
          | cons _ _ => simp
        simp only [List.take_succ_cons, List.flatten_cons]
        rw [ih (l.drop n) k (by simp; omega)]
        have : (k + 1) * n = n + k * n := by rw [Nat.add_mul, Nat.one_mul, Nat.add_comm]
        rw [this, List.take_add]

theorem readIds_take (widen : Bool) (ids : List Nat) (count : Nat) (h : count % 65536 ≠ 0) :
    readIds widen count (idBlocksWr ids) = ids.take (idBlocksRd widen (count % 65536) * 2048) := by
  unfold readIds idBlocksWr
  rw [if_neg h, chunks_take_flatten 2048 (by decide) ids.length ids _ (Nat.le_refl _)]

theorem idBlocks_enough (widen : Bool) (n : Nat) (h0 : 0 < n) (h1 : n < 65536) (hw : widen = true ∨ n ≤ 16384) :
    n ≤ idBlocksRd widen n * 2048 := by
  unfold idBlocksRd
  cases widen <;> simp at hw ⊢ <;> omega

section
/- a field of a concatenation of fixed-width fields is read by skipping the fields before it (`slice_append_right`,
   `drop_append_right`) and taking it (`slice_append_hit`); the offsets are numerals, so `simp` does the arithmetic -/
attribute [local simp] slice_append_right slice_append_hit drop_append_right encXBody decXBody XBody.fits

theorem decXBody_enc (typ : Nat) (b : XBody) (rest : Bytes) (hf : b.fits typ = true) (h : b.WF) :
    decXBody typ (encXBody b ++ rest) = some (b, rest) := by
  cases b with
  | lnk links t xa =>
    -- the target's length is read from the record: the fields behind it sit at offsets that depend on it
    obtain ⟨h1, h2, h3⟩ := h
    obtain rfl : typ = 10 := by simpa using hf
    have e : encXBody (.lnk links t xa) ++ rest = leEnc 4 links ++ (leEnc 4 t.length ++ (t ++ (leEnc 4 xa ++ rest))) := by
      simp
    have hlen : (encXBody (.lnk links t xa) ++ rest).length = 8 + (t.length + 4) + rest.length := by
      rw [e]; simp; omega
    have s0 : slice (encXBody (.lnk links t xa) ++ rest) 0 4 = leEnc 4 links := by
      rw [e]; exact slice_append_hit _ _ _ (by simp)
    have s1 : slice (encXBody (.lnk links t xa) ++ rest) 4 8 = leEnc 4 t.length := by
      rw [e]; exact slice_mid _ _ _ _ _ (by simp) (by simp)
    have s2 : slice (encXBody (.lnk links t xa) ++ rest) 8 (8 + t.length) = t := by
      rw [e, ← List.append_assoc]; exact slice_mid _ _ _ _ _ (by simp) (by simp)
    have s3 : slice (encXBody (.lnk links t xa) ++ rest) (8 + t.length) (8 + t.length + 4) = leEnc 4 xa := by
      rw [e, ← List.append_assoc, ← List.append_assoc]; exact slice_mid _ _ _ _ _ (by simp; omega) (by simp; omega)
    have s4 : (encXBody (.lnk links t xa) ++ rest).drop (8 + t.length + 4) = rest := by
      rw [e, ← List.append_assoc, ← List.append_assoc, ← List.append_assoc]
      exact List.drop_left' (by simp; omega)
    simp only [decXBody, if_true]
    rw [if_neg (by omega), s1, leDec_leEnc_of_lt 4 _ h2, if_neg (by omega), s0, s2, s3, s4,
      leDec_leEnc_of_lt 4 _ h1, leDec_leEnc_of_lt 4 _ h3]
  | dev links w =>
    obtain ⟨h1, h2⟩ := h
    obtain rfl | rfl : typ = 4 ∨ typ = 5 := by simpa using hf
    all_goals
      simp (disch := simp) [leDec_leEnc_of_lt 4 _ h1, leDec_leEnc_of_lt 4 _ h2]
      omega
  | devx links w xa =>
    obtain ⟨h1, h2, h3⟩ := h
    obtain rfl | rfl : typ = 11 ∨ typ = 12 := by simpa using hf
    all_goals
      simp (disch := simp) [leDec_leEnc_of_lt 4 _ h1, leDec_leEnc_of_lt 4 _ h2, leDec_leEnc_of_lt 4 _ h3]
      omega
  | ipc links =>
    obtain rfl | rfl : typ = 6 ∨ typ = 7 := by simpa using hf
    all_goals simp (disch := simp) [leDec_leEnc_of_lt 4 _ h]
  | ipcx links xa =>
    obtain ⟨h1, h2⟩ := h
    obtain rfl | rfl : typ = 13 ∨ typ = 14 := by simpa using hf
    all_goals
      simp (disch := simp) [leDec_leEnc_of_lt 4 _ h1, leDec_leEnc_of_lt 4 _ h2]
      omega

end

end Diskfs.Meta
