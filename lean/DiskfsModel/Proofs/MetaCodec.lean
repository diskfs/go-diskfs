/-
  The ext4 timestamp round trip (Model/Ext4/InodeCodec.lean), which the inode decoder's proofs share with C19;
  then the mode word, PX kind and id table mirrors of Model/MetaCodec.lean: the three special bits are binary
  digits above the nine permission bits.
-/
import DiskfsModel.Model.MetaCodec
import DiskfsModel.Model.Ext4.InodeCodec
import DiskfsModel.Proofs.Arith
namespace Diskfs.Ext4.InodeCodec

/-- `TsWF` is the range [-2^31, 2^34 - 2^31): `sec - int32(sec)` is a multiple of 2^32, and on that range its quotient
    is 0..3, which the two epoch bits hold; `tsDec` adds it back to the sign-extended low word. -/
theorem ts_roundtrip_aux (t : Ts) (h : TsWF t) : tsDec (tsLo t) (tsExtra t) = t := by
  obtain ⟨s, n⟩ := t
  obtain ⟨h1, h2, h3⟩ := h
  simp only at h1 h2 h3
  simp only [tsDec, tsLo, tsExtra, lowSigned, Ts.mk.injEq]
  constructor <;> omega

theorem tsLo_lt (t : Ts) : tsLo t < 4294967296 := by unfold tsLo; omega
theorem tsExtra_lt (t : Ts) : tsExtra t < 4294967296 := by unfold tsExtra; omega

end Diskfs.Ext4.InodeCodec
namespace Diskfs.Meta

theorem b2n_le (b : Bool) : b2n b ≤ 1 := by cases b <;> decide
theorem decide_b2n (b : Bool) : decide (b2n b = 1) = b := by cases b <;> rfl

theorem unix_lt (m : GoMode) (h : m.perm < 512) : m.unix < 4096 := by
  have := b2n_le m.setuid
  have := b2n_le m.setgid
  have := b2n_le m.sticky
  unfold GoMode.unix; omega

theorem goModeOfUnix_unix (m : GoMode) (h : m.perm < 512) : goModeOfUnix m.unix = m := by
  obtain ⟨p, a, b, c⟩ := m
  have := b2n_le a
  have := b2n_le b
  have := b2n_le c
  simp only [GoMode.unix, goModeOfUnix, bit, GoMode.mk.injEq] at h ⊢
  exact ⟨by omega, (decide_eq_decide.2 (by omega)).trans (decide_b2n a),
    (decide_eq_decide.2 (by omega)).trans (decide_b2n b), (decide_eq_decide.2 (by omega)).trans (decide_b2n c)⟩

theorem pxKind_code (k : PxKind) : pxKindOfCode (pxKindCode k) = some k := by cases k <;> rfl
theorem pxKindCode_lt (k : PxKind) : pxKindCode k < 16 := by cases k <;> decide

theorem findId_get : ∀ (tbl : List Nat) (id i : Nat), findId tbl id = some i → tbl[i]? = some id := by
  intro tbl
  induction tbl with
  | nil => intro id i h; simp [findId] at h
  | cons x xs ih =>
    intro id i h
    simp only [findId] at h
    split at h
    · rename_i hx; simp at h; subst h; simp [hx]
    · cases hf : findId xs id with
      | none => rw [hf] at h; simp at h
      | some j => rw [hf] at h; simp at h; subst h; simpa using ih id j hf

end Diskfs.Meta
