/-
  Adaptive clients of the cache (Model/LruFile.lean) on the N-thread machine.

  The machine's threads run static programs.  A client decides its next call from what the
  earlier ones returned; its static program is `Client.ops disk` = the calls it makes when it runs
  alone.  `feed_ops` shows that this is no restriction: whenever a thread's returned calls are a
  prefix of `c.ops disk` and every return value is right (`retOk`: the field `tok` of the invariant),
  following the client along the values it ACTUALLY received leads to a client whose own calls are
  exactly the rest of the static program, and whose final answer is the lone reader's answer.
-/
import DiskfsModel.Proofs.LruLive
import DiskfsModel.Model.LruFile
namespace Diskfs.Lru

theorem Client.ops_nil_iff {ρ} (disk : Pos → Data) (c : Client ρ) : c.ops disk = [] ↔ ∃ r, c = .done r := by
  cases c <;> simp [Client.ops]

theorem Client.feed_ops {ρ} (disk : Pos → Data) :
    ∀ (rets : List (Op × Ret)) (c : Client ρ) (rest : List Op),
      rets.map Prod.fst ++ rest = c.ops disk → (∀ x ∈ rets, retOk disk x.1 x.2) →
      ∃ c', c.feed rets = some c' ∧ c'.ops disk = rest ∧ c'.result disk = c.result disk
  | [], c, rest, h, _ => ⟨c, by cases c <;> rfl, by simpa using h.symm, rfl⟩
  | (op, r) :: rets, c, rest, h, hok => by
    have hr := hok (op, r) (List.mem_cons_self ..)
    have hok' : ∀ x ∈ rets, retOk disk x.1 x.2 := fun x hx => hok x (List.mem_cons_of_mem _ hx)
    cases c with
    | done r0 => simp [Client.ops] at h
    | get pos k =>
      simp only [List.map_cons, List.cons_append, Client.ops, List.cons.injEq] at h
      obtain ⟨hop, htl⟩ := h
      subst hop
      have hv : r.value = some (disk pos) := by
        rcases hr with hr | ⟨hf, _⟩
        · exact hr
        · cases hf
      obtain ⟨c', hf, ho, hres⟩ := Client.feed_ops disk rets (k (some (disk pos))) rest htl hok'
      exact ⟨c', by simp [Client.feed, hv, hf], ho, by simp [Client.result, hres]⟩
    | setMax n k =>
      simp only [List.map_cons, List.cons_append, Client.ops, List.cons.injEq] at h
      obtain ⟨hop, htl⟩ := h
      subst hop
      obtain ⟨c', hf, ho, hres⟩ := Client.feed_ops disk rets k rest htl hok'
      exact ⟨c', by simp [Client.feed, hf], ho, by simp [Client.result, hres]⟩

/-- programs of clients never contain a failing fetch -/
theorem Client.ops_fetchOk {ρ} (disk : Pos → Data) : ∀ (c : Client ρ), ∀ op ∈ c.ops disk, ∀ pos, op ≠ .get pos false
  | .done _, op, h, _ => by simp [Client.ops] at h
  | .get p k, op, h, pos => by
    simp only [Client.ops, List.mem_cons] at h
    rcases h with rfl | h
    · intro e; cases e
    · exact Client.ops_fetchOk disk (k (some (disk p))) op h pos
  | .setMax n k, op, h, pos => by
    simp only [Client.ops, List.mem_cons] at h
    rcases h with rfl | h
    · intro e; cases e
    · exact Client.ops_fetchOk disk k op h pos

/-- one `File.Read` makes no cache call at all, or exactly one — a get of the file's fragment block —
    before it continues -/
theorem readC_ops {ρ} (disk : Pos → Data) (im : Image) (f : FileD) (h : HSt) (n : Nat) (k : HRes → HSt → Client ρ) :
    (∃ r h', (readC im f h n k).ops disk = (k r h').ops disk) ∨
      ∃ pos foff r h', f.frag = some (pos, foff) ∧ (readC im f h n k).ops disk = .get pos true :: (k r h').ops disk := by
  unfold readC
  by_cases hsz : f.size ≤ h.off
  · simp only [hsz, if_true]; exact Or.inl ⟨_, _, rfl⟩
  · simp only [hsz, if_false]
    by_cases hp : (readPre im f h n).2 = true
    · simp only [hp, if_true]
      cases hf : f.frag with
      | none => exact Or.inl ⟨_, _, rfl⟩
      | some pf =>
        obtain ⟨pos, foff⟩ := pf
        exact Or.inr ⟨pos, foff, (readFrag im f n h foff (readPre im f h n).1 (some (disk pos))).1,
          (readFrag im f n h foff (readPre im f h n).1 (some (disk pos))).2, rfl, by simp only [Client.ops]⟩
    · simp only [hp]; exact Or.inl ⟨_, _, rfl⟩

/-- which reads go through the LRU: every cache call of a handle — whatever its program — is a get of
    ITS file's fragment block or a `setMaxBlocks` from `SetCacheSize`; data blocks never pass through
    the cache -/
theorem handleC_ops (disk : Pos → Data) (im : Image) (f : FileD) :
    ∀ (ops : List HOp) (h : HSt) (acc : List HRes), ∀ op ∈ (handleC im f h ops acc).ops disk,
      (∃ pos foff, f.frag = some (pos, foff) ∧ op = .get pos true) ∨ ∃ c, op = .setMax (cacheBlocks f.bs c)
  | [], h, acc, op, hop => by simp [handleC, Client.ops] at hop
  | .read n :: ops, h, acc, op, hop => by
    simp only [handleC] at hop
    rcases readC_ops disk im f h n (fun r h' => handleC im f h' ops (r :: acc)) with ⟨r, h', he⟩ | ⟨pos, foff, r, h', hf, he⟩
    · rw [he] at hop; exact handleC_ops disk im f ops h' (r :: acc) op hop
    · rw [he] at hop
      rcases List.mem_cons.1 hop with rfl | hop
      · exact Or.inl ⟨pos, foff, hf, rfl⟩
      · exact handleC_ops disk im f ops h' (r :: acc) op hop
  | .seek w o :: ops, h, acc, op, hop => by
    simp only [handleC] at hop
    exact handleC_ops disk im f ops _ _ op hop
  | .setCache c :: ops, h, acc, op, hop => by
    simp only [handleC, Client.ops] at hop
    rcases List.mem_cons.1 hop with rfl | hop
    · exact Or.inr ⟨c, rfl⟩
    · exact handleC_ops disk im f ops _ _ op hop

end Diskfs.Lru
