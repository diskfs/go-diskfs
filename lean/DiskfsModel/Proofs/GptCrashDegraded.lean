/-
  C09, record level: rewriting a disk that reads ONLY FROM ITS BACKUP COPY (primary left invalid by an
  interrupted earlier Write; gpt.Read returns the table with RecoveredFromBackup set), and rewriting a
  table whose backup copy gpt.Read cannot see (disk grown since it was partitioned).  Writing the same
  table again is atomic; writing another one is not, because Write destroys the only valid copy first.
-/
import DiskfsModel.Proofs.GptCrash
namespace Diskfs.GptCrash

/-- the old disk reads only from its backup copy: the backup validates, the primary does not -/
structure OldDegraded {S P : Type} {n : Nat} (R : Reader S P n) (old : Disk S n) : Prop where
  hdrB : R.hdrB old.bh = some (R.crc old.ba)
  prim : R.hdrP old.ph = none ∨ ∃ c, R.hdrP old.ph = some c ∧ R.crc old.pa ≠ c

theorem degraded_reads_backup {S P : Type} {n : Nat} (R : Reader S P n) (old : Disk S n) (h : OldDegraded R old) :
    read R old = .ok (R.parts old.ba) true := by
  rcases h.prim with hp | ⟨c, hp, hc⟩
  · simp [read, readBackup, hp, h.hdrB]
  · simp [read, readBackup, hp, hc, h.hdrB]

/-- RETRY OF THE SAME TABLE over a disk that reads only from its backup: the new backup array and backup
    header are byte-for-byte the old ones (same table, same geometry), so every crash state of the repaired
    Write reads — from whichever copy — as exactly that table.  Explicit premise `hStale` (CRC32 is not
    collision free): if the stale primary header still validates, no sector mixture of the new and the
    damaged primary array has the CRC it records unless it decodes as the new table. -/
theorem retry_same_table_atomic {S P : Type} {n : Nat} (R : Reader S P n) (old new : Disk S n)
    (hOld : OldDegraded R old) (hNew : NewOk R new) (hba : new.ba = old.ba) (hbh : new.bh = old.bh)
    (hStale : ∀ c, R.hdrP old.ph = some c → ∀ keep : Fin n → Bool,
      R.crc (mix keep new.pa old.pa) = c → R.parts (mix keep new.pa old.pa) = R.parts new.pa)
    (d : Disk S n) (hd : Crash false old new d) :
    (read R d).parts? = some (R.parts old.ba) := by
  have hB := hOld.hdrB
  have hsame : R.parts new.pa = R.parts old.ba := by rw [← hNew.same, hba]
  have hNB : R.hdrB new.bh = some (R.crc new.ba) := by rw [hbh, hba]; exact hB
  -- while only the backup side is in flight nothing the reader looks at has changed
  have hold : (read R old).parts? = some (R.parts old.ba) := by rw [degraded_reads_backup R old hOld]; rfl
  cases hd with
  | pmbrFirst m hm hf => simp at hf
  | pmbrLast m hm hf => simp [read, hNew.hdrP, Out.parts?, hsame]
  | backupArray keep =>
    rw [hba, mix_same]
    exact hold
  | backupHeader h hh =>
    have hh' : h = old.bh := by rcases hh with e | e; exact e; rw [e, hbh]
    subst hh'
    rw [hba]
    exact hold
  | primaryArray keep =>
    rcases read_cases R _ with ⟨c, hp, hm, hr⟩ | hr <;> rw [hr]
    · simp only [Out.parts?, hStale c hp keep hm, hsame]
    · simp [readBackup, hNB, hba, Out.parts?]
  | primaryHeader h hh =>
    rcases read_cases R _ with ⟨c, hp, hm, hr⟩ | hr <;> rw [hr]
    · simp only [Out.parts?, hsame]
    · simp [readBackup, hNB, hba, Out.parts?]

/-- A DIFFERENT TABLE over a disk that reads only from its backup is NOT atomic with the order Write uses
    (backup side first): with the backup array rewritten and the old backup header still in place — or the
    backup array torn — no valid copy is left (stages 0 and 1 read as an error; finding
    gpt-rewrite-over-degraded-primary) -/
theorem degraded_other_table_not_atomic :
    ∃ (R : Reader Nat Nat 1) (old new d : Disk Nat 1),
      OldDegraded R old ∧ NewOk R new ∧ Crash false old new d ∧ read R d = .err := by
  refine ⟨⟨fun s => if s = 0 then none else some s, fun s => if s = 0 then none else some s, fun a => a 0, fun a => a 0⟩,
    ⟨0, 0, fun _ => 1, fun _ => 1, 1⟩, ⟨0, 2, fun _ => 2, fun _ => 2, 2⟩,
    ⟨0, 0, fun _ => 1, fun _ => 2, 1⟩, ⟨rfl, Or.inl rfl⟩, ⟨rfl, rfl, rfl⟩, ?_, ?_⟩
  · have := Crash.backupArray (pmFirst := false) (old := (⟨0, 0, fun _ => 1, fun _ => 1, 1⟩ : Disk Nat 1))
      (new := ⟨0, 2, fun _ => 2, fun _ => 2, 2⟩) (fun _ => true)
    simpa [mix_all] using this
  · simp [read, readBackup]

/-- the order primary array → primary header → backup array → backup header (protective MBR last) -/
inductive CrashPF {S : Type} {n : Nat} (old new : Disk S n) : Disk S n → Prop
  | primaryArray (keep : Fin n → Bool) : CrashPF old new { old with pa := mix keep new.pa old.pa }
  | primaryHeader (h : S) (hh : h = old.ph ∨ h = new.ph) : CrashPF old new { old with pa := new.pa, ph := h }
  | backupArray (keep : Fin n → Bool) :
      CrashPF old new { old with pa := new.pa, ph := new.ph, ba := mix keep new.ba old.ba }
  | backupHeader (h : S) (hh : h = old.bh ∨ h = new.bh) :
      CrashPF old new { new with mbr := old.mbr, bh := h }
  | pmbrLast (m : S) (hm : m = old.mbr ∨ m = new.mbr) : CrashPF old new { new with mbr := m }

/-- FOR THE RECORD (not what the code does; what a repair that lets the order depend on
    RecoveredFromBackup would rely on): writing the PRIMARY side first over a disk that reads only
    from its backup copy is atomic for ANY new table — the damaged primary stays invalid, or becomes the
    complete new table, while the old backup is still intact.  Premise `hStale` as above. -/
theorem primary_first_atomic_over_degraded {S P : Type} {n : Nat} (R : Reader S P n) (old new : Disk S n)
    (hOld : OldDegraded R old) (hNew : NewOk R new)
    (hStale : ∀ c, R.hdrP old.ph = some c → ∀ keep : Fin n → Bool,
      R.crc (mix keep new.pa old.pa) = c → R.parts (mix keep new.pa old.pa) = R.parts new.pa ∨
        R.parts (mix keep new.pa old.pa) = R.parts old.ba)
    (d : Disk S n) (hd : CrashPF old new d) :
    (read R d).parts? = some (R.parts old.ba) ∨ (read R d).parts? = some (R.parts new.pa) := by
  have hB := hOld.hdrB
  cases hd with
  | primaryArray keep =>
    rcases read_cases R _ with ⟨c, hp, hm, hr⟩ | hr <;> rw [hr]
    · exact (hStale c hp keep hm).symm.imp (congrArg some) (congrArg some)
    · left; simp [readBackup, hB, Out.parts?]
  | primaryHeader h hh =>
    rcases read_cases R _ with ⟨c, hp, hm, hr⟩ | hr <;> rw [hr]
    · exact .inr rfl
    · left; simp [readBackup, hB, Out.parts?]
  | backupArray keep => right; simp [read, hNew.hdrP, Out.parts?]
  | backupHeader h hh => right; simp [read, hNew.hdrP, Out.parts?]
  | pmbrLast m hm => right; simp [read, hNew.hdrP, Out.parts?]

/-- GROWN DISK: the table gpt.Read returned on a disk that has grown keeps its old AlternateLBA, so the backup
    copy Write produces is NOT in the sectors Read's fallback looks at (the device's last LBA holds no
    header: `hdrB old.bh = none`, and Write never touches it).  With the primary array in flight the
    disk does not read: neither old nor new (finding gpt-rewrite-grown-disk-no-fallback). -/
theorem grown_rewrite_not_atomic :
    ∃ (R : Reader Nat Nat 1) (old d : Disk Nat 1) (newPa : Fin 1 → Nat),
      OldOk R old ∧ R.hdrB old.bh = none ∧ d = { old with pa := mix (fun _ => true) newPa old.pa } ∧
      read R old = .ok (R.parts old.pa) false ∧ read R d = .err := by
  refine ⟨⟨fun s => if s = 0 then none else some s, fun s => if s = 0 then none else some s, fun a => a 0, fun a => a 0⟩,
    ⟨0, 1, fun _ => 1, fun _ => 0, 0⟩, ⟨0, 1, fun _ => 2, fun _ => 0, 0⟩, fun _ => 2, ⟨rfl⟩, rfl, ?_, ?_, ?_⟩
  · simp [mix_all]
  · simp [read]
  · simp [read, readBackup]

/-- the two-sector array `[a, b]` -/
def v2 (a b : Nat) : Fin 2 → Nat := fun i => if i.val = 0 then a else b

/-- a different table over a disk that reads only from its backup (`degraded_other_table_not_atomic`), worse than
    an error: while the primary array is in flight the STALE primary header (of the table A
    that was on the disk before the interrupted write) can become valid again — when the sectors of the new
    array that have reached the disk equal A's — and the disk reads, from the primary, as table A: neither the
    old table (B, from the backup) nor the new one -/
theorem degraded_other_table_resurrects_stale_primary :
    ∃ (R : Reader Nat Nat 2) (old new d : Disk Nat 2) (pa : Nat),
      OldDegraded R old ∧ NewOk R new ∧ Crash false old new d ∧ read R d = .ok pa false ∧
      pa ≠ R.parts old.ba ∧ pa ≠ R.parts new.pa := by
  refine ⟨⟨fun s => if s = 0 then none else some s, fun s => if s = 0 then none else some s,
      fun a => a 0 * 10 + a 1, fun a => a 0 * 10 + a 1⟩,
    ⟨0, 11, v2 1 2, v2 2 2, 22⟩, ⟨0, 31, v2 3 1, v2 3 1, 31⟩,
    ⟨0, 11, mix (fun i => decide (i.val = 1)) (v2 3 1) (v2 1 2), v2 3 1, 31⟩, 11,
    ⟨by simp [v2], Or.inr ⟨11, by simp, by simp [v2]⟩⟩, ⟨by simp [v2], by simp [v2], rfl⟩, ?_, ?_, by simp [v2], by simp [v2]⟩
  · exact Crash.primaryArray (pmFirst := false) (old := (⟨0, 11, v2 1 2, v2 2 2, 22⟩ : Disk Nat 2))
      (new := ⟨0, 31, v2 3 1, v2 3 1, 31⟩) (fun i => decide (i.val = 1))
  · simp [read, mix, v2]

end Diskfs.GptCrash
