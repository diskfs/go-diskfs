/-
  The length of the byte string a flat extent list denotes (`fileBytes`, `blockCount` of Model/Ext4/FileIO.lean).
-/
import DiskfsModel.Model.Ext4.FileIO
import DiskfsModel.Proofs.Bytes
namespace Diskfs.Ext4

theorem readAt_zero (d : Dev) (a : Nat) : readAt d a 0 = [] := rfl

theorem blockCount_cons (e : Extent) (es : List Extent) : blockCount (e :: es) = e.count + blockCount es := by
  simp [blockCount]

theorem fileBytes_length (dev : Dev) (bs : Nat) (es : List Extent) :
    (fileBytes dev bs es).length = blockCount es * bs := by
  induction es with
  | nil => simp [fileBytes, blockCount]
  | cons e es ih =>
    simp only [fileBytes, List.length_append, readAt_length, ih, blockCount_cons]
    rw [Nat.add_mul]

end Diskfs.Ext4
