/-
  Tables of ANY well-formed geometry (Model/GptGeom.lean): arithmetic of the rounded-up array sectors,
  the exact write list of `writeUp` for an initialised table satisfying `GeomWF`, what `initTableUp`
  computes for a fresh table with ANY sector size ≥ 512, and the bridge to the definitions the theorems
  about the 512 / 4096 layout are stated over (`writeUp = write` for a fresh table on 512- or 4096-byte sectors,
  where the 16 KiB array ends on a sector boundary), with what `initTable` computes for that layout.
-/
import DiskfsModel.Model.GptGeom
import DiskfsModel.Proofs.GptFlat
import DiskfsModel.Proofs.GptWhole
import DiskfsModel.Proofs.Arith
namespace Diskfs.Gpt

theorem ceil_facts (a l : Nat) (hl : 0 < l) :
    a ≤ (a + l - 1) / l * l ∧ (a + l - 1) / l * l < a + l :=
  ceil_bounds a l hl

theorem ceil_pos (a l : Nat) (hl : 0 < l) (ha : 0 < a) : 1 ≤ (a + l - 1) / l :=
  (Nat.le_div_iff_mul_le hl (x := 1) (y := a + l - 1)).2 (by omega)

theorem u64sub_le (a b : Nat) (hb : b ≤ a) (ha : a < two64) : u64sub a b = a - b := by
  have hb' : b % two64 = b := Nat.mod_eq_of_lt (by omega)
  unfold u64sub
  rw [Nat.mod_eq_of_lt ha, hb']
  have e : a + two64 - b = (a - b) + two64 := by omega
  rw [e, Nat.add_mod_right, Nat.mod_eq_of_lt (by omega)]

theorem u64_of_lt (a : Nat) (h : a < two64) : u64 a = a := Nat.mod_eq_of_lt h

/-- no uint64 wrap in `partitionArraySectors` for 128-byte entries of at most 64 MiB in all -/
theorem partSectorsUp_of (t : Table) (hes : t.entSize = 128) (hc : t.arrCount * 128 ≤ 67108864) (hl : t.lss < two63) :
    partSectorsUp t = (arrBytes t + t.lss - 1) / t.lss := by
  unfold partSectorsUp arrBytes
  rw [hes, u64_of_lt (t.arrCount * 128) (by simp only [two64]; omega),
    u64_of_lt _ (by simp only [two64, two63] at *; omega)]

/-! The predicates on a table's geometry, and what leads from one to the other:
    * `GeomWF t size` (Model/GptGeom.lean): everything `Write`, `Read` and the validity predicate need of the table;
    * `LayoutWF t size` (here): its part that places the five regions, without the header's field ranges and the GUID;
      `GeomWF.layout`; enough for `layout_regions` and `writeUp_exact`;
    * `PrimaryWF t size` (Proofs/GptGeomWhole): only the primary copy fits, nothing about the backup; `GeomWF.primary`;
      enough for reading back (`read_writeUp`);
    * `UsableWF t` (below): FirstUsableLBA / LastUsableLBA are sane; independent of the three above, needed on top of
      `GeomWF` by `written_gpt_valid_geom` only;
    * a fresh table gives them through `initTable`: `initTableUp_geom` / `initTableUp_spec` (any sector size ≥ 512),
      `std_geom` (512 / 4096: `GeomWF` and `UsableWF`), `write_std` (`LayoutWF`), `initTable_primary` (`PrimaryWF`, on a
      disk that need only hold the primary copy);
    * the crash development has its own record of the same numbers: `Geo` with `Geo.OK` and `Lay`
      (Proofs/GptCrashView: `geoOf_ok` from `GeomWF`, then `lay_of`, `fit_of`) and, for 512 / 4096, `Layout`
      (Proofs/GptCrashStd: `layout_of`, `lay_std`, `std_ok`, `fresh_std`). -/

/-- the part of `GeomWF` that places the regions on the device; the ranges of FirstUsableLBA / LastUsableLBA
    and the length of the disk GUID only matter for the header's fields -/
structure LayoutWF (t : Table) (size : Nat) : Prop where
  init : t.initialized = true
  lss : 512 ≤ t.lss
  es : t.entSize = 128
  cnt : 1 ≤ t.arrCount
  cntMax : t.arrCount * 128 ≤ 67108864
  ph : t.primaryHeader = 1
  sh : t.secondaryHeader = size / t.lss - 1
  fits : 2 * partSectorsUp t + 3 ≤ size / t.lss
  hsz : size < two63

theorem GeomWF.layout {t : Table} {size : Nat} (hg : GeomWF t size) : LayoutWF t size :=
  ⟨hg.init, hg.lss, hg.es, hg.cnt, hg.cntMax, hg.ph, hg.sh, hg.fits, hg.hsz⟩

theorem partSectorsUp_eq (t : Table) (size : Nat) (hg : GeomWF t size) :
    partSectorsUp t = (arrBytes t + t.lss - 1) / t.lss := by
  have h2 := hg.lss; have h3 := hg.hsz; have h4 := hg.fits
  have : 1 * t.lss ≤ size := (Nat.le_div_iff_mul_le (by omega)).1 (by omega)
  exact partSectorsUp_of t hg.es hg.cntMax (by omega)

/-- the five regions of a well-formed table: LBA 0 ⊇ [446,512) | header [lss,2·lss) | primary array
    [2·lss, 2·lss + p·lss) | … | backup array [offBA, offBA + p·lss) | backup header [offBH, offBH + lss),
    in this order, without overlap, inside the device; the array's bytes fit its p sectors and reach
    into the last of them -/
theorem layout_regions (t : Table) (size : Nat) (hg : LayoutWF t size) :
    1 ≤ partSectorsUp t ∧ arrBytes t ≤ partSectorsUp t * t.lss ∧ partSectorsUp t * t.lss < arrBytes t + t.lss ∧
    offPA t = 2 * t.lss ∧ 2 * t.lss + partSectorsUp t * t.lss ≤ offBA t ∧
    offBA t + partSectorsUp t * t.lss = offBH t ∧ offBH t + t.lss ≤ size ∧
    partSectorsUp t ≤ t.secondaryHeader ∧ t.secondaryHeader < two63 := by
  have h2 := hg.lss; have h3 := hg.hsz; have h4 := hg.fits; have h5 := hg.cnt
  have hlpos : 0 < t.lss := by omega
  have hls : 1 * t.lss ≤ size := (Nat.le_div_iff_mul_le hlpos).1 (by omega)
  have hp := partSectorsUp_of t hg.es hg.cntMax (by omega)
  obtain ⟨c1, c2⟩ := ceil_facts (arrBytes t) t.lss hlpos
  have c3 := ceil_pos (arrBytes t) t.lss hlpos (by unfold arrBytes; omega)
  rw [← hp] at c1 c2 c3
  unfold offPA offBA offBH
  generalize partSectorsUp t = p at *
  have hmul : size / t.lss * t.lss ≤ size := Nat.div_mul_le_self _ _
  have hdl : size / t.lss ≤ size := Nat.div_le_self _ _
  have e1 : (2 + p) * t.lss ≤ (t.secondaryHeader - p) * t.lss := Nat.mul_le_mul_right _ (by rw [hg.sh]; omega)
  have e2 : (t.secondaryHeader - p + p) * t.lss = t.secondaryHeader * t.lss := by
    congr 1; rw [hg.sh]; omega
  have e3 : (t.secondaryHeader + 1) * t.lss ≤ size / t.lss * t.lss := Nat.mul_le_mul_right _ (by rw [hg.sh]; omega)
  rw [Nat.add_mul] at e1 e2 e3
  refine ⟨c3, c1, c2, ?_, ?_, ?_, ?_, by rw [hg.sh]; omega, by rw [hg.sh]; simp only [two63] at *; omega⟩
  · rw [hg.ph]
  · omega
  · omega
  · omega

theorem geom_layout (t : Table) (size : Nat) (hg : GeomWF t size) :
    1 ≤ partSectorsUp t ∧ arrBytes t ≤ partSectorsUp t * t.lss ∧ partSectorsUp t * t.lss < arrBytes t + t.lss ∧
    offPA t = 2 * t.lss ∧ 2 * t.lss + partSectorsUp t * t.lss ≤ offBA t ∧
    offBA t + partSectorsUp t * t.lss = offBH t ∧ offBH t + t.lss ≤ size ∧
    partSectorsUp t ≤ t.secondaryHeader ∧ t.secondaryHeader < two63 :=
  layout_regions t size hg.layout

theorem arraySectorUp_primary (t : Table) (hph : t.primaryHeader = 1) : arraySectorUp t true = 2 := by
  simp [arraySectorUp, hph, u64, two64]

/-- the array sectors `partitionArraySector` computes in uint64 do not wrap -/
theorem arraySectorUp_layout (t : Table) (size : Nat) (hg : LayoutWF t size) :
    arraySectorUp t true = 2 ∧ arraySectorUp t false = t.secondaryHeader - partSectorsUp t ∧
    t.secondaryHeader < two64 := by
  obtain ⟨_, _, _, _, _, _, _, g8, g9⟩ := layout_regions t size hg
  have hsh64 : t.secondaryHeader < two64 := by simp only [two63, two64] at *; omega
  refine ⟨arraySectorUp_primary t hg.ph, ?_, hsh64⟩
  simp only [arraySectorUp, Bool.false_eq_true, if_false]
  exact u64sub_le _ _ g8 hsh64

/-- the four GPT writes of an initialised table in program order, with natural-number byte offsets -/
def coreUp (crc : Bytes → Nat) (t : Table) (arr : Bytes) : List Wr :=
  [⟨offBA t, arr⟩, ⟨offBH t, hdrEncUp crc t false arr⟩, ⟨2 * t.lss, arr⟩, ⟨t.lss, hdrEncUp crc t true arr⟩]

/-- what an accepted `Write` went through, for an initialised table; none of the three int64 byte offsets is
    negative: they are the naturals `oBA`, `oBH`, `oPA` -/
theorem writeUp_ok_inv (c : Cfg) (crc : Bytes → Nat) (t : Table) (size : Nat) (ws : List Wr) (t' : Table)
    (hi : t.initialized = true) (hw : writeUp c crc t size = .ok (ws, t')) :
    (c.minDiskCheck = true → 0 < t.lss → u64 (t.primaryHeader + 2 * partSectorsUp t + 1) ≤ t.secondaryHeader) ∧
    ∃ (arr : Bytes) (ps : List Part) (oBA oBH oPA : Nat), arrEnc c t = .ok (arr, ps) ∧ t' = { t with parts := ps } ∧
      (oBA : Int) = toI64 ((t.lss : Int) * toI64 (arraySectorUp t false)) ∧
      (oBH : Int) = toI64 (toI64 t.secondaryHeader * (t.lss : Int)) ∧
      (oPA : Int) = toI64 ((t.lss : Int) * toI64 (arraySectorUp t true)) ∧
      ws = (if c.pmbrLast then
              [⟨oBA, arr⟩, ⟨oBH, hdrEncUp crc t false arr⟩, ⟨oPA, arr⟩, ⟨t.lss, hdrEncUp crc t true arr⟩] ++ pmWrs c t
            else pmWrs c t ++
              [⟨oBA, arr⟩, ⟨oBH, hdrEncUp crc t false arr⟩, ⟨oPA, arr⟩, ⟨t.lss, hdrEncUp crc t true arr⟩]) := by
  unfold writeUp at hw
  simp only [hi, if_true] at hw
  by_cases hchk : (c.minDiskCheck && decide (t.lss > 0) &&
      decide (t.secondaryHeader < u64 (t.primaryHeader + 2 * partSectorsUp t + 1))) = true
  · rw [if_pos hchk] at hw; cases hw
  rw [if_neg hchk] at hw
  refine ⟨fun hc hl => by simpa [hc, hl] using hchk, ?_⟩
  cases harr : arrEnc c t with
  | err e => rw [harr] at hw; cases hw
  | panic s => rw [harr] at hw; cases hw
  | ok ap =>
    obtain ⟨arr, ps⟩ := ap
    rw [harr] at hw
    simp only at hw
    by_cases hneg : toI64 ((t.lss : Int) * toI64 (arraySectorUp t false)) < 0 ∨
        toI64 (toI64 t.secondaryHeader * (t.lss : Int)) < 0 ∨ toI64 ((t.lss : Int) * toI64 (arraySectorUp t true)) < 0
    · rw [if_pos hneg] at hw; cases hw
    rw [if_neg hneg] at hw
    simp only [Res.ok.injEq, Prod.mk.injEq, Int.toNat_natCast] at hw
    exact ⟨arr, ps, _, _, _, rfl, by rw [← hw.2, hi], Int.toNat_of_nonneg (by omega), Int.toNat_of_nonneg (by omega),
      Int.toNat_of_nonneg (by omega), hw.1.symm⟩

theorem writeUp_ok_fits (c : Cfg) (crc : Bytes → Nat) (t : Table) (size : Nat) (ws : List Wr) (t' : Table)
    (hc : c.minDiskCheck = true) (hi : t.initialized = true) (hl : 0 < t.lss) (hph : t.primaryHeader = 1)
    (hps : partSectorsUp t < two32) (hw : writeUp c crc t size = .ok (ws, t')) :
    2 * partSectorsUp t + 2 ≤ t.secondaryHeader := by
  have hn := (writeUp_ok_inv c crc t size ws t' hi hw).1 hc hl
  have hb : 2 * partSectorsUp t + 2 < two64 := by
    have h' : partSectorsUp t < 4294967296 := hps
    show 2 * partSectorsUp t + 2 < 18446744073709551616
    omega
  rwa [show t.primaryHeader + 2 * partSectorsUp t + 1 = 2 * partSectorsUp t + 2 by rw [hph]; omega, u64_of_lt _ hb] at hn

/-- `Write` changes nothing of an initialised table but the partition list -/
theorem writeUp_fields (c : Cfg) (crc : Bytes → Nat) (t : Table) (size : Nat) (ws : List Wr) (t' : Table)
    (hi : t.initialized = true) (hw : writeUp c crc t size = .ok (ws, t')) : t' = { t with parts := t'.parts } := by
  obtain ⟨_, _, ps, _, _, _, _, ht, _⟩ := writeUp_ok_inv c crc t size ws t' hi hw
  rw [ht]

/-- with the primary header at LBA 1 the primary array (LBA 2) and header come last but for the protective MBR,
    wherever the backup copy goes -/
theorem writeUp_shape (c : Cfg) (crc : Bytes → Nat) (t : Table) (size : Nat) (ws : List Wr) (t' : Table)
    (hi : t.initialized = true) (hph : t.primaryHeader = 1) (h63 : t.lss * 2 < two63)
    (hw : writeUp c crc t size = .ok (ws, t')) :
    ∃ pre post arr ps, ws = pre ++ [⟨2 * t.lss, arr⟩, ⟨t.lss, hdrEncUp crc t true arr⟩] ++ post ∧
      (∀ w ∈ post, w.off = 446 ∧ w.data.length = 66) ∧ arrEnc c t = .ok (arr, ps) ∧ t' = { t with parts := ps } := by
  obtain ⟨_, arr, ps, oBA, oBH, oPA, harr, ht, _, _, hPA, hws⟩ := writeUp_ok_inv c crc t size ws t' hi hw
  have hoff : oPA = 2 * t.lss := by
    rw [arraySectorUp_primary t hph, toI64_of_lt 2 (by decide), toI64_mul_nat _ _ h63] at hPA
    omega
  have hpm : ∀ w ∈ pmWrs c t, w.off = 446 ∧ w.data.length = 66 := by
    intro w hw
    unfold pmWrs at hw
    split at hw
    · rw [List.mem_singleton.1 hw]; exact ⟨rfl, by simp [pmbrEnc]⟩
    · cases hw
  rw [hoff] at hws
  cases hpl : c.pmbrLast <;> rw [hpl] at hws
  · exact ⟨pmWrs c t ++ [⟨oBA, arr⟩, ⟨oBH, hdrEncUp crc t false arr⟩], [], arr, ps, by rw [hws]; simp, nofun, harr, ht⟩
  · exact ⟨[⟨oBA, arr⟩, ⟨oBH, hdrEncUp crc t false arr⟩], pmWrs c t, arr, ps, by rw [hws]; rfl, hpm, harr, ht⟩

theorem writeUp_exact (c : Cfg) (crc : Bytes → Nat) (t : Table) (size : Nat) (ws : List Wr) (t' : Table)
    (hg : LayoutWF t size) (hw : writeUp c crc t size = .ok (ws, t')) :
    ∃ arr ps, arrEnc c t = .ok (arr, ps) ∧ arr.length = arrBytes t ∧ t' = { t with parts := ps } ∧
      ws = (if c.pmbrLast then coreUp crc t arr ++ pmWrs c t else pmWrs c t ++ coreUp crc t arr) := by
  obtain ⟨g1, g2, g3, g4, g5, g6, g7, g8, g9⟩ := layout_regions t size hg
  obtain ⟨_, arr, ps, oBA, oBH, oPA, harr, ht, hBA, hBH, hPA, hws⟩ := writeUp_ok_inv c crc t size ws t' hg.init hw
  have h512 := hg.lss
  have hsz := hg.hsz
  simp only [offBA, offBH] at g5 g6 g7
  -- the three offsets `Write` computes in int64 do not wrap
  obtain ⟨a1, a2, _⟩ := arraySectorUp_layout t size hg
  have b1 : t.lss * (t.secondaryHeader - partSectorsUp t) < two63 := by rw [Nat.mul_comm]; omega
  have b2 : t.secondaryHeader * t.lss < two63 := by omega
  have b3 : t.lss * 2 < two63 := by omega
  rw [a2, toI64_of_lt _ (by omega), toI64_mul_nat _ _ b1, Nat.mul_comm] at hBA
  rw [toI64_of_lt _ g9, toI64_mul_nat _ _ b2] at hBH
  rw [a1, toI64_of_lt _ (by omega), toI64_mul_nat _ _ b3, Nat.mul_comm] at hPA
  rw [Int.natCast_inj.1 hBA, Int.natCast_inj.1 hBH, Int.natCast_inj.1 hPA] at hws
  exact ⟨arr, ps, harr, by rw [arrEnc_length c t arr ps harr, hg.es, arrBytes, Nat.mul_comm], ht, hws⟩

theorem writeUp_geom_exact (c : Cfg) (crc : Bytes → Nat) (t : Table) (size : Nat) (ws : List Wr) (t' : Table)
    (hg : GeomWF t size) (hw : writeUp c crc t size = .ok (ws, t')) :
    ∃ arr ps, arrEnc c t = .ok (arr, ps) ∧ arr.length = arrBytes t ∧ t' = { t with parts := ps } ∧
      ws = (if c.pmbrLast then coreUp crc t arr ++ pmWrs c t else pmWrs c t ++ coreUp crc t arr) :=
  writeUp_exact c crc t size ws t' hg.layout hw

/-- no uint64 wrap in what `initTable` derives from `q` disk sectors and `P` array sectors -/
theorem initTable_arith (q P : Nat) (hq : 2 * P + 3 ≤ q) (hq63 : q < 9223372036854775808) :
    u64 (2 + P) = 2 + P ∧ u64sub q 1 = q - 1 ∧ u64sub (q - 1) P = q - 1 - P ∧
    u64sub (q - 1 - P) 1 = q - 1 - P - 1 :=
  ⟨u64_of_lt _ (by simp only [two64]; omega), u64sub_le _ _ (by omega) (by simp only [two64]; omega),
    u64sub_le _ _ (by omega) (by simp only [two64]; omega), u64sub_le _ _ (by omega) (by simp only [two64]; omega)⟩

/-- `hmin`: the disk holds LBA 0, both headers and both arrays -/
theorem initTableUp_fresh_eq (t0 : Table) (size : Nat) (hf : Fresh t0) (hl : 512 ≤ t0.lss) (hsz : size < two63)
    (hmin : (2 * ((16384 + t0.lss - 1) / t0.lss) + 3) * t0.lss ≤ size) :
    initTableUp t0 size =
      { t0 with primaryHeader := 1, arrCount := 128, entSize := 128,
                firstData := 2 + (16384 + t0.lss - 1) / t0.lss, secondaryHeader := size / t0.lss - 1,
                lastData := size / t0.lss - 1 - (16384 + t0.lss - 1) / t0.lss - 1, initialized := true } := by
  have hne : t0.lss ≠ 0 := by omega
  have hq : 2 * ((16384 + t0.lss - 1) / t0.lss) + 3 ≤ size / t0.lss := (Nat.le_div_iff_mul_le (by omega)).2 hmin
  have hls : 1 * t0.lss ≤ size := (Nat.le_div_iff_mul_le (by omega)).1 (by omega)
  have hdl : size / t0.lss ≤ size := Nat.div_le_self _ _
  simp only [two63] at hsz
  obtain ⟨h1, h2, h3, h4⟩ := initTable_arith (size / t0.lss) ((16384 + t0.lss - 1) / t0.lss) hq (by omega)
  have hu1 : u64 (128 * 128) = 16384 := by decide
  have hu2 : u64 (16384 + t0.lss - 1) = 16384 + t0.lss - 1 := u64_of_lt _ (by simp only [two64]; omega)
  have hu3 : u64 size = size := u64_of_lt _ (by simp only [two64]; omega)
  unfold initTableUp
  simp only [hf.ac, hf.es, hf.ph, hf.sh, hf.fd, hf.ld, if_true, if_neg hne, hu1, hu2, hu3, h1, h2, h3, h4]

/-- the usable range an initialised table carries is sane: the primary array (and the 16 KiB the specification
    reserves) ends at or before FirstUsableLBA, FirstUsableLBA ≤ LastUsableLBA + 1, LastUsableLBA lies before
    the backup array.  `initTable` computes such values; a table read from a valid foreign GPT carries them. -/
structure UsableWF (t : Table) : Prop where
  u1 : 2 + partSectorsUp t ≤ t.firstData
  u2 : 2 * t.lss + 16384 ≤ t.firstData * t.lss
  u3 : t.firstData ≤ t.lastData + 1
  u4 : t.lastData < t.secondaryHeader - partSectorsUp t

/-- everything about the table `initTable` makes of a fresh one on a disk that holds both copies, read off its
    closed form once: layout, usable range, array sectors, and the fields it leaves alone -/
theorem initTableUp_spec (t0 : Table) (size : Nat) (hf : Fresh t0) (hl : 512 ≤ t0.lss) (hsz : size < two63)
    (hmin : (2 * ((16384 + t0.lss - 1) / t0.lss) + 3) * t0.lss ≤ size) :
    LayoutWF (initTableUp t0 size) size ∧ UsableWF (initTableUp t0 size) ∧
    (initTableUp t0 size).firstData = 2 + (16384 + t0.lss - 1) / t0.lss ∧
    (initTableUp t0 size).lastData = size / t0.lss - 1 - (16384 + t0.lss - 1) / t0.lss - 1 ∧
    partSectorsUp (initTableUp t0 size) = (16384 + t0.lss - 1) / t0.lss ∧
    (initTableUp t0 size).parts = t0.parts ∧ (initTableUp t0 size).guid = t0.guid ∧
    (initTableUp t0 size).pmbr = t0.pmbr ∧ (initTableUp t0 size).lss = t0.lss ∧
    (initTableUp t0 size).arrCount = 128 := by
  have hq : 2 * ((16384 + t0.lss - 1) / t0.lss) + 3 ≤ size / t0.lss := (Nat.le_div_iff_mul_le (by omega)).2 hmin
  have hls : 1 * t0.lss ≤ size := Nat.le_trans (Nat.mul_le_mul_right _ (by omega)) hmin
  obtain ⟨c1, _⟩ := ceil_facts 16384 t0.lss (by omega)
  have e := initTableUp_fresh_eq t0 size hf hl hsz hmin
  generalize initTableUp t0 size = T at e ⊢
  have eL : T.lss = t0.lss := by rw [e]
  have eA : T.arrCount = 128 := by rw [e]
  have eS : T.secondaryHeader = size / t0.lss - 1 := by rw [e]
  have eF : T.firstData = 2 + (16384 + t0.lss - 1) / t0.lss := by rw [e]
  have eD : T.lastData = size / t0.lss - 1 - (16384 + t0.lss - 1) / t0.lss - 1 := by rw [e]
  have eP : partSectorsUp T = (16384 + t0.lss - 1) / t0.lss := by
    rw [partSectorsUp_of T (by rw [e]) (by rw [eA]; decide) (by rw [eL]; omega), arrBytes, eA, eL]
  exact ⟨⟨by rw [e], eL ▸ hl, by rw [e], by rw [eA]; decide, by rw [eA]; decide, by rw [e], by rw [eS, eL],
      by rw [eP, eL]; exact hq, hsz⟩,
    ⟨by rw [eP, eF]; exact Nat.le_refl _, by rw [eF, eL, Nat.add_mul]; omega, by rw [eF, eD]; omega,
      by rw [eD, eS, eP]; omega⟩,
    eF, eD, eP, by rw [e], by rw [e], by rw [e], eL, eA⟩

theorem initTableUp_geom (t0 : Table) (size : Nat) (hf : Fresh t0) (hl : 512 ≤ t0.lss) (hg : t0.guid.length = 16)
    (hsz : size < two63) (hmin : (2 * ((16384 + t0.lss - 1) / t0.lss) + 3) * t0.lss ≤ size) :
    GeomWF (initTableUp t0 size) size ∧ (initTableUp t0 size).parts = t0.parts ∧
    (initTableUp t0 size).guid = t0.guid ∧ (initTableUp t0 size).pmbr = t0.pmbr ∧
    (initTableUp t0 size).lss = t0.lss ∧ (initTableUp t0 size).arrCount = 128 := by
  obtain ⟨w, _, hfd, hld, _, hp, hgu, hpm, hls, hac⟩ := initTableUp_spec t0 size hf hl hsz hmin
  have hdl : size / t0.lss ≤ size := Nat.div_le_self _ _
  have hfit := w.fits
  rw [hls] at hfit
  simp only [two63] at hsz
  exact ⟨⟨w.init, w.lss, w.es, w.cnt, w.cntMax, w.ph, w.sh, w.fits, w.hsz, by rw [hfd]; simp only [two64]; omega,
    by rw [hld]; simp only [two64]; omega, hgu ▸ hg⟩, hp, hgu, hpm, hls, hac⟩

theorem writeUp_fresh (c : Cfg) (crc : Bytes → Nat) (t0 : Table) (size : Nat) (hf : Fresh t0) :
    writeUp c crc t0 size = writeUp c crc (initTableUp t0 size) size := by
  have hi : (initTableUp t0 size).initialized = true := by simp [initTableUp]
  unfold writeUp
  simp only [hf.init, Bool.false_eq_true, if_false, hi, if_true]

theorem partSectorsUp_std (t : Table) (h1 : t.arrCount = 128) (h2 : t.entSize = 128)
    (hl : t.lss = 512 ∨ t.lss = 4096) : partSectorsUp t = partSectors t := by
  unfold partSectorsUp partSectors
  rcases hl with h | h <;> simp [h1, h2, h, u64, two64]

/-- Trap: never leave `hdrEncUp .. =?= hdrEnc ..` to the unifier (`rfl`, `exact` across the two, even for the primary
    header, where both array sectors are `u64 (primaryHeader + 1)`): it descends into the `else` branches and unfolds the
    symbolic `Nat.div` of `partSectorsUp` / `partSectors` without end.  Rewrite with this lemma. -/
theorem hdrEncUp_eq_hdrEnc (crc : Bytes → Nat) (t : Table) (h : partSectorsUp t = partSectors t) (primary : Bool)
    (arr : Bytes) : hdrEncUp crc t primary arr = hdrEnc crc t primary arr := by
  unfold hdrEncUp hdrEnc arraySectorUp arraySector
  rw [h]

theorem initTableUp_eq_initTable (t0 : Table) (size : Nat) (hf : Fresh t0) (hl : t0.lss = 512 ∨ t0.lss = 4096) :
    initTableUp t0 size = initTable t0 size := by
  unfold initTableUp initTable
  simp only [hf.ac, hf.es, hf.ph, hf.sh, hf.fd, hf.ld, if_true]
  rcases hl with h | h <;> simp [h, u64, two64]

theorem writeUp_eq_write_init (c : Cfg) (crc : Bytes → Nat) (ti : Table) (size : Nat) (hi : ti.initialized = true)
    (hl : ti.lss = 512 ∨ ti.lss = 4096) (iac : ti.arrCount = 128) (ies : ti.entSize = 128)
    (iph : ti.primaryHeader = 1) : writeUp c crc ti size = write c crc ti size := by
  have hps : partSectorsUp ti = partSectors ti := partSectorsUp_std ti iac ies hl
  have has : ∀ b, arraySectorUp ti b = arraySector ti b := by
    intro b; unfold arraySectorUp arraySector; rw [hps]
  have hpv : partSectors ti ≤ 32 := by
    unfold partSectors; rcases hl with h | h <;> simp [iac, ies, h, u64, two64]
  have hlpos : ti.lss > 0 := by rcases hl with h | h <;> omega
  have hu : u64 (ti.primaryHeader + 2 * partSectors ti + 1) = ti.primaryHeader + 2 * partSectors ti + 1 := by
    unfold u64; rw [iph]; exact Nat.mod_eq_of_lt (by simp only [two64]; omega)
  unfold writeUp write
  simp only [hi, if_true, hps, has, hdrEncUp_eq_hdrEnc crc ti hps, hu, hlpos, decide_true, Bool.and_true]
  rfl

/-- for a fresh table on 512- or 4096-byte sectors (the domain of the theorems about `write`) the
    model of the code as it is now, `writeUp`, IS `write`: every theorem about `write` is a theorem about
    what the driver executes -/
theorem writeUp_eq_write (c : Cfg) (crc : Bytes → Nat) (t0 : Table) (size : Nat) (hf : Fresh t0)
    (hl : t0.lss = 512 ∨ t0.lss = 4096) : writeUp c crc t0 size = write c crc t0 size := by
  obtain ⟨il, iph, iac, ies, _⟩ := initTable_fresh t0 size hf hl
  have hi : (initTable t0 size).initialized = true := by simp [initTable]
  have e := writeUp_eq_write_init c crc (initTable t0 size) size hi (by rw [il]; exact hl) iac ies iph
  rw [writeUp_fresh c crc t0 size hf, initTableUp_eq_initTable t0 size hf hl, e]
  unfold write
  simp only [hf.init, Bool.false_eq_true, if_false, hi, if_true]

/-- …and `Write` of a fresh table is `Write` of the table `initTable` makes of it, whatever the disk size -/
theorem write_fresh_eq (c : Cfg) (crc : Bytes → Nat) (t0 : Table) (size : Nat) (hf : Fresh t0)
    (hl : t0.lss = 512 ∨ t0.lss = 4096) : write c crc t0 size = writeUp c crc (initTable t0 size) size := by
  rw [← writeUp_eq_write c crc t0 size hf hl, writeUp_fresh c crc t0 size hf, initTableUp_eq_initTable t0 size hf hl]

/-! ### the layout this library creates itself (fresh table, 128 entries, 512- or 4096-byte sectors, both copies
    fit) as an instance -/

theorem ceil_std (lss : Nat) (hl : lss = 512 ∨ lss = 4096) : (16384 + lss - 1) / lss = 16384 / lss := by
  rcases hl with h | h <;> rw [h]

theorem initTable_geo (t0 : Table) (size : Nat) (hf : Fresh t0) (hl : t0.lss = 512 ∨ t0.lss = 4096)
    (hsz : size < two63) (hmin : (2 * (16384 / t0.lss) + 3) * t0.lss ≤ size) :
    (initTable t0 size).lss = t0.lss ∧ (initTable t0 size).primaryHeader = 1 ∧ (initTable t0 size).arrCount = 128 ∧
    (initTable t0 size).entSize = 128 ∧ (initTable t0 size).guid = t0.guid ∧ (initTable t0 size).parts = t0.parts ∧
    (initTable t0 size).pmbr = t0.pmbr ∧
    (initTable t0 size).secondaryHeader = size / t0.lss - 1 ∧
    (initTable t0 size).firstData = 2 + 16384 / t0.lss ∧
    (initTable t0 size).lastData = size / t0.lss - 1 - 16384 / t0.lss - 1 ∧
    partSectors (initTable t0 size) = 16384 / t0.lss ∧
    arraySector (initTable t0 size) true = 2 ∧
    arraySector (initTable t0 size) false = size / t0.lss - 1 - 16384 / t0.lss := by
  have h512 : 512 ≤ t0.lss := by rcases hl with h | h <;> omega
  obtain ⟨w, _, eF, eD, eP, hp, hgu, hpm, eL, eA⟩ :=
    initTableUp_spec t0 size hf h512 hsz (by rw [ceil_std _ hl]; exact hmin)
  obtain ⟨_, a2, _⟩ := arraySectorUp_layout _ size w
  rw [initTableUp_eq_initTable t0 size hf hl, ceil_std _ hl] at eF eD eP
  rw [initTableUp_eq_initTable t0 size hf hl] at w a2 hp hgu hpm eL eA
  generalize initTable t0 size = T at *
  have ps : partSectorsUp T = partSectors T := partSectorsUp_std T eA w.es (eL ▸ hl)
  refine ⟨eL, w.ph, eA, w.es, hgu, hp, hpm, eL ▸ w.sh, eF, eD, ps ▸ eP, ?_, ?_⟩
  · simp [arraySector, w.ph, u64, two64]
  · rw [show arraySector T false = arraySectorUp T false by unfold arraySector arraySectorUp; rw [ps], a2, eP, w.sh, eL]

theorem write_std (c : Cfg) (crc : Bytes → Nat) (t0 : Table) (size : Nat) (hf : Fresh t0)
    (hl : t0.lss = 512 ∨ t0.lss = 4096) (hsz : size < two63) (hmin : (2 * (16384 / t0.lss) + 3) * t0.lss ≤ size) :
    LayoutWF (initTable t0 size) size ∧ write c crc t0 size = writeUp c crc (initTable t0 size) size := by
  have h512 : 512 ≤ t0.lss := by rcases hl with h | h <;> omega
  have w := (initTableUp_spec t0 size hf h512 hsz (by rw [ceil_std _ hl]; exact hmin)).1
  rw [initTableUp_eq_initTable t0 size hf hl] at w
  exact ⟨w, write_fresh_eq c crc t0 size hf hl⟩

/-- the repaired Write (`minDiskCheck`) accepts a fresh table only on a disk of at least 2·p+3 sectors
    (LBA 0, two headers, two arrays): the premise `hmin` of the theorems above is exactly what it demands -/
theorem write_ok_min_size (c : Cfg) (crc : Bytes → Nat) (t0 : Table) (size : Nat) (ws : List Wr) (t : Table)
    (hf : Fresh t0) (hl : t0.lss = 512 ∨ t0.lss = 4096) (hsz : size < two63) (hc : c.minDiskCheck = true)
    (hw : write c crc t0 size = .ok (ws, t)) :
    (2 * (16384 / t0.lss) + 3) * t0.lss ≤ size := by
  have hlpos : 0 < t0.lss := by rcases hl with h | h <;> omega
  obtain ⟨il, iph, iac, ies, _⟩ := initTable_fresh t0 size hf hl
  have hps : partSectors (initTable t0 size) = 16384 / t0.lss := by
    rw [partSectors, iac, ies, il]; rfl
  have hsh : (initTable t0 size).secondaryHeader = u64sub (size / t0.lss) 1 := by
    unfold initTable
    simp only [hf.sh, if_true, u64_of_lt size (by simp only [two63] at hsz; simp only [two64]; omega)]
    rcases hl with h | h <;> simp [h]
  obtain ⟨hchk, _, _, _, oBH, _, _, _, _, hBH, _⟩ :=
    write_ok_inv c crc t0 size ws t (initTable t0 size) (by rw [hf.init]; rfl) hw
  have hchk := hchk hc
  generalize initTable t0 size = ti at *
  rw [iph, hps, hsh] at hchk
  apply (Nat.le_div_iff_mul_le hlpos).1
  by_cases h0 : size / t0.lss = 0
  · -- a disk shorter than one sector: AlternateLBA wraps to 2^64 − 1, and its byte offset is negative as int64
    have hneg : toI64 (toI64 ((ti.secondaryHeader : Nat) : Int) * (ti.lss : Int)) < 0 := by
      rw [hsh, h0, il]
      rcases hl with h | h <;> rw [h] <;> decide
    omega
  · have hq : size / t0.lss < two64 := by
      have := Nat.div_le_self size t0.lss
      simp only [two63] at hsz; simp only [two64]; omega
    rw [u64sub_le _ _ (Nat.pos_of_ne_zero h0) hq] at hchk
    omega

end Diskfs.Gpt
