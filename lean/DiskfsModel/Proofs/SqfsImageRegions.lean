/-
  The byte-level writer model (Model/Sqfs/ImageWr.lean) against the region model of Finalize
  (Model/Sqfs/Regions.lean): the length of every piece the writer lays down is the sum of the stored
  sizes the region model is given for it (`bPieces`).  With `finalize`'s table starts
  (Proofs/SqfsRegions.lean) this is all that `writer_image_is_region_image` of Props/C07.lean needs.
-/
import DiskfsModel.Model.Sqfs.ImageWr
import DiskfsModel.Proofs.SqfsImageRd
namespace Diskfs.Sqfs

theorem metaTable_length (c : Codec) (o : WOpt) (bl : List Bytes) :
    (metaTable c o.noCompData bl).length = (metaLens (storedLens c o bl)).sum := by
  simp [metaTable, List.length_flatten, metaLens, storedLens, Function.comp_def, encodeMetaBlock_length]

theorem storedBytes_length (l : List Stored) : (storedBytes l).length = (l.map (·.payload.length)).sum := by
  simp [storedBytes, List.length_flatten, Function.comp_def]

theorem storedLens_length (c : Codec) (o : WOpt) (bl : List Bytes) : (storedLens c o bl).length = bl.length := by
  simp [storedLens]

theorem bData_length (c : Codec) (o : WOpt) (fl : List FEnt) :
    (bData c o fl).length = ((fl.map fun e => (fileStored c o e).map (·.payload.length)).flatten).sum := by
  simp [bData, List.length_flatten, Function.comp_def, storedBytes_length, sum_flatten_nat]

end Diskfs.Sqfs
