/-
  What `Table.Write` (Model/GptGeom.lean `writeUp`) leaves on ANY prior device for an initialised table of
  ANY well-formed geometry, region by region, and the header sectors it emits (accepted by readGPTHeader).
-/
import DiskfsModel.Proofs.GptGeom
namespace Diskfs.Gpt

theorem hdrEncUp_shape (crc : Bytes → Nat) (t : Table) (primary : Bool) (arr : Bytes) :
    hdrEncUp crc t primary arr =
      hdrBody (leEnc 4 (crc (hdrBody (zeros 4) (if primary then t.primaryHeader else t.secondaryHeader)
          (if primary then t.secondaryHeader else t.primaryHeader) t.firstData t.lastData t.guid
          (arraySectorUp t primary) t.arrCount 0x80 (crc arr))))
        (if primary then t.primaryHeader else t.secondaryHeader)
        (if primary then t.secondaryHeader else t.primaryHeader) t.firstData t.lastData t.guid
        (arraySectorUp t primary) t.arrCount 0x80 (crc arr) ++ zeros (t.lss - 92) := rfl

theorem hdrEncUp_length (crc : Bytes → Nat) (t : Table) (primary : Bool) (arr : Bytes) (hg : t.guid.length = 16)
    (hl : 92 ≤ t.lss) : (hdrEncUp crc t primary arr).length = t.lss := by
  unfold hdrEncUp
  simp only [List.length_append, zeros_length]
  rw [hdrBody_length _ (by simp) _ _ _ _ _ hg]
  omega

theorem readHeader_hdrEncUp (crc : Bytes → Nat) (hcrc : ∀ b, crc b < two32) (t : Table) (primary : Bool) (arr : Bytes)
    (hg : t.guid.length = 16) (hph : t.primaryHeader < two64) (hsh : t.secondaryHeader < two64)
    (hfd : t.firstData < two64) (hld : t.lastData < two64) (has : arraySectorUp t primary < two64)
    (hac : t.arrCount < two32) :
    readHeader crc (hdrEncUp crc t primary arr) = .ok
      { myLBA := if primary then t.primaryHeader else t.secondaryHeader,
        altLBA := if primary then t.secondaryHeader else t.primaryHeader,
        firstData := t.firstData, lastData := t.lastData, guid := t.guid, arrLBA := arraySectorUp t primary,
        count := t.arrCount, entSize := 128, arrCrc := crc arr } := by
  have hmy : (if primary then t.primaryHeader else t.secondaryHeader) < two64 := by cases primary <;> simp [hph, hsh]
  have halt : (if primary then t.secondaryHeader else t.primaryHeader) < two64 := by cases primary <;> simp [hph, hsh]
  have hrd := readHeader_hdrBody crc hcrc (if primary then t.primaryHeader else t.secondaryHeader)
    (if primary then t.secondaryHeader else t.primaryHeader) t.firstData t.lastData t.guid hg
    (arraySectorUp t primary) t.arrCount 0x80 (crc arr) (zeros (t.lss - 92)) hmy halt hfd hld has hac (by decide) (hcrc arr)
  rw [← hdrEncUp_shape] at hrd
  exact hrd

/-- the numbers of a well-formed table fit their header fields -/
theorem geom_bounds (t : Table) (size : Nat) (hg : GeomWF t size) :
    92 ≤ t.lss ∧ t.primaryHeader < two64 ∧ t.secondaryHeader < two64 ∧ arraySectorUp t true = 2 ∧
    arraySectorUp t false = t.secondaryHeader - partSectorsUp t ∧ arraySectorUp t true < two64 ∧
    arraySectorUp t false < two64 ∧ t.arrCount < two32 := by
  have h1 := hg.lss; have h2 := hg.cntMax
  obtain ⟨a1, a2, hsh64⟩ := arraySectorUp_layout t size hg.layout
  refine ⟨by omega, by rw [hg.ph]; decide, hsh64, a1, a2, by rw [a1]; decide, by rw [a2]; omega, by simp only [two32]; omega⟩

theorem write_regionsG (c : Cfg) (crc : Bytes → Nat) (d : Dev) (t : Table) (size : Nat) (ws : List Wr) (t' : Table)
    (hg : GeomWF t size) (hw : writeUp c crc t size = .ok (ws, t')) :
    ∃ arr ps, arrEnc c t = .ok (arr, ps) ∧ arr.length = arrBytes t ∧ t' = { t with parts := ps } ∧
      ws = (if c.pmbrLast then coreUp crc t arr ++ pmWrs c t else pmWrs c t ++ coreUp crc t arr) ∧
      readAt (applyWrs d ws) t.lss t.lss = hdrEncUp crc t true arr ∧
      readAt (applyWrs d ws) (2 * t.lss) (arrBytes t) = arr ∧
      readAt (applyWrs d ws) (offBH t) t.lss = hdrEncUp crc t false arr ∧
      readAt (applyWrs d ws) (offBA t) (arrBytes t) = arr ∧
      (t.pmbr = true → readAt (applyWrs d ws) 446 66 = pmbrEnc c t) := by
  obtain ⟨arr, ps, harr, hlen, ht, hws⟩ := writeUp_geom_exact c crc t size ws t' hg hw
  obtain ⟨g1, g2, g3, g4, g5, g6, g7, g8, g9⟩ := geom_layout t size hg
  obtain ⟨k1, _⟩ := geom_bounds t size hg
  have h512 := hg.lss
  have := five_regions d t.lss (arrBytes t) (2 * t.lss) (offBA t) (offBH t) arr (hdrEncUp crc t true arr)
    (hdrEncUp crc t false arr) (pmbrEnc c t) t.pmbr c.pmbrLast h512 hlen
    (hdrEncUp_length crc t true arr hg.guid k1) (hdrEncUp_length crc t false arr hg.guid k1)
    (by simp [pmbrEnc]) (Nat.le_refl _) (by omega) (by omega) ws (by rw [hws]; simp only [coreUp, pmWrs])
  obtain ⟨r1, r2, r3, r4, r5⟩ := this
  exact ⟨arr, ps, harr, hlen, ht, hws, r1, r2, r3, r4, r5⟩

end Diskfs.Gpt
