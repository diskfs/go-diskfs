/-
  For C12 (Props/C12.lean), the stale-bytes clause: which signature of a PREVIOUS filesystem
  survives a Create of another type.  fat16.Create (4 reserved sectors) and fat32.Create at 512-byte sectors
  (32 reserved sectors, of which 0, 1, 6 and 7 are written) never touch bytes 1080..1081, where ext4 keeps its
  magic number: a stale ext4 superblock survives them, and only the probe order (FAT before ext4) keeps
  GetFilesystem from answering ext4.
-/
import DiskfsModel.Proofs.Detect
namespace Diskfs.Detect

theorem u16_congr (d d' : Dev) (i : Nat) (h0 : d i = d' i) (h1 : d (i + 1) = d' (i + 1)) : u16 d i = u16 d' i := by
  simp [u16, u8, h0, h1]

theorem create16_frame (stale : Dev) (L : Layout) (hres : L.reserved = 4) (serial : Nat) (label : List Nat)
    (fat rootDir : Bytes) (j : Nat) (h1 : 512 ≤ j) (h2 : j < 2048) :
    applyWrs stale (createWrs1x true L serial label fat rootDir) j = stale j := by
  apply applyWrs_frame
  simp [createWrs1x, hres, sectorBytes_length]
  omega

theorem create32_frame (stale : Dev) (L : Layout32) (hb : L.bps = 512) (serial : Nat) (label : List Nat)
    (fat rootDir : Bytes) (j : Nat) (h1 : 1024 ≤ j) (h2 : j < 3072) :
    applyWrs stale (createWrs32 L serial label fat rootDir) j = stale j := by
  apply applyWrs_frame
  simp [createWrs32, hb, sectorBytes_length]
  omega

theorem ext4_hdr_of_magic (rd : Dev) (size avail bs : Nat) (deep : Verdict) (hm : u16 rd 1080 = 0xEF53)
    (hsz : 2560 ≤ size) (hav : size ≤ avail) (hbs : bs = 0 ∨ bs = 512) :
    verdictExt4 rd size avail bs deep = deep := by
  have r1 : readOk avail 0 1024 = true := by simp [readOk]; omega
  have r2 : readOk avail 1024 1024 = true := by simp [readOk]; omega
  have hs : ¬ size < 2560 := by omega
  unfold verdictExt4
  rcases hbs with rfl | rfl <;> simp [r1, r2, hm, hs]

end Diskfs.Detect
