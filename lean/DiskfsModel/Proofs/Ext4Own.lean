/-
  Lemmas about the ownership layer (Model/Ext4/Own.lean), in the terms `OwnInv` is stated in: which blocks are
  marked (`blockMarked`) after Remove released a list of blocks and after allocateExtents marked a list of runs,
  the blocks owned when one file of the list changes, and `WF` from the shape of the state, which no operation of
  the layer changes (`WF_of_shape`, `shape_ostep`).  The invariant `OwnInv` itself is C05's.
-/
import DiskfsModel.Model.Ext4.Own
import DiskfsModel.Proofs.Ext4Alloc
namespace Diskfs.Ext4.Alloc
open Diskfs.Ranges.Ext4 (shape shape_markRun)

theorem blockMarked_eq (geo : Geom) (s : Acc) (b : Nat) :
    blockMarked geo s b = (decide (geo.fdb ≤ b) && (bitOf geo s b == some true)) := by
  unfold blockMarked bitOf runUsed
  cases s.groups[(b - geo.fdb) / geo.bpg]? with
  | none => simp
  | some g => simp [allAre_one]

theorem blockMarked_ge {geo : Geom} {s : Acc} {b : Nat} (h : blockMarked geo s b = true) : geo.fdb ≤ b := by
  simp only [blockMarked, Bool.and_eq_true, decide_eq_true_eq] at h; exact h.1

theorem block_coords_inj (geo : Geom) (b b' : Nat) (h1 : geo.fdb ≤ b) (h2 : geo.fdb ≤ b')
    (hg : (b - geo.fdb) / geo.bpg = (b' - geo.fdb) / geo.bpg) (hp : (b - geo.fdb) % geo.bpg = (b' - geo.fdb) % geo.bpg) :
    b = b' := by
  have e1 := Nat.div_add_mod (b - geo.fdb) geo.bpg
  have e2 := Nat.div_add_mod (b' - geo.fdb) geo.bpg
  rw [hg, hp] at e1
  omega

/-- group `i` is replaced: the bit of a block of another group stays, the bit of a block of group `i` is read
    from the new bitmap -/
theorem bitOf_modifyAt (geo : Geom) (s s' : Acc) (i : Nat) (f : Group → Group)
    (hs : s'.groups = modifyAt s.groups i f) (b : Nat) :
    bitOf geo s' b = if (b - geo.fdb) / geo.bpg = i then
      (s.groups[i]?.bind fun g => (f g).bbm[(b - geo.fdb) % geo.bpg]?) else bitOf geo s b := by
  simp only [bitOf, hs, modifyAt_getElem?]
  by_cases h : (b - geo.fdb) / geo.bpg = i
  · subst h; simp only [if_true]; cases s.groups[(b - geo.fdb) / geo.bpg]? <;> rfl
  · simp only [if_neg h]

theorem blockMarked_frame (geo : Geom) (s s' : Acc) (i : Nat) (f : Group → Group)
    (hs : s'.groups = modifyAt s.groups i f) (hf : ∀ g, (f g).bbm = g.bbm) (b : Nat) :
    blockMarked geo s' b = blockMarked geo s b := by
  rw [blockMarked_eq, blockMarked_eq, bitOf_modifyAt geo s s' i f hs]
  split
  · rename_i h; subst h; simp only [bitOf, hf]; cases s.groups[(b - geo.fdb) / geo.bpg]? <;> rfl
  · rfl

/-- `WF` speaks of the lengths of the block bitmaps only -/
theorem WF_of_shape {geo : Geom} {s s' : Acc} (h : shape s' = shape s) (hw : WF geo s) : WF geo s' := by
  refine ⟨hw.1, fun g' hg' => ?_⟩
  have hm : (g'.bbm.length, g'.ibm.length) ∈ shape s := h ▸ List.mem_map_of_mem hg'
  obtain ⟨g, hg, e⟩ := List.mem_map.1 hm
  rw [← (Prod.mk.inj e).1]
  exact hw.2 g hg

/-- Remove's release of block `b` clears the mark of `b` and of no other block -/
theorem blockMarked_freeBlock (geo : Geom) (s : Acc) (b b' : Nat) (h1 : geo.fdb ≤ b) :
    blockMarked geo (freeBlock true geo s b) b' = (blockMarked geo s b' && decide (b' ≠ b)) := by
  rw [blockMarked_eq, blockMarked_eq, freeBlock_fixed, bitOf_modifyAt geo s _ _ _ rfl]
  by_cases h2 : geo.fdb ≤ b'
  · have hne : (b' - geo.fdb) / geo.bpg ≠ (b - geo.fdb) / geo.bpg ∨ (b' - geo.fdb) % geo.bpg ≠ (b - geo.fdb) % geo.bpg →
        b' ≠ b := by rintro h rfl; simp at h
    by_cases hg : (b' - geo.fdb) / geo.bpg = (b - geo.fdb) / geo.bpg
    · simp only [bitOf, ← hg]
      cases s.groups[(b' - geo.fdb) / geo.bpg]? with
      | none => simp
      | some g =>
        have hone : ∀ p q : Nat, (p ≤ q ∧ q < p + 1) ↔ q = p := by omega
        simp only [Option.bind_some, clearRun_get, hone]
        by_cases hp : (b' - geo.fdb) % geo.bpg = (b - geo.fdb) % geo.bpg
        · obtain rfl := block_coords_inj geo b' b h2 h1 hg hp
          cases g.bbm[(b' - geo.fdb) % geo.bpg]? <;> simp
        · simp [hp, hne (.inr hp)]
    · simp [if_neg hg, hne (.inl hg)]
  · simp [h2]

theorem blockMarked_freeBlocks (geo : Geom) : ∀ (blocks : List Nat) (s : Acc) (b' : Nat), (∀ b ∈ blocks, geo.fdb ≤ b) →
    blockMarked geo (blocks.foldl (freeBlock true geo) s) b' = (blockMarked geo s b' && decide (b' ∉ blocks))
  | [], _, _, _ => by simp
  | b :: bs, s, b', hge => by
    rw [List.foldl_cons, blockMarked_freeBlocks geo bs _ b' (fun x hx => hge x (by simp [hx])),
      blockMarked_freeBlock geo s b b' (hge b (by simp))]
    by_cases h1 : b' = b <;> by_cases h3 : b' ∈ bs <;> simp [h1, h3]

theorem blockMarked_removeInode (geo : Geom) (s : Acc) (ino : Nat) (blocks : List Nat) (b512 : Nat) (isDir : Bool) (b' : Nat)
    (hge : ∀ b ∈ blocks, geo.fdb ≤ b) :
    blockMarked geo (removeInode true geo s ino blocks b512 isDir) b' = (blockMarked geo s b' && decide (b' ∉ blocks)) := by
  rw [← blockMarked_freeBlocks geo blocks s b' hge]
  simp only [removeInode, if_true]
  exact blockMarked_frame geo _ _ _ _ rfl (fun g => by rfl) b'

/-- pairwise distinct blocks that are each marked pass the machine's guard (which releases them one by one) -/
theorem blocksMarked_of_pointwise (geo : Geom) : ∀ (blocks : List Nat) (s : Acc), blocks.Nodup →
    (∀ b ∈ blocks, blockMarked geo s b = true) → blocksMarked geo s blocks = true
  | [], _, _, _ => rfl
  | b :: bs, s, hnd, hm => by
    have hnd' := List.nodup_cons.mp hnd
    simp only [blocksMarked, Bool.and_eq_true, hm b (by simp), true_and]
    refine blocksMarked_of_pointwise geo bs _ hnd'.2 fun x hx => ?_
    rw [blockMarked_freeBlock geo s b x (blockMarked_ge (hm b (by simp))), hm x (by simp [hx])]
    simpa using fun (h : x = b) => hnd'.1 (h ▸ hx)


theorem div_mod_window (m g p c x : Nat) (hpc : p + c ≤ m) :
    (g * m + p ≤ x ∧ x < g * m + p + c) ↔ (x / m = g ∧ p ≤ x % m ∧ x % m < p + c) := by
  have hdm := Nat.div_add_mod x m
  rw [Nat.mul_comm] at hdm
  constructor
  · rintro ⟨h1, h2⟩
    have hd : x / m = g := Nat.div_eq_of_lt_le (by omega) (by rw [Nat.add_mul]; omega)
    rw [hd] at hdm
    exact ⟨hd, by omega, by omega⟩
  · rintro ⟨rfl, h1, h2⟩
    omega

theorem mem_runBlocks (geo : Geom) (r : Run) (hpc : r.2.1 + r.2.2 ≤ geo.bpg) (b : Nat) :
    b ∈ runBlocks geo r ↔
      geo.fdb ≤ b ∧ (b - geo.fdb) / geo.bpg = r.1 ∧ r.2.1 ≤ (b - geo.fdb) % geo.bpg ∧ (b - geo.fdb) % geo.bpg < r.2.1 + r.2.2 := by
  have := div_mod_window geo.bpg r.1 r.2.1 r.2.2 (b - geo.fdb) hpc
  simp only [runBlocks, List.mem_range'_1, ← this]
  omega

theorem length_flatMap_runBlocks (geo : Geom) (rs : List Run) :
    (rs.flatMap (runBlocks geo)).length = (rs.map (·.2.2)).sum := by
  induction rs with
  | nil => rfl
  | cons r rs ih => simp [List.flatMap_cons, runBlocks, ih]

/-- marking a free run marks its blocks, which were not marked, and no other block -/
theorem blockMarked_markRun (geo : Geom) (s : Acc) (r : Run) (hw : WF geo s) (hf : runFree s r = true) :
    (∀ b, blockMarked geo (markRun s r) b = (blockMarked geo s b || decide (b ∈ runBlocks geo r))) ∧
    ∀ b ∈ runBlocks geo r, blockMarked geo s b = false := by
  obtain ⟨g, p, c⟩ := r
  obtain ⟨grp, hgr, hf⟩ := (runFree_iff s _).1 hf
  simp only at hgr hf
  have hbits := (allAre_iff false grp.bbm p c).1 hf
  -- a block of the run, in coordinates: a run that is not empty lies inside its group
  have hmem : ∀ b, b ∈ runBlocks geo (g, p, c) ↔ geo.fdb ≤ b ∧ (b - geo.fdb) / geo.bpg = g ∧
      p ≤ (b - geo.fdb) % geo.bpg ∧ (b - geo.fdb) % geo.bpg < p + c := fun b => by
    by_cases hc : 0 < c
    · exact mem_runBlocks geo (g, p, c) (by
        have := allAre_le_length hc hf
        have := hw.2 grp (List.mem_of_getElem? hgr)
        simp only; omega) b
    · simp only [runBlocks, List.mem_range'_1]; omega
  have hbefore : ∀ b, b ∈ runBlocks geo (g, p, c) → bitOf geo s b = some false := fun b hb => by
    obtain ⟨_, hg, h1, h2⟩ := (hmem b).1 hb
    simp only [bitOf, hg, hgr]; exact hbits _ h1 h2
  refine ⟨fun b => ?_, fun b hb => by rw [blockMarked_eq, hbefore b hb]; simp⟩
  rw [blockMarked_eq, blockMarked_eq, bitOf_modifyAt geo s _ _ _ rfl]
  by_cases hin : b ∈ runBlocks geo (g, p, c)
  · obtain ⟨h0, hg, h1, h2⟩ := (hmem b).1 hin
    have := hbits _ h1 h2
    simp [hin, h0, hg, hgr, setRun_get, h1, h2, this]
  · by_cases h0 : geo.fdb ≤ b
    · by_cases hg : (b - geo.fdb) / geo.bpg = g
      · have hw' : ¬ (p ≤ (b - geo.fdb) % geo.bpg ∧ (b - geo.fdb) % geo.bpg < p + c) :=
          fun h => hin ((hmem b).2 ⟨h0, hg, h⟩)
        simp [hin, hg, hgr, bitOf, setRun_get, hw']
      · simp [hin, hg]
    · simp [h0, hin]

theorem blockMarked_markRuns (geo : Geom) : ∀ (rs : List Run) (s : Acc), WF geo s → runsOK s rs = true →
    (∀ b, blockMarked geo (rs.foldl markRun s) b = (blockMarked geo s b || decide (b ∈ rs.flatMap (runBlocks geo)))) ∧
    (rs.flatMap (runBlocks geo)).Nodup ∧ ∀ b ∈ rs.flatMap (runBlocks geo), blockMarked geo s b = false
  | [], s, hw, _ => ⟨by simp, by simp, by simp⟩
  | r :: rs, s, hw, hok => by
    simp only [runsOK, Bool.and_eq_true] at hok
    obtain ⟨a1, a2⟩ := blockMarked_markRun geo s r hw hok.1
    obtain ⟨b1, b2, b3⟩ := blockMarked_markRuns geo rs (markRun s r) (WF_of_shape (shape_markRun s r) hw) hok.2
    -- a block of a later run was not marked after `r` was, so it is not a block of `r`
    have hdisj : ∀ x, x ∈ runBlocks geo r → x ∉ rs.flatMap (runBlocks geo) := fun x hx1 hx2 => by
      have := b3 x hx2
      simp [a1 x, hx1] at this
    simp only [List.foldl_cons, List.flatMap_cons, List.mem_append]
    refine ⟨fun b => by simp [b1 b, a1 b, Bool.or_assoc], List.nodup_append.2 ⟨List.nodup_range' (step := 1) (by omega), b2,
      fun x hx1 y hy2 hxy => hdisj x hx1 (hxy ▸ hy2)⟩, ?_⟩
    rintro b (hb | hb)
    · exact a2 b hb
    · have := b3 b hb
      simp only [a1 b, Bool.or_eq_false_iff] at this
      exact this.1


theorem mem_ownedBlocks (o : Own) (b : Nat) : b ∈ ownedBlocks o ↔ ∃ f ∈ o.files, b ∈ f.blocks := by
  simp [ownedBlocks, List.mem_flatMap]

theorem flatMap_eraseIdx_perm {α β : Type} (g : α → List β) : ∀ (l : List α) (i : Nat) (x : α), l[i]? = some x →
    (l.flatMap g).Perm (g x ++ (l.eraseIdx i).flatMap g)
  | a :: l, 0, x, h => by
    obtain rfl : a = x := by simpa using h
    simp
  | a :: l, i + 1, x, h => by
    simp only [List.flatMap_cons, List.eraseIdx_cons_succ]
    exact ((flatMap_eraseIdx_perm g l i x (by simpa using h)).append_left (g a)).trans
      (List.perm_append_comm_assoc _ _ _)

theorem flatMap_set_perm {α β : Type} (g : α → List β) (l : List α) (i : Nat) (x y : α) (h : l[i]? = some x) :
    ((l.set i y).flatMap g).Perm (g y ++ (l.eraseIdx i).flatMap g) := by
  have hlt := (List.getElem?_eq_some_iff.1 h).1
  have := flatMap_eraseIdx_perm g (l.set i y) i y (List.getElem?_set_self hlt)
  rwa [List.eraseIdx_set_eq] at this

theorem ownedBlocks_perm (o : Own) (i : Nat) (f : FileRec) (h : o.files[i]? = some f) (acc : Acc) :
    (ownedBlocks o).Perm (f.blocks ++ ownedBlocks ⟨acc, o.files.eraseIdx i⟩) :=
  flatMap_eraseIdx_perm FileRec.blocks o.files i f h

theorem ownedBlocks_set_perm (o : Own) (i : Nat) (f f' : FileRec) (h : o.files[i]? = some f) (acc : Acc)
    (extra : List Nat) (hf' : f'.blocks = f.blocks ++ extra) :
    (ownedBlocks ⟨acc, o.files.set i f'⟩).Perm (ownedBlocks o ++ extra) := by
  have h1 := flatMap_set_perm FileRec.blocks o.files i f f' h
  rw [hf', List.append_assoc] at h1
  exact h1.trans ((List.perm_append_comm.append_left _).trans
    (by rw [← List.append_assoc]; exact (ownedBlocks_perm o i f h acc).symm.append_right _))

end Diskfs.Ext4.Alloc

namespace Diskfs.Ranges.Ext4
open Diskfs.Ext4.Alloc

theorem shape_ostep (geo : Geom) (o : Own) (op : OOp) : shape (ostep geo o op).acc = shape o.acc := by
  cases op with
  | create ino isDir =>
    simp only [ostep]
    have := shape_allocInode o.acc isDir
    split
    · rename_i acc' h; rw [h] at this; exact this
    · rfl
  | grow i n runs =>
    simp only [ostep]
    have := shape_allocExtents o.acc n (some runs)
    split
    · rename_i f acc' h1 h2; rw [h2] at this; exact this
    · rfl
  | remove i isDir =>
    simp only [ostep]
    split
    · rename_i f hf
      have := shape_removeOp geo o.acc f.ino f.blocks isDir
      split
      · rename_i acc' h; rw [h] at this; exact this
      · rfl
    · rfl

end Diskfs.Ranges.Ext4
