/-
  Layer E for a tree of directories, second half.  Each remaining call inside one directory
  establishes `StepFacts` against `Spec.stepDir`.  `StepFacts` for a call in a directory gives
  `StepFacts` for the same call addressed from the parent: the child's subtree is taken out of the
  owner list and everything else of the volume becomes the frame.  By induction over the path a
  call on the volume satisfies it with no owner outside the root; histories follow.
-/
import DiskfsModel.Proofs.FatTreeFs
namespace Diskfs.Fat

section calls
variable {eqn : Spec.Name → Spec.Name → Bool} {g : TGeom} {fuel : Nat}

theorem local_write (he : EqnOk eqn) (hg : TGeomOk g) (hfuel : g.f.lim - 2 ≤ fuel) (d0 : List Spec.Name)
    (n : Spec.Name) (off : Nat) (data img : Bytes) :
    LocalOk eqn g (dWrite eqn g fuel n off data img) (Spec.stepDir eqn (.writeAt d0 n off data)) := by
  intro base s rest h hwf
  unfold dWrite
  simp only [Spec.stepDir, lookup_kidsAbs]
  split
  · rename_i hf
    simp only [hf, Option.map_none]
    exact .specErr h hwf rfl
  · rename_i nm c ks hf
    simp only [hf, Option.map_some, abs_dir]
    exact .specErr h hwf rfl
  · rename_i fn fc size hf
    simp only [hf, Option.map_some, abs_file]
    split
    · exact .noop h hwf rfl
    · rename_i hz
      split
      · exact .refused h hwf (by simp) (by simp)
      · rename_i l' hres
        split
        · exact .refused h hwf (by simp) (by simp)
        · rename_i ws hws
          split
          · exact .dirErr h hwf ‹_›
          · rename_i w hw
            have hhead : Inv g.f.kind g.f.lim s.m
                (fc :: (chainOwner s.chain ++ (kidsOwners (kerase eqn s.kids n) ++ rest))) := by
              have := inv_child he hwf hf h
              rwa [owners_file] at this
            obtain ⟨hcov, hgrow, hone⟩ := write_counts off hg.bpc ((wf_file ..).1 (wf_child hwf hf))
              (Nat.pos_of_ne_zero hz)
            unfold falloc at hres hw
            obtain ⟨hinv, hlen, hcont, hothers⟩ := file_write_core s.d g.f.io g.f.kind g.f.lim g.f.max fuel
              (firstFit g.f.lim) s.m fc l' _ size off data ws hhead (firstFit_spec _) hg.lim hg.max hg.bpc
              (Nat.le_trans (chain_length_le hhead) hfuel) (Nat.pos_of_ne_zero hz) hcov hgrow hres hws
            obtain ⟨hinvw, hroot, hfr⟩ := writeDir_head hg hfuel hinv hw
            refine assemble_kset (x := .file fn l' (Nat.max size (off + data.length))) he w.m w.d w.chain hwf hf rfl
              ?_ ?_ hroot ?_ ?_
            · rw [wf_file]; exact hlen.trans (Nat.max_eq_left hone).symm
            · rw [owners_file]
              exact hinvw
            · intro o ho
              rw [hfr o (List.mem_cons_of_mem _ ho)]
              exact hothers o (List.mem_append_right _ ho)
            · rw [abs_file]
              unfold fileContent at hcont ⊢
              rw [hfr l' List.mem_cons_self, hcont]

theorem replace_kidsAbs_self (he : EqnOk eqn) {d : Dev} {io : IOGeom} {K : List TNode} {n : Spec.Name} {t : TNode}
    {v : Spec.Node} (hwf : kidsWF eqn g K) (hf : kfind eqn K n = some t) (hv : (t.abs d io).2 = v) :
    Spec.replace eqn (kidsAbs d io K) n v = kidsAbs d io K := by
  obtain ⟨pre, post, rfl, hfn, hpre, hpost⟩ := find_split he (kidsWF_pairwise hwf) hf
  rw [kidsAbs_eq_map, replace_split _ (abs_fst d io) _ hfn hpre hpost,
    List.map_append, List.map_cons, ← hv, ← abs_fst d io t]

theorem local_trunc (he : EqnOk eqn) (hg : TGeomOk g) (hfuel : g.f.lim - 2 ≤ fuel) (d0 : List Spec.Name)
    (n : Spec.Name) (img : Bytes) :
    LocalOk eqn g (dTrunc eqn g fuel n img) (Spec.stepDir eqn (.truncate d0 n)) := by
  intro base s rest h hwf
  unfold dTrunc
  simp only [Spec.stepDir, lookup_kidsAbs]
  split
  · rename_i hf
    simp only [hf, Option.map_none]
    exact .specErr h hwf rfl
  · rename_i nm c ks hf
    simp only [hf, Option.map_some, abs_dir]
    exact .specErr h hwf rfl
  · rename_i fn fc size hf
    simp only [hf, Option.map_some, abs_file]
    split
    · rename_i hz
      refine .noop h hwf ?_
      rw [replace_kidsAbs_self he hwf hf (by rw [abs_file, hz]; simp [fileContent])]
    · rename_i hz
      split
      · exact .dirErr h hwf ‹_›
      · rename_i w hw
        split
        · exact .refused h hwf (by simp) (by simp)
        · rename_i l' hres
          have hhead := inv_child he hwf hf h
          rw [owners_file] at hhead
          obtain ⟨hhw, hroot, hfr⟩ := writeDir_head hg hfuel hhead hw
          have htwf := wf_child hwf hf
          rw [wf_file, nat_max_eq] at htwf
          unfold falloc at hres ⊢
          refine assemble_kset (x := .file fn (fc.take 1) 0) he _ w.d w.chain hwf hf rfl ?_ ?_ hroot
            (fun o ho => hfr o (List.mem_cons_of_mem _ ho)) ?_
          · rw [wf_file, clusterCount_zero, List.length_take, nat_max_eq]; omega
          · rw [owners_file]
            exact alloc_one_inv hhw (firstFit_spec _) hg.lim hg.max hg.bpc
              (Nat.le_trans (chain_length_le hhw) hfuel) hres
          · rw [abs_file]
            simp [fileContent]

/-- a file or an empty directory owns one chain, and the specification removes it -/
theorem leaf_facts {t : TNode} (h : ∀ nm c k ks, t ≠ .dir nm c (k :: ks)) (eqn : Spec.Name → Spec.Name → Bool)
    (d : Dev) (io : IOGeom) (d0 : List Spec.Name) (n : Spec.Name) (T : Spec.Tree)
    (hl : Spec.lookup eqn T n = some (t.abs d io).2) :
    t.owners = [t.chain] ∧ Spec.stepDir eqn (.remove d0 n) T = (Spec.erase eqn T n, .ok) := by
  cases t with
  | file nm c sz =>
    rw [abs_file] at hl
    exact ⟨by rw [owners_file]; rfl, by simp only [Spec.stepDir, hl]⟩
  | dir nm c ks =>
    cases ks with
    | nil =>
      rw [abs_dir, kidsAbs_nil] at hl
      exact ⟨by rw [owners_dir, kidsOwners_nil]; rfl, by simp only [Spec.stepDir, hl]⟩
    | cons k ks => exact absurd rfl (h nm c k ks)

theorem local_remove (he : EqnOk eqn) (hg : TGeomOk g) (hfuel : g.f.lim - 2 ≤ fuel) (d0 : List Spec.Name)
    (n : Spec.Name) (img : Bytes) :
    LocalOk eqn g (dRemove eqn g fuel n img) (Spec.stepDir eqn (.remove d0 n)) := by
  intro base s rest h hwf
  unfold dRemove
  split
  · rename_i hf
    simp only [Spec.stepDir, lookup_kidsAbs, hf, Option.map_none]
    exact .specErr h hwf rfl
  · rename_i nm c k ks hf
    simp only [Spec.stepDir, lookup_kidsAbs, hf, Option.map_some, abs_dir, kidsAbs_cons]
    exact .specErr h hwf rfl
  · rename_i t hnot hf
    obtain ⟨hown, hspec⟩ := leaf_facts (fun nm c k ks e => hnot nm c k ks e) eqn s.d g.f.io d0 n
      (kidsAbs s.d g.f.io s.kids) (by rw [lookup_kidsAbs, hf]; rfl)
    rw [hspec]
    split
    · exact .dirErr h hwf ‹_›
    · rename_i w hw
      have hhead := inv_child he hwf hf h
      rw [hown] at hhead
      obtain ⟨hhw, hroot, hfr⟩ := writeDir_head hg hfuel hhead hw
      have hfl : t.chain.length ≤ fuel := Nat.le_trans (chain_length_le hhw) hfuel
      obtain ⟨f1, f2⟩ := freeChain_inv hhw hg.lim hg.max hfl
      simp only [f1, if_true]
      have hfr' : ∀ o ∈ kidsOwners (kerase eqn s.kids n) ++ rest, chainBytes w.d g.f.io o = chainBytes s.d g.f.io o :=
        fun o ho => hfr o (List.mem_cons_of_mem _ ho)
      refine ⟨by rw [List.append_assoc]; exact f2, kidsWF_kerase n hwf, hroot,
        fun o ho => hfr' o (List.mem_append_right _ ho), fun _ => ⟨?_, rfl⟩, fun hh => absurd rfl hh, fun e he => by cases he⟩
      rw [← erase_kidsAbs]
      exact kidsAbs_congr _ _ _ _ fun o ho => hfr' o (List.mem_append_left _ ho)

theorem stepDir_rename_ok (eqn : Spec.Name → Spec.Name → Bool) (d0 : List Spec.Name) (o n : Spec.Name)
    (T : Spec.Tree) (v : Spec.Node) (hl : Spec.lookup eqn T o = some v) (hon : eqn o n = false)
    (hn : ∀ c, Spec.lookup eqn T n ≠ some (.dir c)) :
    Spec.stepDir eqn (.rename d0 o n) T
      = ((Spec.erase eqn T n).map (fun e => if eqn e.1 o = true then (n, v) else e), .ok) := by
  simp only [Spec.stepDir, hl, hon]
  cases hln : Spec.lookup eqn T n with
  | none => simp
  | some u =>
    cases u with
    | file c => simp
    | dir c => exact absurd hln (hn c)

theorem rename_assemble (he : EqnOk eqn) {s : DirSt} {rest : List (List Nat)} {K : List TNode} {t : TNode}
    {o n : Spec.Name} (mF : CMap) (dF : Dev) (cF : List Nat)
    (hwf : kidsWF eqn g K) (hf : kfind eqn K o = some t) (hKn : ∀ a ∈ K, eqn a.name n = false)
    (hinv : Inv g.f.kind g.f.lim mF (chainOwner cF ++ (kidsOwners K ++ rest)))
    (hfr : ∀ o ∈ kidsOwners K ++ rest, chainBytes dF g.f.io o = chainBytes s.d g.f.io o)
    (hroot : cF = [] ↔ s.chain = [])
    {sp : Spec.Tree × Spec.Res}
    (hsp : sp = ((kidsAbs s.d g.f.io K).map
      (fun e => if eqn e.1 o = true then (n, (t.abs s.d g.f.io).2) else e), .ok)) :
    StepFacts eqn g rest s (⟨mF, dF, cF, krename eqn K o n⟩, .ok) sp := by
  have hhead := inv_child he hwf hf (by rw [List.append_assoc]; exact hinv)
  obtain ⟨pre, post, rfl, hfn, hpre, hpost⟩ := find_split he (kidsWF_pairwise hwf) hf
  rw [kerase, erase_mid hfn hpre hpost, kidsOwners_append] at hhead
  simp only [kidsOwners_append, kidsOwners_cons, List.forall_mem_append] at hfr
  obtain ⟨⟨hfpre, hft, hfpost⟩, hfrest⟩ := hfr
  rw [krename, map_mid _ hfn hpre hpost]
  refine assemble_mid (t := t) (x := t.rename n) mF dF cF hwf ?_ ?_ ?_ ?_ hroot ?_ ?_
  · intro a ha
    rw [name_rename]
    exact hKn a (List.mem_append_left _ ha)
  · intro b hb
    rw [name_rename, he.comm]
    exact hKn b (List.mem_append_right _ (List.mem_cons_of_mem _ hb))
  · rw [wf_rename]; exact wf_child hwf hf
  · rw [owners_rename]; exact hhead
  · exact List.forall_mem_append.2 ⟨List.forall_mem_append.2 ⟨hfpre, hfpost⟩, hfrest⟩
  · rw [hsp, kidsAbs_eq_map,
      rename_split _ (abs_fst s.d g.f.io) (fun _ => (n, (t.abs s.d g.f.io).2)) hfn hpre hpost,
      ← kidsAbs_eq_map, ← kidsAbs_eq_map, abs_rename,
      TNode.abs_congr s.d dF g.f.io t hft]

theorem local_rename (he : EqnOk eqn) (hg : TGeomOk g) (hfuel : g.f.lim - 2 ≤ fuel) (d0 : List Spec.Name)
    (o n : Spec.Name) (img : Bytes) :
    LocalOk eqn g (dRename eqn g fuel o n img) (Spec.stepDir eqn (.rename d0 o n)) := by
  intro base s rest h hwf
  unfold dRename
  split
  · rename_i hf
    simp only [Spec.stepDir, lookup_kidsAbs, hf, Option.map_none]
    exact .specErr h hwf rfl
  · rename_i t hf
    have hlo : Spec.lookup eqn (kidsAbs s.d g.f.io s.kids) o = some (t.abs s.d g.f.io).2 := by
      rw [lookup_kidsAbs, hf]; rfl
    split
    · exact .refused h hwf (by simp) (by simp)
    · rename_i hon
      have hon' : eqn o n = false := by simpa using hon
      split
      · rename_i nm c ks hfn
        refine .specErr h hwf ?_
        simp [Spec.stepDir, hlo, hon', lookup_kidsAbs, hfn, abs_dir]
      · rename_i hfn
        rw [stepDir_rename_ok eqn d0 o n _ _ hlo hon' (by rw [lookup_kidsAbs, hfn]; simp)]
        split
        · exact .dirErr h hwf ‹_›
        · rename_i w hw
          obtain ⟨hinvw, hroot, hfr, _⟩ := writeDir_ok hg hfuel (by rw [← List.append_assoc]; exact h) hw
          refine rename_assemble he w.m w.d w.chain hwf hf (find_none hfn) hinvw hfr hroot ?_
          rw [← erase_kidsAbs, kerase, filter_not_of_false _ _ (find_none hfn)]
      · rename_i un tc usz hfn
        rw [stepDir_rename_ok eqn d0 o n _ _ hlo hon' (by rw [lookup_kidsAbs, hfn]; simp [abs_file])]
        split
        · exact .dirErr h hwf ‹_›
        · rename_i w hw
          -- the entry that carries the new name goes, its chain is released
          have hhead := inv_child he hwf hfn h
          rw [owners_file] at hhead
          obtain ⟨hhw, hroot, hfr⟩ := writeDir_head hg hfuel hhead hw
          have hfl : tc.length ≤ fuel := Nat.le_trans (chain_length_le hhw) hfuel
          obtain ⟨f1, f2⟩ := freeChain_inv hhw hg.lim hg.max hfl
          simp only [f1, if_true]
          refine rename_assemble he _ w.d w.chain (kidsWF_kerase n hwf) (by rw [kfind, kerase, find_erase_ne he hon']; exact hf)
            (erase_names _ _) f2 (fun o' ho' => hfr o' (List.mem_cons_of_mem _ ho')) hroot ?_
          rw [← erase_kidsAbs]

theorem dstep_local (he : EqnOk eqn) (hg : TGeomOk g) (hfuel : g.f.lim - 2 ≤ fuel) (op : TOp) :
    LocalOk eqn g (dstep eqn g fuel op) (Spec.stepDir eqn op.toSpec) := by
  cases op with
  | mkdir d n img img2 => exact local_mkdir hg hfuel d n img img2
  | create d n img => exact local_create hg hfuel d n img
  | writeAt d n off data img => exact local_write he hg hfuel d n off data img
  | truncate d n img => exact local_trunc he hg hfuel d n img
  | rename d o n img => exact local_rename he hg hfuel d o n img
  | remove d n img => exact local_remove he hg hfuel d n img

/-- **the path walk**: what holds for a call inside the directory it addresses holds for the
    call on any ancestor, with the descent of the specification (`Spec.atDir`) on the other side. -/
theorem atDirT_local (he : EqnOk eqn) {f : Nat → DirSt → DirSt × TRes} {sf : Spec.Tree → Spec.Tree × Spec.Res}
    (hf : LocalOk eqn g f sf) (path : List Spec.Name) :
    LocalOk eqn g (fun base s => atDirT eqn f path base s) (Spec.atDir eqn sf path) := by
  induction path with
  | nil =>
    intro base s rest h hwf
    simp only [atDirT, Spec.atDir]
    exact hf base s rest h hwf
  | cons n path ih =>
    intro base s rest h hwf
    simp only [atDirT, Spec.atDir, lookup_kidsAbs]
    split
    · rename_i nm c ks hfd
      simp only [hfd, Option.map_some, abs_dir]
      obtain ⟨hc, hsub⟩ := inv_subdir he hwf hfd h
      have IH : StepFacts eqn g (chainOwner s.chain ++ (kidsOwners (kerase eqn s.kids n) ++ rest))
          ⟨s.m, s.d, c, ks⟩ (atDirT eqn f path 2 ⟨s.m, s.d, c, ks⟩)
          (Spec.atDir eqn sf path (kidsAbs s.d g.f.io ks)) :=
        ih 2 ⟨s.m, s.d, c, ks⟩ _ hsub ((wf_dir ..).1 (wf_child hwf hfd))
      generalize atDirT eqn f path 2 ⟨s.m, s.d, c, ks⟩ = r at IH ⊢
      generalize Spec.atDir eqn sf path (kidsAbs s.d g.f.io ks) = q at IH ⊢
      obtain ⟨q1, q2⟩ := q
      by_cases hok : r.2 = .ok
      · obtain ⟨hacc1, hacc2⟩ := IH.acc hok
        simp only at hacc1 hacc2
        simp only [hok, hacc2, if_true]
        have hrc : r.1.chain ≠ [] := fun e => hc (IH.root.1 e)
        refine assemble_kset (x := .dir nm r.1.chain r.1.kids) he r.1.m r.1.d s.chain hwf hfd rfl
          ((wf_dir ..).2 IH.wf) ?_ Iff.rfl
          (fun o ho => IH.frame o (List.mem_append_right _ ho)) ?_
        · rw [owners_dir]
          have := IH.inv
          rw [chainOwner_of_ne hrc] at this
          exact this
        · rw [abs_dir, hacc1]
      · simp only [hok, if_false]
        refine ⟨h, hwf, Iff.rfl, fun _ _ => rfl, fun hh => absurd hh hok, fun _ => rfl, ?_⟩
        intro e he'
        have := IH.err e he'
        simpa using this
    · rename_i nm c sz hfd
      simp only [hfd, Option.map_some, abs_file]
      exact .specErr h hwf rfl
    · rename_i hfd
      simp only [hfd, Option.map_none]
      exact .specErr h hwf rfl

end calls

theorem toSpec_dir (op : TOp) : op.toSpec.dir = op.dir := by cases op <;> rfl

section main
variable {eqn : Spec.Name → Spec.Name → Bool} {g : TGeom} {fuel : Nat}

/-- one call on the volume: everything `StepFacts` says, with the root directory as the
    outermost level (no owner outside it) -/
theorem tstep_facts (he : EqnOk eqn) (hg : TGeomOk g) (hfuel : g.f.lim - 2 ≤ fuel) (s : DirSt) (op : TOp)
    (h : TInv eqn g s) :
    StepFacts eqn g [] s (tstep eqn g fuel s op) (Spec.step eqn (tabs g s) op.toSpec) := by
  unfold tstep Spec.step tabs
  rw [toSpec_dir]
  exact atDirT_local he (dstep_local he hg hfuel op) op.dir g.rootBase s []
    (by rw [List.append_nil]; exact h.table) h.wf

/-- every call, accepted or refused, keeps the invariant: the cluster map is sound with exactly
    the chains of the tree as owners, files have the clusters their sizes need, names differ -/
theorem tstep_inv (he : EqnOk eqn) (hg : TGeomOk g) (hfuel : g.f.lim - 2 ≤ fuel) (s : DirSt) (op : TOp)
    (h : TInv eqn g s) : TInv eqn g (tstep eqn g fuel s op).1 := by
  have hs := tstep_facts he hg hfuel s op h
  exact ⟨by have := hs.inv; rwa [List.append_nil] at this, hs.wf⟩

theorem tstep_refines (he : EqnOk eqn) (hg : TGeomOk g) (hfuel : g.f.lim - 2 ≤ fuel) (s : DirSt) (op : TOp)
    (h : TInv eqn g s) (hacc : (tstep eqn g fuel s op).2 = .ok) :
    tabs g (tstep eqn g fuel s op).1 = (Spec.step eqn (tabs g s) op.toSpec).1 ∧
    (Spec.step eqn (tabs g s) op.toSpec).2 = .ok :=
  (tstep_facts he hg hfuel s op h).acc hacc

-- true without any hypothesis (every refusing branch returns its argument); read off `StepFacts.rej`
-- here because the walk through the branches of the six calls has been done for it
theorem tstep_refused (he : EqnOk eqn) (hg : TGeomOk g) (hfuel : g.f.lim - 2 ≤ fuel) (s : DirSt) (op : TOp)
    (h : TInv eqn g s) (hrej : (tstep eqn g fuel s op).2 ≠ .ok) : (tstep eqn g fuel s op).1 = s :=
  (tstep_facts he hg hfuel s op h).rej hrej

/-- a fixed root directory stays fixed, a chained one stays chained -/
theorem tstep_root (he : EqnOk eqn) (hg : TGeomOk g) (hfuel : g.f.lim - 2 ≤ fuel) (s : DirSt) (op : TOp)
    (h : TInv eqn g s) : (tstep eqn g fuel s op).1.chain = [] ↔ s.chain = [] :=
  (tstep_facts he hg hfuel s op h).root

/-- replay a history on the specification side: a call the model accepted is applied with
    `Spec.step`, one it refused is skipped -/
def tspecRun (eqn : Spec.Name → Spec.Name → Bool) (g : TGeom) (fuel : Nat) :
    DirSt → Spec.Tree → List TOp → Spec.Tree
  | _, t, [] => t
  | s, t, op :: ops =>
    tspecRun eqn g fuel (tstep eqn g fuel s op).1
      (if (tstep eqn g fuel s op).2 = .ok then (Spec.step eqn t op.toSpec).1 else t) ops

/-- after every history the invariant holds and the tree read back from the volume is the
    specification's tree after the same history (refused calls skipped). -/
theorem trun_refines (he : EqnOk eqn) (hg : TGeomOk g) (hfuel : g.f.lim - 2 ≤ fuel) (ops : List TOp) (s : DirSt)
    (h : TInv eqn g s) :
    TInv eqn g (trun eqn g fuel s ops) ∧
    tabs g (trun eqn g fuel s ops) = tspecRun eqn g fuel s (tabs g s) ops := by
  induction ops generalizing s with
  | nil => exact ⟨h, rfl⟩
  | cons op rest ih =>
    obtain ⟨h1, h2⟩ := ih _ (tstep_inv he hg hfuel s op h)
    refine ⟨h1, ?_⟩
    simp only [trun, List.foldl_cons, tspecRun] at h2 ⊢
    rw [h2]
    by_cases hacc : (tstep eqn g fuel s op).2 = .ok
    · rw [if_pos hacc, (tstep_refines he hg hfuel s op h hacc).1]
    · rw [if_neg hacc, tstep_refused he hg hfuel s op h hacc]

theorem trun_inv (he : EqnOk eqn) (hg : TGeomOk g) (hfuel : g.f.lim - 2 ≤ fuel) (ops : List TOp) (s : DirSt)
    (h : TInv eqn g s) : TInv eqn g (trun eqn g fuel s ops) :=
  (trun_refines he hg hfuel ops s h).1

/-- when no call is refused the history is `Spec.run` -/
theorem tspecRun_all_accepted (eqn : Spec.Name → Spec.Name → Bool) (g : TGeom) (fuel : Nat) :
    ∀ (ops : List TOp) (s : DirSt) (t : Spec.Tree),
      (∀ (i : Nat) (hi : i < ops.length),
        (tstep eqn g fuel (trun eqn g fuel s (ops.take i)) ops[i]).2 = .ok) →
      tspecRun eqn g fuel s t ops = Spec.run eqn t (ops.map TOp.toSpec)
  | [], _, _, _ => rfl
  | op :: rest, s, t, hall => by
    have h0 : (tstep eqn g fuel s op).2 = .ok := hall 0 (by simp)
    simp only [tspecRun, Spec.run, List.map_cons, List.foldl_cons, if_pos h0]
    apply tspecRun_all_accepted eqn g fuel rest
    intro i hi
    have := hall (i + 1) (by simpa using hi)
    simpa [trun] using this

end main

/-! ### non-vacuity: the hypotheses hold together on a small FAT12 volume with a subdirectory -/

/-- 64-byte clusters, a fixed root region of 8 slots in front of the data area, one slot per name -/
def exTGeom : TGeom := ⟨⟨.f12, 10, 10, ⟨0, 256, 64⟩⟩, fun _ => 1, 8, 1, 0⟩

theorem exTGeom_ok : TGeomOk exTGeom := ⟨by decide, ex_limOk, by decide, by decide⟩

/-- the root holds the file "A" (3 bytes, cluster 2) and the directory "B" (chain 3 → 4, empty) -/
def exTree : DirSt := ⟨exTable, fun _ => 0, [], [.file [65] [2] 3, .dir [66] [3, 4] []]⟩

theorem exTree_inv : TInv exEqn exTGeom exTree where
  table := by
    have : chainOwner exTree.chain ++ kidsOwners exTree.kids = [[2], [3, 4]] := by
      simp [exTree, chainOwner, kidsOwners_cons, kidsOwners_nil, owners_file, owners_dir]
    rw [this]
    exact ex_inv
  wf := by
    simp only [exTree, kidsWF_cons, wf_dir, wf_file, kidsWF_nil, List.mem_cons, List.not_mem_nil, or_false,
      forall_eq, false_imp_iff, implies_true, and_true, TNode.name]
    decide

/-- the theorems apply to this volume, for every history -/
example (ops : List TOp) :
    TInv exEqn exTGeom (trun exEqn exTGeom 8 exTree ops) ∧
    tabs exTGeom (trun exEqn exTGeom 8 exTree ops)
      = tspecRun exEqn exTGeom 8 exTree (tabs exTGeom exTree) ops :=
  trun_refines exEqn_ok exTGeom_ok (by decide) ops exTree exTree_inv

/-- a file created inside the subdirectory "B": accepted, it gets cluster 5, the directory keeps its chain -/
example : (tstep exEqn exTGeom 8 exTree (.create [[66]] [67] [])).2 = .ok := by decide

example : kidsOwners (tstep exEqn exTGeom 8 exTree (.create [[66]] [67] [])).1.kids = [[2], [3, 4], [5]] := by
  decide

/-- a nested directory below "B" -/
example : (tstep exEqn exTGeom 8 exTree (.mkdir [[66]] [68] [] [])).2 = .ok := by decide

/-- a path through the file "A" is refused with the specification's error -/
example : (tstep exEqn exTGeom 8 exTree (.create [[65]] [67] [])).2 = .spec .notdir := by decide

/-- a write that would need 7 clusters for a file below "B" when 4 are free: refused -/
example :
    (tstep exEqn exTGeom 8 (tstep exEqn exTGeom 8 exTree (.create [[66]] [67] [])).1
      (.writeAt [[66]] [67] 400 [1] [])).2 = .nospace := by decide

/-- a write past the end of that file: accepted, the file grows to two clusters -/
example :
    kidsOwners (tstep exEqn exTGeom 8 (tstep exEqn exTGeom 8 exTree (.create [[66]] [67] [])).1
      (.writeAt [[66]] [67] 70 [1, 2] [])).1.kids = [[2], [3, 4], [5, 6]] := by decide

end Diskfs.Fat
