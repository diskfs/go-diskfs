/-
  The ext4 allocation / accounting machine (Model/Ext4/Alloc.lean): bit runs (`allAre`, `setRun`, `clearRun`, the
  scans of the fast path and of allocateInode) and `modifyAt`, whose lemmas the ownership and range files use too.
  Accounting: every operation replaces one group and moves the superblock counters by what the group's counters
  moved (`inv2_modify`), so each one keeps `AccInv`, carried out or refused.  Last, the shape of a state (the
  lengths of its bitmaps) and that allocateExtents, allocateInode and Remove (the operations of the ownership
  layer) keep it; deallocateExtents has no such lemma, nothing asks for one.
-/
import DiskfsModel.Model.Ext4.Alloc
namespace Diskfs.Ext4.Alloc

theorem allAre_cons_succ (v x : Bool) (xs : Bits) (p c : Nat) : allAre v (x :: xs) (p + 1) c = allAre v xs p c := by
  cases c <;> cases xs <;> rfl

theorem allAre_iff (v : Bool) : ∀ (b : Bits) (p c : Nat),
    allAre v b p c = true ↔ ∀ i, p ≤ i → i < p + c → b[i]? = some v
  | b, p, 0 => by
    have : allAre v b p 0 = true := by cases b <;> cases p <;> rfl
    simp only [this, true_iff]; intro i h1 h2; omega
  | [], p, c + 1 => by
    simp only [allAre, Bool.false_eq_true, false_iff]
    intro h; have := h p (Nat.le_refl _) (by omega); simp at this
  | x :: xs, 0, c + 1 => by
    simp only [allAre, Bool.and_eq_true, beq_iff_eq, allAre_iff v xs 0 c]
    constructor
    · rintro ⟨rfl, h⟩ i _ hi
      cases i with
      | zero => rfl
      | succ i => simpa using h i (Nat.zero_le _) (by omega)
    · intro h
      exact ⟨by simpa using h 0 (Nat.le_refl _) (by omega), fun i _ hi => by simpa using h (i + 1) (by omega) (by omega)⟩
  | x :: xs, p + 1, c + 1 => by
    simp only [allAre, allAre_iff v xs p (c + 1)]
    constructor
    · intro h i h1 h2
      obtain ⟨j, rfl⟩ : ∃ j, i = j + 1 := ⟨i - 1, by omega⟩
      simpa using h j (by omega) (by omega)
    · intro h i h1 h2
      simpa using h (i + 1) (by omega) (by omega)

theorem allAre_le_length {v : Bool} {b : Bits} {p c : Nat} (hc : 0 < c) (h : allAre v b p c = true) :
    p + c ≤ b.length := by
  have := (allAre_iff v b p c).1 h (p + c - 1) (by omega) (by omega)
  have := (List.getElem?_eq_some_iff.1 this).1
  omega

theorem allAre_one (v : Bool) : ∀ (b : Bits) (p : Nat), allAre v b p 1 = (b[p]? == some v)
  | [], p => by simp [allAre]
  | x :: xs, 0 => by simp [allAre]
  | x :: xs, p + 1 => by simp [allAre, allAre_one v xs p]

theorem countFree_cons (x : Bool) (xs : Bits) :
    countFree (x :: xs) = (if x = false then 1 else 0) + countFree xs := by
  cases x <;> simp [countFree] <;> omega

theorem setRun_length : ∀ (b : Bits) (p c : Nat), (setRun b p c).length = b.length
  | [], _, _ => by simp [setRun]
  | _ :: _, 0, 0 => rfl
  | _ :: xs, 0, c + 1 => by simp [setRun, setRun_length xs 0 c]
  | _ :: xs, p + 1, c => by simp [setRun, setRun_length xs p c]

theorem clearRun_length : ∀ (b : Bits) (p c : Nat), (clearRun b p c).length = b.length
  | [], _, _ => by simp [clearRun]
  | _ :: _, 0, 0 => rfl
  | _ :: xs, 0, c + 1 => by simp [clearRun, clearRun_length xs 0 c]
  | _ :: xs, p + 1, c => by simp [clearRun, clearRun_length xs p c]

theorem setRun_get : ∀ (b : Bits) (p c q : Nat),
    (setRun b p c)[q]? = if p ≤ q ∧ q < p + c then b[q]?.map (fun _ => true) else b[q]?
  | [], p, c, q => by simp [setRun]
  | x :: xs, 0, 0, q => by simp [setRun]
  | x :: xs, 0, c + 1, 0 => by simp [setRun]
  | x :: xs, 0, c + 1, q + 1 => by
    simp only [setRun, List.getElem?_cons_succ, setRun_get xs 0 c q]
    have : (0 ≤ q + 1 ∧ q + 1 < 0 + (c + 1)) ↔ (0 ≤ q ∧ q < 0 + c) := by omega
    simp only [this]
  | x :: xs, p + 1, c, 0 => by simp [setRun]
  | x :: xs, p + 1, c, q + 1 => by
    simp only [setRun, List.getElem?_cons_succ, setRun_get xs p c q]
    have : (p + 1 ≤ q + 1 ∧ q + 1 < p + 1 + c) ↔ (p ≤ q ∧ q < p + c) := by omega
    simp only [this]

theorem clearRun_get : ∀ (b : Bits) (p c q : Nat),
    (clearRun b p c)[q]? = if p ≤ q ∧ q < p + c then b[q]?.map (fun _ => false) else b[q]?
  | [], p, c, q => by simp [clearRun]
  | x :: xs, 0, 0, q => by simp [clearRun]
  | x :: xs, 0, c + 1, 0 => by simp [clearRun]
  | x :: xs, 0, c + 1, q + 1 => by
    simp only [clearRun, List.getElem?_cons_succ, clearRun_get xs 0 c q]
    have : (0 ≤ q + 1 ∧ q + 1 < 0 + (c + 1)) ↔ (0 ≤ q ∧ q < 0 + c) := by omega
    simp only [this]
  | x :: xs, p + 1, c, 0 => by simp [clearRun]
  | x :: xs, p + 1, c, q + 1 => by
    simp only [clearRun, List.getElem?_cons_succ, clearRun_get xs p c q]
    have : (p + 1 ≤ q + 1 ∧ q + 1 < p + 1 + c) ↔ (p ≤ q ∧ q < p + c) := by omega
    simp only [this]

theorem setRun_one_get : ∀ (b : Bits) (p q : Nat),
    (setRun b p 1)[q]? = if q = p then b[q]?.map (fun _ => true) else b[q]? := by
  intro b p q
  have : (p ≤ q ∧ q < p + 1) ↔ q = p := by omega
  simp only [setRun_get, this]

theorem countFree_setRun : ∀ (b : Bits) (p c : Nat), allAre false b p c = true →
    countFree (setRun b p c) + c = countFree b
  | [], _, 0, _ => by simp [setRun]
  | [], _, c + 1, h => by simp [allAre] at h
  | _ :: _, 0, 0, _ => rfl
  | x :: xs, 0, c + 1, h => by
    simp only [allAre, Bool.and_eq_true, beq_iff_eq] at h
    have := countFree_setRun xs 0 c h.2
    simp only [setRun, countFree_cons, h.1]
    simp; omega
  | x :: xs, p + 1, c, h => by
    have := countFree_setRun xs p c (by rwa [allAre_cons_succ] at h)
    simp only [setRun, countFree_cons]; omega

theorem countFree_clearRun : ∀ (b : Bits) (p c : Nat), allAre true b p c = true →
    countFree (clearRun b p c) = countFree b + c
  | [], _, 0, _ => by simp [clearRun]
  | [], _, c + 1, h => by simp [allAre] at h
  | _ :: _, 0, 0, _ => rfl
  | x :: xs, 0, c + 1, h => by
    simp only [allAre, Bool.and_eq_true, beq_iff_eq] at h
    have := countFree_clearRun xs 0 c h.2
    simp only [clearRun, countFree_cons, h.1]
    simp; omega
  | x :: xs, p + 1, c, h => by
    have := countFree_clearRun xs p c (by rwa [allAre_cons_succ] at h)
    simp only [clearRun, countFree_cons]; omega

theorem firstFitAux_spec : ∀ (b : Bits) (pos n : Nat) (rs : Bool) (q : Nat),
    firstFitAux b pos n rs = some q → ∃ k, q = pos + k ∧ allAre false b k n = true
  | [], _, _, _, _, h => by simp [firstFitAux] at h
  | true :: xs, pos, n, _, q, h => by
    obtain ⟨k, hk, ha⟩ := firstFitAux_spec xs (pos + 1) n true q h
    exact ⟨k + 1, by omega, by rwa [allAre_cons_succ]⟩
  | false :: xs, pos, n, rs, q, h => by
    simp only [firstFitAux] at h
    split at h
    · rename_i hc
      cases h
      exact ⟨0, rfl, (Bool.and_eq_true _ _ ▸ hc).2⟩
    · obtain ⟨k, hk, ha⟩ := firstFitAux_spec xs (pos + 1) n false q h
      exact ⟨k + 1, by omega, by rwa [allAre_cons_succ]⟩

theorem fastPickAux_spec : ∀ (groups : List Bits) (g0 n g pos : Nat), 0 < n →
    fastPickAux groups g0 n = some (g, pos) →
    ∃ bm, g0 ≤ g ∧ groups[g - g0]? = some bm ∧ pos + n ≤ bm.length ∧
      ∀ i, pos ≤ i → i < pos + n → bm[i]? = some false
  | [], _, _, _, _, _, h => by simp [fastPickAux] at h
  | b :: bs, g0, n, g, pos, hn, h => by
    simp only [fastPickAux] at h
    split at h
    · rename_i p hp
      cases h
      obtain ⟨k, hk, ha⟩ := firstFitAux_spec b 0 n true pos hp
      obtain rfl : pos = k := by omega
      exact ⟨b, Nat.le_refl _, by simp, allAre_le_length hn ha, (allAre_iff false b pos n).1 ha⟩
    · obtain ⟨bm, hg, hget, h1, h2⟩ := fastPickAux_spec bs (g0 + 1) n g pos hn h
      refine ⟨bm, by omega, ?_, h1, h2⟩
      rw [show g - g0 = (g - (g0 + 1)) + 1 by omega, List.getElem?_cons_succ]
      exact hget

theorem fastPick_spec (groups : List Bits) (n g pos : Nat) (hn : 0 < n)
    (h : fastPick groups n = some (g, pos)) :
    ∃ bm, groups[g]? = some bm ∧ pos + n ≤ bm.length ∧ ∀ i, pos ≤ i → i < pos + n → bm[i]? = some false := by
  obtain ⟨bm, _, hget, h1, h2⟩ := fastPickAux_spec groups 0 n g pos hn h
  exact ⟨bm, by simpa using hget, h1, h2⟩

theorem modifyAt_eq_modify : ∀ (gs : List Group) (i : Nat) (f : Group → Group), modifyAt gs i f = gs.modify i f
  | [], _, _ => by simp [modifyAt]
  | _ :: _, 0, _ => rfl
  | g :: gs, i + 1, f => by simp [modifyAt, modifyAt_eq_modify gs i f]

theorem modifyAt_getElem? (gs : List Group) (i j : Nat) (f : Group → Group) :
    (modifyAt gs i f)[j]? = if j = i then gs[j]?.map f else gs[j]? := by
  rw [modifyAt_eq_modify, List.getElem?_modify]
  by_cases h : i = j
  · simp [h]
  · simp [h, Ne.symm h]

theorem modifyAt_none : ∀ (gs : List Group) (i : Nat) (f : Group → Group), gs[i]? = none → modifyAt gs i f = gs := by
  intro gs i f h
  rw [modifyAt_eq_modify, List.modify_eq_self (List.getElem?_eq_none_iff.1 h)]

theorem modifyAt_mem (gs : List Group) (i : Nat) (f : Group → Group) (g' : Group) (h : g' ∈ modifyAt gs i f) :
    g' ∈ gs ∨ ∃ g, gs[i]? = some g ∧ g' = f g := by
  obtain ⟨j, hj⟩ := List.getElem?_of_mem h
  rw [modifyAt_getElem?] at hj
  split at hj
  · rename_i hji
    subst hji
    cases hg : gs[j]? with
    | none => simp [hg] at hj
    | some g => right; exact ⟨g, rfl, by simpa [hg] using hj.symm⟩
  · exact Or.inl (List.mem_of_getElem? hj)

theorem modifyAt_sum (φ : Group → Nat) : ∀ (gs : List Group) (i : Nat) (f : Group → Group) (g : Group),
    gs[i]? = some g → ((modifyAt gs i f).map φ).sum + φ g = (gs.map φ).sum + φ (f g)
  | [], _, _, _, h => by simp at h
  | g0 :: gs, 0, f, g, h => by
    obtain rfl : g0 = g := by simpa using h
    simp only [modifyAt, List.map_cons, List.sum_cons]; omega
  | g0 :: gs, i + 1, f, g, h => by
    have := modifyAt_sum φ gs i f g (by simpa using h)
    simp only [modifyAt, List.map_cons, List.sum_cons]; omega

theorem map_modifyAt {β : Type} (φ : Group → β) (f : Group → Group) (hf : ∀ g, φ (f g) = φ g) (gs : List Group)
    (i : Nat) : (modifyAt gs i f).map φ = gs.map φ := by
  apply List.ext_getElem?
  intro j
  simp only [List.getElem?_map, modifyAt_getElem?]
  split
  · cases gs[j]? <;> simp [hf]
  · rfl

/-- `AccInv` in the middle of an operation: the groups are right, and the superblock's free-block counter lags
    behind their sum, `sb + a = Σ groups + b` (`a`: blocks Remove has released in the groups and not yet added to
    the superblock, `b`: blocks allocateExtents has marked and not yet subtracted); `AccInv` is `Inv2 s 0 0` -/
def Inv2 (s : Acc) (a b : Nat) : Prop :=
  (∀ g ∈ s.groups, GroupInv g) ∧
  s.sbFreeBlocks + a = (s.groups.map (·.freeBlocks)).sum + b ∧
  s.sbFreeInodes = (s.groups.map (·.freeInodes)).sum

theorem accInv_iff (s : Acc) : AccInv s ↔ Inv2 s 0 0 := by
  simp [AccInv, Inv2]

/-- the step every operation is made of: one group `g` is replaced by `f g`, which has its counters right, and the
    superblock counters (with their lags) move by what the group's counters moved; `t`, `t'` stand for the sums
    over the groups before and after -/
theorem inv2_modify {s s' : Acc} {i : Nat} {f : Group → Group} {g : Group} {a b a' b' : Nat}
    (hget : s.groups[i]? = some g) (hs' : s'.groups = modifyAt s.groups i f) (hf : GroupInv (f g))
    (hi : Inv2 s a b)
    (hblk : ∀ t t', s.sbFreeBlocks + a = t + b → t' + g.freeBlocks = t + (f g).freeBlocks →
      s'.sbFreeBlocks + a' = t' + b')
    (hino : ∀ t t', s.sbFreeInodes = t → t' + g.freeInodes = t + (f g).freeInodes → s'.sbFreeInodes = t') :
    Inv2 s' a' b' := by
  obtain ⟨hg, hb, hn⟩ := hi
  refine ⟨?_, by rw [hs']; exact hblk _ _ hb (modifyAt_sum (·.freeBlocks) s.groups i f g hget),
    by rw [hs']; exact hino _ _ hn (modifyAt_sum (·.freeInodes) s.groups i f g hget)⟩
  intro g' hg'
  rw [hs'] at hg'
  rcases modifyAt_mem _ _ _ _ hg' with h | ⟨g0, h1, rfl⟩
  · exact hg g' h
  · rw [hget] at h1; cases h1; exact hf

theorem runFree_iff (s : Acc) (r : Run) :
    runFree s r = true ↔ ∃ g, s.groups[r.1]? = some g ∧ allAre false g.bbm r.2.1 r.2.2 = true := by
  unfold runFree
  cases s.groups[r.1]? <;> simp

theorem runUsed_iff (s : Acc) (r : Run) :
    runUsed s r = true ↔ ∃ g, s.groups[r.1]? = some g ∧ allAre true g.bbm r.2.1 r.2.2 = true := by
  unfold runUsed
  cases s.groups[r.1]? <;> simp

theorem markRun_inv (s : Acc) (r : Run) (a b : Nat) (hi : Inv2 s a b) (hf : runFree s r = true) :
    Inv2 (markRun s r) a (b + r.2.2) := by
  obtain ⟨g, hget, hf⟩ := (runFree_iff s r).1 hf
  have hgi := hi.1 g (List.mem_of_getElem? hget)
  have hcf := countFree_setRun g.bbm r.2.1 r.2.2 hf
  exact inv2_modify hget rfl ⟨by simp only; rw [hgi.1]; omega, hgi.2⟩ hi
    (fun t t' h1 h2 => by simp only [markRun] at h2 ⊢; have := hgi.1; omega)
    (fun t t' h1 h2 => by simp only [markRun] at h2 ⊢; omega)

theorem markRuns_inv : ∀ (rs : List Run) (s : Acc) (a b : Nat), Inv2 s a b → runsOK s rs = true →
    Inv2 (rs.foldl markRun s) a (b + (rs.map (·.2.2)).sum)
  | [], _, _, _, h, _ => by simpa using h
  | r :: rs, s, a, b, h, hok => by
    simp only [runsOK, Bool.and_eq_true] at hok
    have := markRuns_inv rs (markRun s r) a (b + r.2.2) (markRun_inv s r a b h hok.1) hok.2
    simpa [Nat.add_assoc] using this

theorem foldl_markRun_sb : ∀ (l : List Run) (t : Acc), (l.foldl markRun t).sbFreeBlocks = t.sbFreeBlocks
  | [], _ => rfl
  | r :: l, t => by rw [List.foldl_cons, foldl_markRun_sb l]; rfl

theorem allocExtents_ok {s : Acc} {n : Nat} {c : Option (List Run)} {s' : Acc} (h : allocExtents s n c = .ok s') :
    ∃ rs, c = some rs ∧ n ≤ s.sbFreeBlocks ∧ runsOK s rs = true ∧ (rs.map (·.2.2)).sum = n ∧
      s' = { rs.foldl markRun s with sbFreeBlocks := (rs.foldl markRun s).sbFreeBlocks - n } := by
  unfold allocExtents at h
  split at h
  · cases h
  · rename_i hfree
    split at h
    · cases h
    · rename_i rs
      split at h
      · rename_i hc
        simp only [Bool.and_eq_true, beq_iff_eq] at hc
        cases h
        exact ⟨rs, rfl, by omega, hc.1, hc.2, rfl⟩
      · cases h

theorem allocExtents_refused {s : Acc} {n : Nat} {c : Option (List Run)} {s' : Acc}
    (h : allocExtents s n c = .refused s') : s' = s := by
  unfold allocExtents at h
  split at h
  · cases h; rfl
  · split at h
    · cases h; rfl
    · split at h
      · cases h
      · cases h; rfl

theorem allocExtents_inv (s : Acc) (n : Nat) (choice : Option (List Run)) (h : AccInv s) :
    AccInv (allocExtents s n choice).state := by
  cases hr : allocExtents s n choice with
  | refused s' => rw [allocExtents_refused hr]; exact h
  | ok s' =>
    obtain ⟨rs, _, _, hok, hsum, rfl⟩ := allocExtents_ok hr
    obtain ⟨hg, hb, hi⟩ := markRuns_inv rs s 0 0 ((accInv_iff s).1 h) hok
    rw [hsum] at hb
    exact ⟨hg, by simp only [Res.state]; omega, hi⟩

theorem unmarkRun_inv (s : Acc) (r : Run) (h : AccInv s) (hu : runUsed s r = true) : AccInv (unmarkRun s r) := by
  obtain ⟨g, hget, hu⟩ := (runUsed_iff s r).1 hu
  have hgi := h.1 g (List.mem_of_getElem? hget)
  have hcf := countFree_clearRun g.bbm r.2.1 r.2.2 hu
  exact (accInv_iff _).2 (inv2_modify hget rfl ⟨by simp only; rw [hgi.1]; omega, hgi.2⟩ ((accInv_iff s).1 h)
    (fun t t' h1 h2 => by simp only [unmarkRun] at h2 ⊢; omega)
    (fun t t' h1 h2 => by simp only [unmarkRun] at h2 ⊢; omega))

theorem unmarkRuns_inv : ∀ (rs : List Run) (s : Acc), AccInv s → runsUsed s rs = true →
    AccInv (rs.foldl unmarkRun s)
  | [], _, h, _ => h
  | r :: rs, s, h, hok => by
    simp only [runsUsed, Bool.and_eq_true] at hok
    exact unmarkRuns_inv rs (unmarkRun s r) (unmarkRun_inv s r h hok.1) hok.2

theorem deallocExtents_inv (s : Acc) (rs : List Run) (h : AccInv s) : AccInv (deallocExtents s rs).state := by
  unfold deallocExtents
  split
  · rename_i hc; exact unmarkRuns_inv rs s h hc
  · exact h

theorem firstClear_spec : ∀ (b : Bits) (p q : Nat), firstClear b p = some q →
    ∃ k, q = p + k ∧ allAre false b k 1 = true
  | [], _, _, h => by simp [firstClear] at h
  | false :: _, p, q, h => by simp only [firstClear] at h; cases h; exact ⟨0, rfl, by simp [allAre]⟩
  | true :: xs, p, q, h => by
    obtain ⟨k, hk, ha⟩ := firstClear_spec xs (p + 1) q h
    exact ⟨k + 1, by omega, by rwa [allAre_cons_succ]⟩

theorem pickInode_spec : ∀ (gs : List Group) (i0 gi p : Nat), pickInode gs i0 = some (gi, p) →
    ∃ g, i0 ≤ gi ∧ gs[gi - i0]? = some g ∧ allAre false g.ibm p 1 = true
  | [], _, _, _, h => by simp [pickInode] at h
  | g :: gs, i0, gi, p, h => by
    simp only [pickInode] at h
    split at h
    · rename_i q hq
      cases h
      obtain ⟨k, hk, ha⟩ := firstClear_spec g.ibm 0 p hq
      obtain rfl : p = k := by omega
      exact ⟨g, Nat.le_refl _, by simp, ha⟩
    · obtain ⟨g', h1, h2, h3⟩ := pickInode_spec gs (i0 + 1) gi p h
      refine ⟨g', by omega, ?_, h3⟩
      rw [show gi - i0 = (gi - (i0 + 1)) + 1 by omega, List.getElem?_cons_succ]; exact h2

theorem allocInode_inv (s : Acc) (isDir : Bool) (h : AccInv s) : AccInv (allocInode s isDir).state := by
  unfold allocInode
  split
  · exact h
  · rename_i gi p hp
    obtain ⟨g, _, hget, ha⟩ := pickInode_spec s.groups 0 gi p hp
    have hgi := h.1 g (List.mem_of_getElem? hget)
    have hcf := countFree_setRun g.ibm p 1 ha
    exact (accInv_iff _).2 (inv2_modify hget rfl ⟨hgi.1, by simp only; rw [hgi.2]; omega⟩ ((accInv_iff s).1 h)
      (fun t t' h1 h2 => by simp only [Res.state] at h2 ⊢; omega)
      (fun t t' h1 h2 => by simp only [Res.state] at h2 ⊢; have := hgi.2; omega))

theorem freeBlock_fixed (geo : Geom) (s : Acc) (b : Nat) :
    freeBlock true geo s b = { s with groups := modifyAt s.groups ((b - geo.fdb) / geo.bpg) fun g =>
      { g with bbm := clearRun g.bbm ((b - geo.fdb) % geo.bpg) 1, freeBlocks := g.freeBlocks + 1 } } := by
  simp only [freeBlock, if_true, Nat.mod_def]

/-- releasing one marked block: the group counter follows its bitmap; the superblock counter is updated only at
    the end of Remove, so it lags by one more -/
theorem freeBlock_inv (geo : Geom) (s : Acc) (b a c : Nat) (hi : Inv2 s a c) (hm : blockMarked geo s b = true) :
    Inv2 (freeBlock true geo s b) (a + 1) c := by
  simp only [blockMarked, Bool.and_eq_true] at hm
  obtain ⟨g, hget, hu⟩ := (runUsed_iff s _).1 hm.2
  have hgi := hi.1 g (List.mem_of_getElem? hget)
  have hcf := countFree_clearRun g.bbm ((b - geo.fdb) % geo.bpg) 1 hu
  rw [freeBlock_fixed]
  exact inv2_modify hget rfl ⟨by simp only; rw [hgi.1]; omega, hgi.2⟩ hi
    (fun t t' h1 h2 => by simp only at h2 ⊢; omega) (fun t t' h1 h2 => by simp only at h2 ⊢; omega)

theorem freeBlocks_inv (geo : Geom) : ∀ (blocks : List Nat) (s : Acc) (a c : Nat), Inv2 s a c →
    blocksMarked geo s blocks = true → Inv2 (blocks.foldl (freeBlock true geo) s) (a + blocks.length) c
  | [], _, _, _, h, _ => by simpa using h
  | b :: bs, s, a, c, h, hm => by
    simp only [blocksMarked, Bool.and_eq_true] at hm
    have := freeBlocks_inv geo bs (freeBlock true geo s b) (a + 1) c (freeBlock_inv geo s b a c h hm.1) hm.2
    simpa [Nat.add_assoc, Nat.add_comm 1] using this

theorem freeBlocks_frame (fixed : Bool) (geo : Geom) : ∀ (blocks : List Nat) (s : Acc),
    (blocks.foldl (freeBlock fixed geo) s).sbFreeBlocks = s.sbFreeBlocks ∧
    (blocks.foldl (freeBlock fixed geo) s).sbFreeInodes = s.sbFreeInodes ∧
    (blocks.foldl (freeBlock fixed geo) s).groups.map (·.ibm) = s.groups.map (·.ibm)
  | [], _ => ⟨rfl, rfl, rfl⟩
  | b :: bs, s => by
    obtain ⟨h1, h2, h3⟩ := freeBlocks_frame fixed geo bs (freeBlock fixed geo s b)
    refine ⟨h1, h2, h3.trans ?_⟩
    simp only [freeBlock]
    apply map_modifyAt
    intro g; rfl

theorem removeInode_fixed (geo : Geom) (s : Acc) (ino : Nat) (blocks : List Nat) (b512 : Nat) (isDir : Bool) :
    removeInode true geo s ino blocks b512 isDir =
      { freeInodeAt (blocks.foldl (freeBlock true geo) s) ((ino - 1) / geo.ipg) ((ino - 1) % geo.ipg) isDir with
        sbFreeBlocks := (blocks.foldl (freeBlock true geo) s).sbFreeBlocks + blocks.length } := by
  simp only [removeInode, freeInodeAt, if_true, Nat.mod_def, Nat.add_zero]

/-- the inode's bit, in terms of the list of inode bitmaps (which releasing blocks leaves alone) -/
theorem inodeMarked_iff (geo : Geom) (s : Acc) (ino : Nat) :
    inodeMarked geo s ino = true ↔ 1 ≤ ino ∧ ∃ b, (s.groups.map (·.ibm))[(ino - 1) / geo.ipg]? = some b ∧
      allAre true b ((ino - 1) % geo.ipg) 1 = true := by
  unfold inodeMarked
  rw [List.getElem?_map]
  cases s.groups[(ino - 1) / geo.ipg]? <;> simp

theorem removeInode_fixed_inv (geo : Geom) (s : Acc) (ino : Nat) (blocks : List Nat) (b512 : Nat) (isDir : Bool)
    (h : AccInv s) (hb : blocksMarked geo s blocks = true) (hi : inodeMarked geo s ino = true) :
    AccInv (removeInode true geo s ino blocks b512 isDir) := by
  have h1 := freeBlocks_inv geo blocks s 0 0 ((accInv_iff s).1 h) hb
  -- the inode's bit is still set after the blocks were released
  rw [inodeMarked_iff, ← (freeBlocks_frame true geo blocks s).2.2] at hi
  rw [removeInode_fixed]
  generalize blocks.foldl (freeBlock true geo) s = s1 at h1 hi ⊢
  obtain ⟨_, b, hget, hi2⟩ := hi
  rw [List.getElem?_map, Option.map_eq_some_iff] at hget
  obtain ⟨g, hget, rfl⟩ := hget
  have hgi := h1.1 g (List.mem_of_getElem? hget)
  have hcf := countFree_clearRun g.ibm _ 1 hi2
  exact (accInv_iff _).2 (inv2_modify hget rfl ⟨hgi.1, by simp only; rw [hgi.2]; omega⟩ h1
    (fun t t' h1 h2 => by simp only at h2 ⊢; omega)
    (fun t t' h1 h2 => by simp only [freeInodeAt] at h2 ⊢; omega))

theorem removeOp_inv (geo : Geom) (s : Acc) (ino : Nat) (blocks : List Nat) (isDir : Bool) (h : AccInv s) :
    AccInv (removeOp geo s ino blocks isDir).state := by
  unfold removeOp
  split
  · rename_i hc
    simp only [Bool.and_eq_true] at hc
    exact removeInode_fixed_inv geo s ino blocks 0 isDir h hc.1 hc.2
  · exact h

theorem deallocBlock_fixed (geo : Geom) (s : Acc) (b : Nat) :
    deallocBlock true geo s b = unmarkRun s ((b - geo.fdb) / geo.bpg, (b - geo.fdb) % geo.bpg, 1) := by
  have hidx : b - (geo.fdb + (b - geo.fdb) / geo.bpg * geo.bpg) = (b - geo.fdb) % geo.bpg := by
    rw [Nat.mod_def, Nat.mul_comm]; omega
  simp only [deallocBlock, if_true, unmarkRun, hidx]

theorem deallocBlocks_fixed_inv (geo : Geom) : ∀ (blocks : List Nat) (s : Acc), AccInv s →
    blocksMarkedD geo s blocks = true → AccInv (deallocBlocks true geo s blocks)
  | [], _, h, _ => h
  | b :: bs, s, h, hm => by
    simp only [blocksMarkedD, blockMarked, Bool.and_eq_true] at hm
    refine deallocBlocks_fixed_inv geo bs _ ?_ hm.2
    rw [deallocBlock_fixed]
    exact unmarkRun_inv s _ h hm.1.2

/-- the arithmetic as found is the repaired one when the first data block is 1 (1 KiB blocks) -/
theorem deallocBlock_asfound_eq (geo : Geom) (s : Acc) (b : Nat) (h : geo.fdb = 1) :
    deallocBlock false geo s b = deallocBlock true geo s b := by
  simp [deallocBlock, h]

theorem freeBlocksOp_inv (geo : Geom) (s : Acc) (blocks : List Nat) (h : AccInv s) :
    AccInv (freeBlocksOp geo s blocks).state := by
  unfold freeBlocksOp
  split
  · rename_i hc; exact deallocBlocks_fixed_inv geo blocks s h hc
  · exact h

theorem deallocBlocks_sb (fixed : Bool) (geo : Geom) : ∀ (bs : List Nat) (s : Acc),
    (deallocBlocks fixed geo s bs).sbFreeBlocks = s.sbFreeBlocks + bs.length
  | [], _ => rfl
  | b :: bs, s => by
    have := deallocBlocks_sb fixed geo bs (deallocBlock fixed geo s b)
    simp only [deallocBlocks, List.foldl_cons, List.length_cons] at this ⊢
    rw [this]; simp only [deallocBlock]; omega

end Diskfs.Ext4.Alloc

/-! ### the shape of a state: the lengths of its bitmaps, which no operation changes

  Kept in the namespace of the range theorem (Proofs/Ext4Range.lean): its `LenInv`, and `WF` of the ownership layer,
  are read off the shape. -/
namespace Diskfs.Ranges.Ext4
open Diskfs.Ext4.Alloc

def shape (s : Acc) : List (Nat × Nat) := s.groups.map fun g => (g.bbm.length, g.ibm.length)

theorem shape_markRun (s : Acc) (r : Run) : shape (markRun s r) = shape s := by
  unfold shape markRun
  exact map_modifyAt _ _ (by intro g; simp [setRun_length]) _ _

theorem shape_foldl {α : Type} (f : Acc → α → Acc) (h : ∀ s x, shape (f s x) = shape s) :
    ∀ (xs : List α) (s : Acc), shape (xs.foldl f s) = shape s
  | [], _ => rfl
  | x :: xs, s => (shape_foldl f h xs (f s x)).trans (h s x)

theorem shape_allocExtents (s : Acc) (n : Nat) (c : Option (List Run)) : shape (allocExtents s n c).state = shape s := by
  unfold allocExtents
  split
  · rfl
  · split
    · rfl
    · split
      · simp only [Res.state]
        show shape (List.foldl markRun s _) = _
        exact shape_foldl markRun shape_markRun _ _
      · rfl

theorem shape_allocInode (s : Acc) (d : Bool) : shape (allocInode s d).state = shape s := by
  unfold allocInode
  split
  · rfl
  · simp only [Res.state]
    unfold shape
    exact map_modifyAt _ _ (by intro g; simp [setRun_length]) _ _

theorem shape_freeBlock (geo : Geom) (s : Acc) (b : Nat) : shape (freeBlock true geo s b) = shape s := by
  unfold shape freeBlock
  exact map_modifyAt _ _ (by intro g; simp [clearRun_length]) _ _

theorem shape_removeOp (geo : Geom) (s : Acc) (ino : Nat) (blocks : List Nat) (d : Bool) :
    shape (removeOp geo s ino blocks d).state = shape s := by
  unfold removeOp
  split
  · simp only [Res.state, removeInode, if_true]
    rw [← shape_foldl _ (shape_freeBlock geo) blocks s]
    unfold shape
    exact map_modifyAt _ _ (by intro g; simp [clearRun_length]) _ _
  · rfl

end Diskfs.Ranges.Ext4
