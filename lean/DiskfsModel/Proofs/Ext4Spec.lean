/-
  The SPEC reader of ext4 (Model/Ext4/SpecNode, SpecTree, SpecGeom) against the mirror:
    * the sequential node decoder against the mirror's `parseNode`, entry by entry (chunkMap_eq)
    * what searching the extent tree from the root per logical block (SpecTree.lean) finds on a decoded tree
      (`specG`), and that decoding the children of an index node leaves the choice of child alone (pick_mapRes)
    * what the validity checks of ext4.Read say about the geometry (readAccepts_fields)
-/
import DiskfsModel.Proofs.Ext4Reader
import DiskfsModel.Model.Ext4.SpecNode
import DiskfsModel.Model.Ext4.SpecTree
import DiskfsModel.Model.Ext4.SpecGeom
namespace Diskfs.Ext4.Spec
open Diskfs Diskfs.Ext4.Reader

theorem chunk_field (b : Bytes) (o a w : Nat) (h : a + w ≤ 12) :
    (((b.drop o).take 12).drop a).take w = slice b (o + a) (o + a + w) := by
  unfold slice
  rw [take_drop_take _ _ _ _ h, List.drop_drop, Nat.add_sub_cancel_left]

theorem leafOfChunk_eq (b : Bytes) (i : Nat) :
    leafOfChunk ((b.drop (12 + 12 * i)).take 12) = leafEntry b i := by
  have h0 := chunk_field b (12 + 12 * i) 0 4 (by decide)
  rw [List.drop_zero, Nat.add_zero] at h0
  simp (disch := decide) only [leafOfChunk, leafEntry, le32, le16, h0, chunk_field]

theorem indexOfChunk_eq (b : Bytes) (i : Nat) :
    indexOfChunk ((b.drop (12 + 12 * i)).take 12) = indexEntry b i := by
  have h0 := chunk_field b (12 + 12 * i) 0 4 (by decide)
  rw [List.drop_zero, Nat.add_zero] at h0
  simp (disch := decide) only [indexOfChunk, indexEntry, le32, le16, h0, chunk_field]

theorem chunkMap_eq {α : Type} (f : Bytes → α) (g : Nat → α) (b : Bytes)
    (hfg : ∀ i, f ((b.drop (12 + 12 * i)).take 12) = g i) :
    ∀ (n k : Nat), chunkMap f n (b.drop (12 + 12 * k)) = (List.range n).map (fun i => g (k + i)) := by
  intro n
  induction n with
  | zero => intro k; simp [chunkMap]
  | succ n ih =>
    intro k
    rw [chunkMap, hfg k, List.drop_drop, List.range_succ_eq_map, List.map_cons, List.map_map]
    have : 12 + 12 * k + 12 = 12 + 12 * (k + 1) := by omega
    rw [this, ih (k + 1)]
    simp only [Nat.add_zero, List.cons.injEq, true_and]
    apply List.map_congr_left
    intro i _
    simp only [Function.comp, Nat.succ_eq_add_one]
    congr 1
    omega

theorem childLookup_pick {α : Type} (look : α → Nat → Option Nat) : ∀ (cs : List (Nat × α)) (lb : Nat),
    childLookup look cs lb = (match pickChild cs lb with | some t => look t lb | none => none)
  | [], lb => by simp [childLookup, pickChild]
  | [(k, t)], lb => by
    simp only [childLookup, pickChild]
    split <;> rfl
  | (k, t) :: (k', t') :: rest, lb => by
    simp only [childLookup, pickChild]
    split
    · rfl
    · exact childLookup_pick look ((k', t') :: rest) lb

/-- what the search finds on a decoded tree -/
def specG {α : Type} (look : List Extent → Nat → α) : (d : Nat) → TreeD d → Nat → α
  | 0, es, lb => look es lb
  | _ + 1, Sum.inl es, lb => look es lb
  | d + 1, Sum.inr cs, lb =>
    match pickChild cs lb with
    | some t => specG look d t lb
    | none => look [] lb

theorem specG_leafLookup : ∀ (d : Nat) (t : TreeD d) (lb : Nat), specG leafLookup d t lb = specLookup d t lb := by
  intro d
  induction d with
  | zero => intro t lb; rfl
  | succ d ih =>
    intro t lb
    cases t with
    | inl es => rfl
    | inr cs =>
      simp only [specG, specLookup]
      rw [childLookup_pick]
      cases pickChild cs lb with
      | none => simp [leafLookup]
      | some t => exact ih t lb

theorem child_ok {β : Type} (rd : Nat → Option Bytes) (dec : Bytes → Res β) (c : Nat × Nat) (y : Nat × β)
    (h : (match rd c.2 with
      | none => (Res.err : Res (Nat × β))
      | some cb => (dec cb).map fun t => (c.1, t)) = .ok y) :
    ∃ cb, rd c.2 = some cb ∧ dec cb = .ok y.2 ∧ y.1 = c.1 := by
  split at h
  · cases h
  · rename_i cb hr
    obtain ⟨t, ht, rfl⟩ := (map_ok _ _ _).1 h
    exact ⟨cb, hr, ht, rfl⟩

theorem pick_mapRes {β : Type} (rd : Nat → Option Bytes) (dec : Bytes → Res β) :
    ∀ (raw : List (Nat × Nat)) (cs : List (Nat × β)),
      mapRes (fun c => match rd c.2 with
        | none => (Res.err : Res (Nat × β))
        | some cb => (dec cb).map fun t => (c.1, t)) raw = .ok cs → ∀ lb,
      (pickChild raw lb = none → pickChild cs lb = none) ∧
      (∀ blk, pickChild raw lb = some blk → ∃ cb t, rd blk = some cb ∧ dec cb = .ok t ∧ pickChild cs lb = some t)
  | [], cs, h, lb => by
    cases h
    simp [pickChild]
  | [c], cs, h, lb => by
    obtain ⟨y, ys, hy, hys, rfl⟩ := (mapRes_ok_cons _ c [] cs).1 h
    cases hys
    obtain ⟨cb, hr, hd, hk⟩ := child_ok rd dec c y hy
    obtain ⟨k, blk⟩ := c
    obtain ⟨k2, t⟩ := y
    cases hk
    by_cases hp : k ≤ lb
    · rw [pickChild, pickChild, if_pos hp, if_pos hp]
      exact ⟨nofun, fun _ h => Option.some.inj h ▸ ⟨cb, t, hr, hd, rfl⟩⟩
    · rw [pickChild, pickChild, if_neg hp, if_neg hp]
      exact ⟨fun _ => rfl, nofun⟩
  | c :: c' :: rest, cs, h, lb => by
    obtain ⟨y, ys, hy, hys, rfl⟩ := (mapRes_ok_cons _ c (c' :: rest) cs).1 h
    obtain ⟨y', ys', hy', _, rfl⟩ := (mapRes_ok_cons _ c' rest ys).1 hys
    have ih := pick_mapRes rd dec (c' :: rest) (y' :: ys') hys lb
    obtain ⟨cb, hr, hd, hk⟩ := child_ok rd dec c y hy
    obtain ⟨_, _, _, hk'⟩ := child_ok rd dec c' y' hy'
    obtain ⟨k, blk⟩ := c
    obtain ⟨k2, t⟩ := y
    obtain ⟨k', blk'⟩ := c'
    obtain ⟨k2', t'⟩ := y'
    cases hk
    cases hk'
    by_cases hp : k ≤ lb ∧ lb < k'
    · rw [pickChild, pickChild, if_pos hp, if_pos hp]
      exact ⟨nofun, fun _ h => Option.some.inj h ▸ ⟨cb, t, hr, hd, rfl⟩⟩
    · rw [pickChild, pickChild, if_neg hp, if_neg hp]
      exact ih

theorem readAccepts_fields (g : Geo) (size : Nat) (h : readAccepts g size = true) :
    0 < g.blocksPerGroup ∧ 0 < g.inodesPerGroup ∧ 32 ≤ g.gdSize ∧ (g.is64 = true → 64 ≤ g.gdSize) ∧
    128 ≤ g.inodeSize ∧ g.inodeSize ≤ g.blockSize ∧ 0 < g.gdSize * g.groupsGo ∧
    (0 < size → g.gdSize * g.groupsGo ≤ size ∧ g.blockCount ≤ size / g.blockSize + 1) := by
  unfold readAccepts at h
  simp only [Bool.and_eq_true, Bool.not_eq_true', Bool.or_eq_false_iff, beq_eq_false_iff_ne, ne_eq,
    decide_eq_false_iff_not, Nat.not_lt, Bool.and_eq_false_imp, decide_eq_true_eq, Nat.not_lt] at h
  obtain ⟨⟨⟨⟨⟨⟨h1, h2⟩, h3, h4⟩, h5, h6⟩, h7⟩, h8⟩, h9⟩ := h
  refine ⟨by omega, by omega, h3, ?_, h5, by omega, by omega, ?_⟩
  · intro hi; have := h4 hi; omega
  · intro hs; exact ⟨by have := h8 hs; omega, by have := h7 hs; omega⟩

end Diskfs.Ext4.Spec
