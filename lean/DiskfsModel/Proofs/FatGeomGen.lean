/-
  Geometry theorems instantiated for the REGENERATED cluster-size tables (Generated/Fat.lean):
  `decide` discharges the table well-formedness predicates of Proofs/FatGeomP.lean, the theorems
  themselves are the parametric ones.  Plus concrete values (by `decide`) that document the
  repaired and the former FAT sizing, and the family of sizes at which the as-found FAT32 formula
  leaves the FAT two entries short.  Nothing here hard-codes a table threshold.
-/
import DiskfsModel.Proofs.FatGeomP12
import DiskfsModel.Proofs.FatGeomP32
import DiskfsModel.Generated.Fat
namespace Diskfs.Fat

theorem fat12_table_wf : ClusterTableWF spcAllowed Generated.Fat.fat12_spc_table = true := by decide

theorem fat16_table_wf : ClusterTableWF spcAllowed Generated.Fat.fat16_spc_table = true := by decide

theorem fat32_table_wf : ClusterTableWF32 Generated.Fat.fat32_clusterBytes_table = true := by decide

theorem mkGeom12_wf (size : Nat) (g : Geom)
    (h : mkGeom12 Generated.Fat.fat12_spc_table size = some g) :
    g.WF size ∧ g.kind = .f12 ∧ g.clusters < 4085 :=
  mkGeom12_wf_tbl _ fat12_table_wf size g h

theorem mkGeom16_wf (size : Nat) (g : Geom)
    (h : mkGeom16 Generated.Fat.fat16_spc_table size = some g) :
    g.WF size ∧ g.kind = .f16 ∧ 4085 ≤ g.clusters ∧ g.clusters < 65525 :=
  mkGeom16_wf_tbl _ fat16_table_wf size g h

/-- with the repaired formula the full `WF` (including `fat_holds`) holds.  The bound for 512-byte
    sectors is the exact one (`mkGeom32Fixed_bound_tight`): 274940771839 = 256.06 GiB. -/
theorem mkGeom32Fixed_wf (size bs : Nat) (g : Geom)
    (hmax : size ≤ 274940771839 ∨ bs = 4096)
    (h : mkGeom32Fixed Generated.Fat.fat32_clusterBytes_table size bs = some g) :
    g.WF size ∧ g.kind = .f32 :=
  mkGeom32Fixed_wf_tbl _ fat32_table_wf size bs g hmax h

/-- moving a threshold harmlessly keeps the predicate, and with it every theorem (harmful edits fail it:
    `C08.table_predicate_discriminates`) -/
theorem table_harmless_edit :
    ClusterTableWF spcAllowed [(2097153, 1), (4194305, 2), (8388609, 4), (16777217, 8), (33554433, 16), (67108865, 32), (0, 64)] = true ∧
    ClusterTableWF32 [(134217729, 512), (8589934593, 4096), (17179869185, 8192), (34359738369, 16384), (0, 32768)] = true := by
  decide

/-- smallest 512-byte-sector size with a short FAT: 161 sectors, 1 FAT sector = 128 entries,
    127 clusters (129 entries needed) -/
theorem cex_mkGeom32_fat_short :
    (mkGeom32 Generated.Fat.fat32_clusterBytes_table 82432 512).map
      (fun g => (g.fatSectors, g.fatEntries, g.clusters)) = some (1, 128, 127) := by decide

/-- same with 4096-byte sectors: 1057 sectors, 1024 entries, 1023 clusters -/
theorem cex_mkGeom32_fat_short_4k :
    (mkGeom32 Generated.Fat.fat32_clusterBytes_table 4329472 4096).map
      (fun g => (g.fatSectors, g.fatEntries, g.clusters)) = some (1, 1024, 1023) := by decide

/-- above 256 GiB (512-byte sectors) the uint16 `sectorsPerFat` wraps -/
theorem cex_mkGeom32_300GiB :
    (mkGeom32 Generated.Fat.fat32_clusterBytes_table (300 * GB) 512).map
      (fun g => decide (g.fatEntries < g.clusters + 2)) = some true := by decide

theorem mkGeom32Fixed_bound_tight :
    (mkGeom32Fixed Generated.Fat.fat32_clusterBytes_table 274940771840 512).map
      (fun g => (g.fatSectors, decide (g.fatEntries < g.clusters + 2))) = some (0, true) := by decide

/-- the 161-sector volume of `cex_mkGeom32_fat_short` with the repaired formula: two FAT sectors -/
theorem mkGeom32Fixed_values :
    (mkGeom32Fixed Generated.Fat.fat32_clusterBytes_table 82432 512).map
      (fun g => (g.fatSectors, g.fatEntries, g.clusters)) = some (2, 256, 125) := by decide

/-! ### the FAT sizing used before "fix: fat12/fat16: size the FAT for the two reserved entries" -/

def mkGeom12Old (tbl : List (Nat × Nat)) (size : Nat) : Option Geom :=
  if size > 128 * MB then none
  else if size < 512 * 4 then none
  else
    let ts := u32 (size / 512)
    let spc := u8 (sizeTableLookup tbl size)
    let rootEntries := if size ≤ 512 * KB then 112 else 224
    let rds := (rootEntries * 32 + 511) / 512
    let ds := sub32 (sub32 ts 1) rds
    let nc := ds / spc
    let spf := u16 (sub32 (u32 (u32 (u32 (nc * 3) / 2) + 512)) 1 / 512)
    let ds2 := sub32 (sub32 (sub32 ts 1) rds) (u32 (2 * spf))
    let nc2 := ds2 / spc
    if nc2 ≥ 4085 then none
    else some ⟨.f12, 512, spc, 1, spf, rootEntries, ts⟩

/-- 32 MiB + 512: the old sizing gives 2048 FAT entries for 2047 clusters (2049 needed) -/
theorem cex_fatsize_old :
    (mkGeom12Old Generated.Fat.fat12_spc_table 33554944).map
      (fun g => decide (g.fatEntries < g.clusters + 2)) = some true := by decide

theorem cex_fatsize_old_values :
    (mkGeom12Old Generated.Fat.fat12_spc_table 33554944).map
      (fun g => (g.fatEntries, g.clusters + 2)) = some (2048, 2049) := by decide

theorem fatsize_new_values :
    (mkGeom12 Generated.Fat.fat12_spc_table 33554944).map
      (fun g => (g.fatEntries, g.clusters + 2)) = some (2389, 2049) := by decide

/-- as found the FAT is short of the two reserved entries for a whole family of sizes: whenever the
    table assigns 512-byte clusters, 32 + 130·k sectors give 128·k clusters and 128·k entries -/
theorem mkGeom32_fat_short_family (tbl : List (Nat × Nat)) (k r : Nat) (hk1 : 1 ≤ k) (hk2 : k ≤ 4095) (hr : r < 512)
    (hl : sizeTableLookup tbl ((32 + 130 * k) * 512 + r) = 512) :
    mkGeom32 tbl ((32 + 130 * k) * 512 + r) 512 = some ⟨.f32, 512, 1, 32, k, 0, 32 + 130 * k⟩ := by
  have hts : ((32 + 130 * k) * 512 + r) / 512 = 32 + 130 * k := by omega
  unfold mkGeom32
  simp only [ite_none_eq_some, hl, hts, Option.some.injEq, u8, Nat.reduceDiv, Nat.reduceMod,
    Nat.reduceEqDiff, ↓reduceIte]
  have e0 : u32 (32 + 130 * k) = 32 + 130 * k := u32_of_lt (by omega)
  have ed : u32 (u32 512 * 1 + 8) = 520 := by decide
  have es0 : u16 (sub32 (u32 (u32 (4 * (32 + 130 * k - 32)) + 520)) 1 / 520) = k := by
    rw [u32_of_lt (x := 4 * (32 + 130 * k - 32)) (by omega), u32_of_lt (x := 4 * (32 + 130 * k - 32) + 520) (by omega),
      sub32_of_le (by omega) (by omega), u16_of_lt (by omega)]
    omega
  rw [e0, ed, sub32_of_le (a := 32 + 130 * k) (b := 32) (by omega) (by omega), es0]
  refine ⟨by decide, by simp only [fat32MaxSize]; omega, by omega, by omega, ?_, ?_, rfl⟩
  · simp only [u32]; omega
  · simp only [KB]; omega

end Diskfs.Fat
