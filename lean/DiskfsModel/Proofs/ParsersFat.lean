/-
  C18 parsers — FAT `CheckGeometry` and the arithmetic of fat12/fat16/fat32 `Read` behind it.
-/
import DiskfsModel.Proofs.ParsersBase
namespace Diskfs.Parsers.Fat
open Diskfs.Parsers Out

theorem u32_of_lt {n : Nat} (h : n < 4294967296) : u32 n = n := Nat.mod_eq_of_lt h

theorem sub32_of_le {a b : Nat} (hb : b ≤ a) (ha : a < 4294967296) : sub32 a b = a - b := by
  unfold sub32 two32; omega

theorem checkGeometry_spec (p : Bpb) (size : Int) (h : checkGeometry p size = true) :
    (p.bps = 512 ∨ p.bps = 1024 ∨ p.bps = 2048 ∨ p.bps = 4096) ∧ 0 < p.spc ∧ p.spc ≤ 128 ∧
    p.reserved ≠ 0 ∧ p.fatCount ≠ 0 ∧ p.spf ≠ 0 ∧ (p.total ≠ 0 → metaSectors p < p.total) ∧
    (size > 0 → ((metaSectors p * p.bps % two64 : Nat) : Int) ≤ size) := by
  unfold checkGeometry at h
  simp only [Bool.and_eq_true, Bool.or_eq_true, beq_iff_eq, Bool.not_eq_true', bne_iff_ne, ne_eq,
    Bool.or_eq_false_iff, Bool.and_eq_false_iff, decide_eq_false_iff_not, beq_eq_false_iff_ne,
    bne_eq_false_iff_eq] at h
  obtain ⟨⟨⟨⟨⟨⟨h1, ⟨h2, h3⟩, _⟩, h4⟩, h5⟩, h6⟩, h7⟩, h8⟩ := h
  exact ⟨by omega, by omega, by omega, h4, h5, h6, fun ht => Nat.lt_of_not_le (h7.resolve_left ht),
    fun hs => Int.not_lt.1 (h8.resolve_left fun h => h hs)⟩

theorem checkGeometry_u64 (p : Bpb) (hr : p.inRange) (hb : p.bps ≤ 4096) (hb0 : 0 < p.bps) :
    metaSectors p * p.bps < two64 := by
  obtain ⟨_, _, h3, h4, h5, h6, _⟩ := hr
  have h1 : p.fatCount * p.spf ≤ 255 * 4294967295 := Nat.mul_le_mul (by omega) (by unfold two32 at h5; omega)
  have h2 : rootDirSectors64 p ≤ p.rootEntries * 32 + p.bps := by
    unfold rootDirSectors64
    exact Nat.le_trans (Nat.div_le_self _ _) (by omega)
  have h7 : metaSectors p ≤ 65535 + 255 * 4294967295 + (65535 * 32 + 4096) := by
    unfold metaSectors; omega
  have : metaSectors p * p.bps ≤ (65535 + 255 * 4294967295 + (65535 * 32 + 4096)) * 4096 :=
    Nat.mul_le_mul h7 hb
  unfold two64; omega

theorem fatSize_le_size (p : Bpb) (size : Int) (hr : p.inRange) (hsz : size > 0)
    (hc : checkGeometry p size = true) : ((u32 (p.spf * p.bps) : Nat) : Int) ≤ size := by
  obtain ⟨hb, _, _, _, hfc, _, _, hsize⟩ := checkGeometry_spec p size hc
  have hS := hsize hsz
  rw [Nat.mod_eq_of_lt (checkGeometry_u64 p hr (by omega) (by omega))] at hS
  have h1 : p.spf ≤ p.fatCount * p.spf := Nat.le_mul_of_pos_left _ (by omega)
  have h2 : p.spf ≤ metaSectors p := by unfold metaSectors; omega
  have h3 : p.spf * p.bps ≤ metaSectors p * p.bps := Nat.mul_le_mul_right _ h2
  have h4 : u32 (p.spf * p.bps) ≤ p.spf * p.bps := Nat.mod_le _ _
  omega

/-- the geometry fat12.Read / fat16.Read compute, every operation in uint32 -/
def geomOf (p : Bpb) : Geom :=
  let rds := u32 (u32 (p.rootEntries * 32 + p.bps) + two32 - 1) / p.bps
  let ds := sub32 (sub32 (sub32 p.total p.reserved) (u32 (p.fatCount * p.spf))) rds
  ⟨u32 (u32 (u32 (u32 (p.reserved * p.bps) + u32 (p.spf * p.bps)) + u32 (p.spf * p.bps)) + u32 (rds * p.bps)),
   p.spc * p.bps, u32 (p.spf * p.bps),
   u32 (u32 (u32 (p.reserved * p.bps) + u32 (p.spf * p.bps)) + u32 (p.spf * p.bps)), ds / p.spc⟩

/-- CheckGeometry has refused a zero sector or cluster size before either is divided by -/
theorem read1216_lands {F C : Prop} (k : Kind) (p : Bpb) (size : Int) :
    Lands F C (fun g => checkGeometry p size = true ∧ g = geomOf p) (read1216 true k p size) := by
  unfold read1216
  refine .ite (fun _ => .err) fun _ => .ite (fun _ => .err) fun hc => ?_
  simp only [Bool.true_and, Bool.not_eq_true', Bool.not_eq_false] at hc
  obtain ⟨hb, hs, _⟩ := checkGeometry_spec p size hc
  refine div?_bind_lands (fun _ => by omega) fun _ => div?_bind_lands (fun _ => by omega) fun _ => ?_
  exact .ite (fun _ => .err) fun _ => .pure ⟨hc, rfl⟩

/-- with the 64-bit bound (`w`) the FAT has at least one sector of at least 512 bytes and at most 2^30 bytes, so
    `fatSize` has not wrapped below the 8 bytes `tableFromBytes` slices -/
theorem read32_lands {F : Prop} (w : Bool) (p : Bpb) (size : Int) :
    Lands F (w = true)
      (fun g => checkGeometry { p with rootEntries := 0 } size = true ∧ g.fatSize = u32 (p.spf * p.bps))
      (read32 true w p size) := by
  unfold read32
  refine .ite (fun _ => .err) fun hc => .ite (fun _ => .err) fun hw => ?_
  simp only [Bool.true_and, Bool.not_eq_true', Bool.not_eq_false] at hc
  refine .ite (fun h8 => .panic fun hwt => ?_) fun _ => .pure ⟨hc, rfl⟩
  simp only [hwt, Bool.true_and, decide_eq_true_eq] at hw
  obtain ⟨hb, _, _, _, _, hspf, _, _⟩ := checkGeometry_spec _ size hc
  simp only at hb hspf
  have h1 : 1 * 512 ≤ p.spf * p.bps := Nat.mul_le_mul (by omega) (by omega)
  unfold u32 two32 at h8
  omega

/-- `hspf`: sectors per FAT is a 16-bit field in FAT12/16 -/
theorem geomOf_exact (p : Bpb) (hr : p.inRange) (hspf : p.spf < 65536) (hb : 0 < p.bps ∧ p.bps ≤ 4096)
    (hm : metaSectors p < p.total) :
    geomOf p = ⟨(p.reserved + 2 * p.spf + rootDirSectors64 p) * p.bps, p.spc * p.bps, p.spf * p.bps,
      (p.reserved + 2 * p.spf) * p.bps, (p.total - metaSectors p) / p.spc⟩ := by
  obtain ⟨_, _, r3, r4, _, r6, r7⟩ := hr
  unfold two32 at r7
  -- the products are bounded by the field widths; `omega` takes them as atoms
  have hfs : p.fatCount * p.spf ≤ 255 * 65535 := Nat.mul_le_mul (Nat.le_of_lt_succ r4) (Nat.le_of_lt_succ hspf)
  have h1 : p.spf * p.bps ≤ 65535 * 4096 := Nat.mul_le_mul (Nat.le_of_lt_succ hspf) hb.2
  have h2 : p.reserved * p.bps ≤ 65535 * 4096 := Nat.mul_le_mul (Nat.le_of_lt_succ r3) hb.2
  have h3 : rootDirSectors64 p * p.bps ≤ p.rootEntries * 32 + p.bps - 1 := Nat.div_mul_le_self _ _
  have h4 : rootDirSectors64 p ≤ p.rootEntries * 32 + p.bps - 1 := Nat.div_le_self _ _
  -- `x + 2^32 - 1` is how the mirror writes the uint32 `x - 1`
  have hnum : u32 (u32 (p.rootEntries * 32 + p.bps) + two32 - 1) = p.rootEntries * 32 + p.bps - 1 := by
    unfold u32 two32; omega
  unfold metaSectors at hm ⊢
  unfold geomOf
  rw [hnum, ← rootDirSectors64]
  simp (disch := omega) only [u32_of_lt, sub32_of_le, Geom.mk.injEq, true_and]
  refine ⟨?_, ?_, by rw [Nat.sub_sub, Nat.sub_sub, Nat.add_assoc]⟩
  · rw [Nat.add_mul, Nat.add_mul, Nat.mul_assoc]; omega
  · rw [Nat.add_mul, Nat.mul_assoc]; omega

end Diskfs.Parsers.Fat
