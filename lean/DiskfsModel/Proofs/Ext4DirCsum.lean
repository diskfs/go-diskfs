/-
  The real checksum tail (Model/Ext4/DirCsum.lean) is 12 bytes long, which is all the directory theorems ask of a tail
  function (`TailOK`): `dirpack_*` and `remove_dir_rewrite` hold for the bytes the library writes when metadata_csum is
  on.  And the form an empty directory block takes under it.
-/
import DiskfsModel.Model.Ext4.DirCsum
import DiskfsModel.Proofs.Ext4DirRewrite
namespace Diskfs.Ext4.DirPack
open Diskfs Diskfs.Ext4

theorem dirTail_length (seed ino gen : Nat) (b : Bytes) : (dirTail seed ino gen b).length = 12 := by
  simp [dirTail]

/-- an empty directory block under the real tail function of any (seed, inode number, generation): one unused entry
    over `bs - 12` bytes followed by the tail computed over exactly these bytes with the same three values (Remove
    passes the directory's own inode number and generation) -/
theorem emptyBlock_csum (bs seed ino gen : Nat) :
    emptyBlock bs true (dirTail seed ino gen) =
      encEntry emp ((bs - 12) % 65536) ++ dirTail seed ino gen (encEntry emp ((bs - 12) % 65536)) := by
  simp [emptyBlock, fin]

end Diskfs.Ext4.DirPack
