/-
  Lists keyed by a name that is compared with `eqn` (an equivalence, `EqnOk`): what `find?`, the
  map that replaces the elements of one name, and the filter that drops them do when the names are
  pairwise different, and how they commute with an abstraction to `Spec.Tree`.  `ffind` / `fset` /
  `ferase` of the one-directory model and `kfind` / `kset` / `krename` / `kerase` of the tree model
  are these operations on lists of files resp. tree nodes; the facts are stated for any element type
  with a name `nm` and apply to both by unfolding the definition.  Core Lean only.
-/
import DiskfsModel.Model.Fat.FlatFs
namespace Diskfs.Fat

section named
variable {α : Type} {nm : α → Spec.Name} {eqn : Spec.Name → Spec.Name → Bool}

theorem EqnOk.comm (he : EqnOk eqn) (a b : Spec.Name) : eqn a b = eqn b a :=
  Bool.eq_iff_iff.2 ⟨he.symm a b, he.symm b a⟩

theorem EqnOk.congr_left (he : EqnOk eqn) {a b : Spec.Name} (h : eqn a b = true) (c : Spec.Name) :
    eqn a c = eqn b c :=
  Bool.eq_iff_iff.2 ⟨he.trans _ _ _ (he.symm _ _ h), he.trans _ _ _ h⟩

theorem find_split (he : EqnOk eqn) {l : List α} {n : Spec.Name} {x : α}
    (hd : l.Pairwise fun a b => eqn (nm a) (nm b) = false) (h : l.find? (fun a => eqn (nm a) n) = some x) :
    ∃ pre post, l = pre ++ x :: post ∧ eqn (nm x) n = true ∧
      (∀ a ∈ pre, eqn (nm a) n = false) ∧ (∀ a ∈ post, eqn (nm a) n = false) := by
  obtain ⟨hx, pre, post, rfl, hpre⟩ := List.find?_eq_some_iff_append.1 h
  refine ⟨pre, post, rfl, hx, fun a ha => by simpa using hpre a ha, fun a ha => ?_⟩
  rw [he.comm, ← he.congr_left hx]
  exact (List.pairwise_cons.1 (List.pairwise_append.1 hd).2.1).1 a ha

theorem find_none {l : List α} {n : Spec.Name} (h : l.find? (fun a => eqn (nm a) n) = none) :
    ∀ a ∈ l, eqn (nm a) n = false := by
  simpa using h

theorem map_ite_of_false {α : Type} (p : α → Bool) (φ : α → α) (l : List α)
    (h : ∀ x ∈ l, p x = false) : l.map (fun x => if p x = true then φ x else x) = l := by
  induction l with
  | nil => rfl
  | cons a l ih =>
    rw [List.map_cons, ih (fun x hx => h x (List.mem_cons_of_mem _ hx)), h a List.mem_cons_self]
    simp

theorem map_mid (φ : α → α) {pre post : List α} {x : α} {n : Spec.Name}
    (hx : eqn (nm x) n = true) (hpre : ∀ a ∈ pre, eqn (nm a) n = false)
    (hpost : ∀ a ∈ post, eqn (nm a) n = false) :
    (pre ++ x :: post).map (fun a => if eqn (nm a) n then φ a else a) = pre ++ φ x :: post := by
  rw [List.map_append, List.map_cons, if_pos hx, map_ite_of_false _ φ pre hpre, map_ite_of_false _ φ post hpost]

theorem filter_not_of_false {α : Type} (p : α → Bool) (l : List α) (h : ∀ x ∈ l, p x = false) :
    l.filter (fun x => !(p x)) = l :=
  List.filter_eq_self.2 (fun x hx => by simp [h x hx])

theorem erase_mid {pre post : List α} {x : α} {n : Spec.Name}
    (hx : eqn (nm x) n = true) (hpre : ∀ a ∈ pre, eqn (nm a) n = false)
    (hpost : ∀ a ∈ post, eqn (nm a) n = false) :
    (pre ++ x :: post).filter (fun a => !(eqn (nm a) n)) = pre ++ post := by
  rw [List.filter_append, List.filter_cons, hx, filter_not_of_false _ pre hpre, filter_not_of_false _ post hpost]
  rfl

theorem erase_names (l : List α) (n : Spec.Name) :
    ∀ a ∈ l.filter (fun a => !(eqn (nm a) n)), eqn (nm a) n = false := by
  intro a ha
  simpa using (List.mem_filter.1 ha).2

theorem find_erase_self (l : List α) (n : Spec.Name) :
    (l.filter fun a => !(eqn (nm a) n)).find? (fun a => eqn (nm a) n) = none :=
  List.find?_eq_none.2 fun a ha => by simp [erase_names l n a ha]

theorem find_erase_ne (he : EqnOk eqn) {o n : Spec.Name} (hon : eqn o n = false) (l : List α) :
    (l.filter fun a => !(eqn (nm a) n)).find? (fun a => eqn (nm a) o) = l.find? (fun a => eqn (nm a) o) := by
  induction l with
  | nil => rfl
  | cons a l ih =>
    rw [List.filter_cons, List.find?_cons]
    cases hao : eqn (nm a) o with
    | true =>
      -- an element called `o` is not called `n`: the filter keeps it
      rw [he.congr_left hao, hon]
      simp [hao]
    | false => cases eqn (nm a) n <;> simp [hao, ih]

theorem mid_names {pre post : List α} {x : α}
    (hd : (pre ++ x :: post).Pairwise fun a b => eqn (nm a) (nm b) = false) :
    (∀ a ∈ pre, eqn (nm a) (nm x) = false) ∧ (∀ b ∈ post, eqn (nm x) (nm b) = false) := by
  rw [List.pairwise_append] at hd
  exact ⟨fun a ha => hd.2.2 a ha x List.mem_cons_self, (List.pairwise_cons.1 hd.2.1).1⟩

theorem pairwise_mid {pre post : List α} {x y : α}
    (hd : (pre ++ x :: post).Pairwise fun a b => eqn (nm a) (nm b) = false)
    (hpre : ∀ a ∈ pre, eqn (nm a) (nm y) = false) (hpost : ∀ b ∈ post, eqn (nm y) (nm b) = false) :
    (pre ++ y :: post).Pairwise fun a b => eqn (nm a) (nm b) = false := by
  rw [List.pairwise_append, List.pairwise_cons] at hd ⊢
  refine ⟨hd.1, ⟨hpost, hd.2.1.2⟩, fun a ha b hb => ?_⟩
  rcases List.mem_cons.1 hb with rfl | hb
  · exact hpre a ha
  · exact hd.2.2 a ha b (List.mem_cons_of_mem _ hb)

theorem pairwise_snoc {l : List α} {y : α} (hd : l.Pairwise fun a b => eqn (nm a) (nm b) = false)
    (hy : ∀ a ∈ l, eqn (nm a) (nm y) = false) : (l ++ [y]).Pairwise fun a b => eqn (nm a) (nm b) = false :=
  List.pairwise_append.2 ⟨hd, List.pairwise_singleton _ _, fun a ha b hb => by
    rw [List.mem_singleton.1 hb]; exact hy a ha⟩

theorem forall_mem_mid {P : α → Prop} {pre post : List α} {x y : α} (h : ∀ a ∈ pre ++ x :: post, P a)
    (hy : P y) : ∀ a ∈ pre ++ y :: post, P a := by
  rw [List.forall_mem_append, List.forall_mem_cons] at h ⊢
  exact ⟨h.1, hy, h.2.2⟩

/-- the renaming map of `Spec.stepDir` when exactly the middle entry matches -/
theorem rename_split (φ : α → Spec.Name × Spec.Node) (hφ : ∀ a, (φ a).1 = nm a)
    {pre post : List α} {x : α} {o : Spec.Name} (ψ : Spec.Name × Spec.Node → Spec.Name × Spec.Node)
    (hx : eqn (nm x) o = true) (hpre : ∀ a ∈ pre, eqn (nm a) o = false)
    (hpost : ∀ a ∈ post, eqn (nm a) o = false) :
    ((pre ++ x :: post).map φ).map (fun e => if eqn e.1 o = true then ψ e else e)
      = pre.map φ ++ ψ (φ x) :: post.map φ := by
  have hside : ∀ l : List α, (∀ a ∈ l, eqn (nm a) o = false) → ∀ e ∈ l.map φ, eqn e.1 o = false := by
    intro l hl e he
    obtain ⟨a, ha, rfl⟩ := List.mem_map.1 he
    rw [hφ]; exact hl a ha
  rw [List.map_append, List.map_cons]
  exact map_mid (nm := fun e : Spec.Name × Spec.Node => e.1) ψ (by rw [hφ]; exact hx)
    (hside pre hpre) (hside post hpost)

theorem replace_split (φ : α → Spec.Name × Spec.Node) (hφ : ∀ a, (φ a).1 = nm a)
    {pre post : List α} {x : α} {n : Spec.Name} (v : Spec.Node)
    (hx : eqn (nm x) n = true) (hpre : ∀ a ∈ pre, eqn (nm a) n = false)
    (hpost : ∀ a ∈ post, eqn (nm a) n = false) :
    Spec.replace eqn ((pre ++ x :: post).map φ) n v = pre.map φ ++ (nm x, v) :: post.map φ := by
  rw [← hφ x]
  exact rename_split φ hφ (fun e => (e.1, v)) hx hpre hpost

theorem lookup_map (φ : α → Spec.Name × Spec.Node) (hφ : ∀ a, (φ a).1 = nm a) (l : List α) (n : Spec.Name) :
    Spec.lookup eqn (l.map φ) n = (l.find? fun a => eqn (nm a) n).map fun a => (φ a).2 := by
  unfold Spec.lookup
  rw [List.find?_map, Option.map_map]
  simp only [Function.comp_def, hφ]

theorem erase_map (φ : α → Spec.Name × Spec.Node) (hφ : ∀ a, (φ a).1 = nm a) (l : List α) (n : Spec.Name) :
    (l.filter fun a => !(eqn (nm a) n)).map φ = Spec.erase eqn (l.map φ) n := by
  unfold Spec.erase
  rw [List.filter_map]
  simp only [Function.comp_def, hφ]

end named

/-! ### the name comparison of the worked examples: equality -/

def exEqn : Spec.Name → Spec.Name → Bool := fun a b => a == b

theorem exEqn_ok : EqnOk exEqn where
  refl := by intro a; simp [exEqn]
  symm := by intro a b h; simp only [exEqn, beq_iff_eq] at h ⊢; exact h.symm
  trans := by intro a b c h1 h2; simp only [exEqn, beq_iff_eq] at h1 h2 ⊢; exact h1.trans h2

end Diskfs.Fat
