/-
  Read-then-rewrite idempotence (C14 / C02): a table obtained by gpt.Read from a device `Table.Write` produced,
  written back with Write, changes no byte of the device, for any well-formed geometry: re-encoding the partitions
  in slot order gives the same array (`arrEnc_reread`), the table read back has the same geometry (`coreUp_reread`),
  so every write of the second Write finds its bytes already there.
-/
import DiskfsModel.Proofs.GptGeomWhole
set_option linter.unusedSimpArgs false
namespace Diskfs.Gpt

theorem slotPart_spec (ps : List Part) (i : Nat) (p : Part) (h : slotPart ps i = some p) :
    ps.find? (fun q => q.index == i + 1) = some p ∧ p ∈ ps ∧ p.index = i + 1 ∧ allZero p.typ = false := by
  unfold slotPart at h
  cases hf : ps.find? (fun q => q.index == i + 1) with
  | none => rw [hf] at h; simp at h
  | some q =>
    rw [hf] at h
    simp only [Option.bind_some] at h
    by_cases hz : allZero q.typ = true
    · simp [hz] at h
    · simp only [hz, Bool.false_eq_true, if_false, Option.some.injEq] at h
      subst h
      refine ⟨rfl, List.mem_of_find?_eq_some hf, ?_, by simpa using hz⟩
      have := List.find?_some hf
      simpa using this

theorem find_filterMap_slots (ps : List Part) (i : Nat) :
    ∀ (m j0 : Nat), ((List.range' j0 m).filterMap (slotPart ps)).find? (fun q => q.index == i + 1) =
      if j0 ≤ i ∧ i < j0 + m then slotPart ps i else none := by
  intro m
  induction m with
  | zero =>
    intro j0
    have : ¬ (j0 ≤ i ∧ i < j0 + 0) := by omega
    rw [if_neg this]
    rfl
  | succ m ih =>
    intro j0
    rw [List.range'_succ, List.filterMap_cons]
    cases hs : slotPart ps j0 with
    | none =>
      simp only
      rw [ih (j0 + 1)]
      by_cases hij : i = j0
      · subst hij; simp [hs]
      · have e : (j0 + 1 ≤ i ∧ i < j0 + 1 + m) ↔ (j0 ≤ i ∧ i < j0 + (m + 1)) := by omega
        simp only [e]
    | some p =>
      simp only
      obtain ⟨_, _, hidx, _⟩ := slotPart_spec ps j0 p hs
      by_cases hij : i = j0
      · subst hij
        simp [List.find?_cons, hidx, hs]
      · have hne : (p.index == i + 1) = false := by simp [hidx]; omega
        rw [List.find?_cons, hne]
        simp only
        rw [ih (j0 + 1)]
        have e : (j0 + 1 ≤ i ∧ i < j0 + 1 + m) ↔ (j0 ≤ i ∧ i < j0 + (m + 1)) := by omega
        simp only [e]

theorem find_normParts (ps : List Part) (n i : Nat) (hi : i < n) :
    (normParts ps n).find? (fun q => q.index == i + 1) = slotPart ps i := by
  unfold normParts
  rw [List.range_eq_range', find_filterMap_slots ps i n 0]
  simp [hi]

theorem slotBytes_normParts (c : Cfg) (ps : List Part) (n i : Nat) (hi : i < n) :
    slotBytes c (normParts ps n) 128 i = slotBytes c ps 128 i := by
  cases hs : slotPart ps i with
  | some p =>
    obtain ⟨hf, _, _, _⟩ := slotPart_spec ps i p hs
    simp only [slotBytes, find_normParts ps n i hi, hs, hf]
  | none =>
    -- nothing read back for this slot: in the original list it was empty or held an unused entry, 128 zero bytes either way
    have hl : slotBytes c (normParts ps n) 128 i = .ok (zeros 128) := by
      simp only [slotBytes, find_normParts ps n i hi, hs]
    rw [hl]
    unfold slotPart at hs
    cases hf : ps.find? (fun q => q.index == i + 1) with
    | none => simp only [slotBytes, hf]
    | some q =>
      rw [hf] at hs
      have hz : allZero q.typ = true := by
        by_cases hz : allZero q.typ = true
        · exact hz
        · simp [hz] at hs
      exact (slotBytes_some c ps i q _ hf (entryEnc_unused c q hz) (by simp)).symm

theorem slotsFrom_normParts (c : Cfg) (ps : List Part) (n : Nat) :
    ∀ (is : List Nat), (∀ i ∈ is, i < n) → slotsFrom c (normParts ps n) 128 is = slotsFrom c ps 128 is := by
  intro is
  induction is with
  | nil => intro _; rfl
  | cons i is ih =>
    intro h
    simp only [slotsFrom]
    rw [slotBytes_normParts c ps n i (h i (List.mem_cons_self ..)), ih (fun j hj => h j (List.mem_cons_of_mem _ hj))]

theorem initParts_slots (bs n : Nat) (ps : List Part)
    (hfp : ∀ p ∈ ps, allZero p.typ = false → initEntry p bs = some p) :
    ∀ (m j0 : Nat) (acc : List Part), j0 + m ≤ n → (∀ q ∈ acc, q.index < j0 + 1) →
      initParts bs n ((List.range' j0 m).filterMap (slotPart ps)) acc =
        some (acc.reverse ++ (List.range' j0 m).filterMap (slotPart ps)) := by
  intro m
  induction m with
  | zero => intro j0 acc _ _; simp [initParts]
  | succ m ih =>
    intro j0 acc hn hacc
    rw [List.range'_succ, List.filterMap_cons]
    cases hs : slotPart ps j0 with
    | none =>
      simp only
      exact ih (j0 + 1) acc (by omega) (fun q hq => by have := hacc q hq; omega)
    | some p =>
      simp only
      obtain ⟨_, hmem, hidx, hused⟩ := slotPart_spec ps j0 p hs
      simp only [initParts, hfp p hmem hused]
      have c1 : ¬ (p.index < 1 ∨ p.index > n) := by omega
      rw [if_neg c1]
      have c2 : (acc.any fun q => q.index == p.index) = false := by
        rw [List.any_eq_false]
        intro q hq
        have := hacc q hq
        simp; omega
      simp only [c2, Bool.false_eq_true, if_false]
      rw [ih (j0 + 1) (p :: acc) (by omega) (by
        intro q hq
        rcases List.mem_cons.1 hq with h | h
        · subst h; omega
        · have := hacc q h; omega)]
      simp

theorem initParts_normParts (bs n : Nat) (ps : List Part)
    (hfp : ∀ p ∈ ps, allZero p.typ = false → initEntry p bs = some p) :
    initParts bs n (normParts ps n) [] = some (normParts ps n) := by
  unfold normParts
  rw [List.range_eq_range']
  have := initParts_slots bs n ps hfp n 0 [] (by omega) (by intro q hq; cases hq)
  simpa using this

theorem initEntry_fixed (p : Part) (bs : Nat) (hu : allZero p.typ = false) (h1 : 1 ≤ p.start) (h2 : p.start ≤ p.end_)
    (hz : p.size = sizeOf p.start p.end_ bs) : initEntry p bs = some p := by
  unfold initEntry
  simp only [sizeOf] at hz
  have h0 : p.start ≠ 0 := by omega
  simp [hu, h0, h2, hz]

theorem arrEnc_reread (c : Cfg) (t : Table) (ps : List Part) (pm : Bool) (acrc : Nat) (arr : Bytes)
    (hes : t.entSize = 128) (harr : arrEnc c t = .ok (arr, ps))
    (hfp : ∀ p ∈ ps, allZero p.typ = false → initEntry p t.lss = some p) :
    arrEnc c (reread t ps pm acrc) = .ok (arr, normParts ps t.arrCount) := by
  have hsl := (arrEnc_ok_inv c t arr ps harr).2
  rw [hes] at hsl
  unfold arrEnc
  simp only [reread, initParts_normParts t.lss t.arrCount ps hfp]
  rw [slotsFrom_normParts c ps t.arrCount _ (fun i hi => List.mem_range.1 hi), hsl]
  rfl

theorem coreUp_reread (crc : Bytes → Nat) (t : Table) (ps : List Part) (pm : Bool) (acrc : Nat) (arr : Bytes)
    (hes : t.entSize = 128) (hph : t.primaryHeader = 1) : coreUp crc (reread t ps pm acrc) arr = coreUp crc t arr := by
  have hp : partSectorsUp (reread t ps pm acrc) = partSectorsUp t := by unfold partSectorsUp reread; rw [hes]
  have hh : ∀ b, hdrEncUp crc (reread t ps pm acrc) b arr = hdrEncUp crc t b arr := by
    intro b; unfold hdrEncUp arraySectorUp; rw [hp]; simp only [reread, hph]
  simp only [coreUp, offBA, offBH, hp, hh]
  rfl

theorem geomWF_reread {t : Table} {size : Nat} (hg : GeomWF t size) (ps : List Part) (pm : Bool) (acrc : Nat) :
    GeomWF (reread t ps pm acrc) size := by
  have hp : partSectorsUp (reread t ps pm acrc) = partSectorsUp t := by unfold partSectorsUp reread; rw [hg.es]
  exact ⟨rfl, hg.lss, rfl, hg.cnt, hg.cntMax, rfl, hg.sh, by rw [hp]; exact hg.fits, hg.hsz, hg.fd, hg.ld, hg.guid⟩

/-- `t1` = what gpt.Read returns for the device `Write` left; if `Write t1` is accepted, applying its writes
    changes no byte.  Premises: the entries the first Write was left with have 1 ≤ start ≤ end (no uint64 wrap);
    if the read-back table carries the protective-MBR flag, the first Write wrote one (otherwise bytes 446..511
    came from somewhere else and the CHS bytes, which readProtectiveMBR does not check, may differ). -/
theorem write_read_write_noop_geom (c : Cfg) (crc : Bytes → Nat) (hcrc : ∀ b, crc b < two32) (d : Dev)
    (t : Table) (size : Nat) (ws : List Wr) (t' : Table) (hg : GeomWF t size)
    (hwf : ∀ p ∈ t.parts, allZero p.typ = true ∨ (EntryWF p ∧ p.size < two64))
    (hw : writeUp c crc t size = .ok (ws, t'))
    (hord : ∀ p ∈ t'.parts, allZero p.typ = false → 1 ≤ p.start ∧ p.start ≤ p.end_)
    (t1 : Table) (hr : (Gpt.read c crc (applyWrs d ws) size t.lss).1 = .ok t1)
    (hpmb : t1.pmbr = true → t.pmbr = true)
    (ws1 : List Wr) (t2 : Table) (hw1 : writeUp c crc t1 size = .ok (ws1, t2)) :
    applyWrs (applyWrs d ws) ws1 = applyWrs d ws ∧ t2.parts = t1.parts := by
  obtain ⟨pm, arr, harr, hex, hrd⟩ := read_writeUp c crc hcrc d t size ws t' hg.init hg.primary hwf hw
  obtain ⟨arr', ps', harr', hlen, ht, _, r1, r2, r3, r4, r5⟩ := write_regionsG c crc d t size ws t' hg hw
  have hps : ps' = t'.parts := by rw [ht]
  obtain rfl : arr = arr' := by rw [harr', hps] at harr; cases harr; rfl
  rw [hr] at hrd
  cases hrd
  -- the second write: same array, same headers, same offsets
  have hfp : ∀ p ∈ t'.parts, allZero p.typ = false → initEntry p t.lss = some p := by
    intro p hp hu
    rcases hex p hp with hz | ⟨_, hz⟩
    · rw [hz] at hu; cases hu
    · exact initEntry_fixed p t.lss hu (hord p hp hu).1 (hord p hp hu).2 hz
  obtain ⟨arr1, ps1, harr1, _, ht2, hws1⟩ :=
    writeUp_geom_exact c crc _ size ws1 t2 (geomWF_reread hg t'.parts pm (crc arr)) hw1
  rw [arrEnc_reread c t t'.parts pm (crc arr) arr hg.es harr hfp] at harr1
  cases harr1
  refine ⟨?_, by rw [ht2]; rfl⟩
  apply applyWrs_noop
  have hes := hg.es
  have hlh : ∀ b, (hdrEncUp crc t b arr).length = t.lss := fun b => hdrEncUp_length crc t b arr hg.guid (by have := hg.lss; omega)
  have hcore : ∀ w ∈ coreUp crc t arr, readAt (applyWrs d ws) w.off w.data.length = w.data := by
    intro w hw
    simp only [coreUp, List.mem_cons, List.mem_singleton, List.not_mem_nil, or_false] at hw
    rcases hw with h | h | h | h <;> subst h
    · simp only [hlen]; exact r4
    · simp only [hlh]; exact r3
    · simp only [hlen]; exact r2
    · simp only [hlh]; exact r1
  have hpmw : ∀ w ∈ (if pm = true then [Wr.mk 446 (pmbrEnc c t)] else []),
      readAt (applyWrs d ws) w.off w.data.length = w.data := by
    intro w hw
    cases pm with
    | false => cases hw
    | true =>
      rw [if_pos rfl, List.mem_singleton] at hw
      subst hw
      exact r5 (hpmb rfl)
  intro w hw
  rw [hws1, coreUp_reread crc t t'.parts pm (crc arr) arr hes hg.ph] at hw
  have hpme : pmWrs c (reread t t'.parts pm (crc arr)) = (if pm = true then [Wr.mk 446 (pmbrEnc c t)] else []) := rfl
  rw [hpme] at hw
  cases hpl : c.pmbrLast <;> rw [hpl] at hw
  · rcases List.mem_append.1 hw with h | h
    · exact hpmw w h
    · exact hcore w h
  · rcases List.mem_append.1 hw with h | h
    · exact hcore w h
    · exact hpmw w h

end Diskfs.Gpt
