/-
  Lemmas about the tree spec of C16 (Spec/SyncTree.lean).  The four kinds of directory entry differ only
  in what the name denotes and in whether anything lies below it, so the lemmas are proved for
  `Forest.entry n it s r` — name, item, entries below, remaining entries — by `Forest.entry_induction`,
  which has one case for all four constructors.
-/
import DiskfsModel.Spec.SyncTree
namespace Diskfs.Sync
open Forest

namespace Forest

/-- the entry `n ↦ it` with the entries `s` below it, followed by the entries `r`; only a directory has
    entries below it, for the other kinds `s` is dropped (the lemmas ask for `it ≠ .dir → s = .nil`) -/
def entry (n : String) : Item → Forest → Forest → Forest
  | .file d, _, r => file n d r
  | .dir, s, r => dir n s r
  | .link t, _, r => link n t r
  | .other, _, r => other n r

theorem entry_induction {motive : Forest → Prop} (nil : motive nil)
    (entry : ∀ n it s r, (it ≠ .dir → s = .nil) → motive s → motive r → motive (entry n it s r)) :
    ∀ f, motive f
  | .nil => nil
  | .file n d r => entry n (.file d) .nil r (fun _ => rfl) nil (entry_induction nil entry r)
  | .dir n s r => entry n .dir s r (fun h => absurd rfl h) (entry_induction nil entry s) (entry_induction nil entry r)
  | .link n t r => entry n (.link t) .nil r (fun _ => rfl) nil (entry_induction nil entry r)
  | .other n r => entry n .other .nil r (fun _ => rfl) nil (entry_induction nil entry r)

variable {n : String} {it : Item} {s r : Forest}

theorem names_entry : (entry n it s r).names = n :: r.names := by cases it <;> rfl

theorem wf_entry (hs : it ≠ .dir → s = .nil) :
    (entry n it s r).wf = true ↔ n ∉ r.names ∧ s.wf = true ∧ r.wf = true := by
  cases it <;> simp [entry, wf, hs, and_assoc]

theorem wf_file {n d r} (h : (Forest.file n d r).wf = true) : n ∉ r.names ∧ r.wf = true :=
  have := (wf_entry (it := .file d) (s := .nil) fun _ => rfl).1 h
  ⟨this.1, this.2.2⟩

theorem wf_dir {n s r} (h : (Forest.dir n s r).wf = true) : n ∉ r.names ∧ s.wf = true ∧ r.wf = true :=
  (wf_entry (it := .dir) nofun).1 h

theorem plain_entry (hs : it ≠ .dir → s = .nil) :
    (entry n it s r).plain = true ↔ (it = .dir ∨ ∃ d, it = .file d) ∧ s.plain = true ∧ r.plain = true := by
  cases it <;> simp [entry, plain, hs]

theorem noLinks_entry (hs : it ≠ .dir → s = .nil) :
    (entry n it s r).noLinks = true ↔ (∀ t, it ≠ .link t) ∧ s.noLinks = true ∧ r.noLinks = true := by
  cases it <;> simp [entry, noLinks, hs]

theorem lookup_entry (hs : it ≠ .dir → s = .nil) (p : String) (ps : Path) :
    (entry n it s r).lookup (p :: ps) =
      if n = p then (if ps = [] then some it else s.lookup ps) else r.lookup (p :: ps) := by
  cases it <;> cases ps <;> simp [entry, lookup, hs]

theorem flatAt_entry (hs : it ≠ .dir → s = .nil) (pre : Path) :
    (entry n it s r).flatAt pre = (pre ++ [n], it) :: (s.flatAt (pre ++ [n]) ++ r.flatAt pre) := by
  cases it <;> simp [entry, flatAt, hs]

theorem strip_entry (ex : List String) (k : Bool) :
    (entry n it s r).strip ex k =
      if ex.contains n || (!k && it == .other) then r.strip ex k else entry n it (s.strip ex k) (r.strip ex k) := by
  cases it <;> simp [entry, strip]

theorem strip_below {ex : List String} {k : Bool} (hs : it ≠ .dir → s = .nil) : it ≠ .dir → s.strip ex k = .nil :=
  fun h => by rw [hs h]; rfl

end Forest

theorem lookup_nil_path (f : Forest) : f.lookup [] = some .dir := by
  cases f <;> rfl

theorem ne_nil_of_lookup_none {f : Forest} {p : Path} (h : f.lookup p = none) : p ≠ [] := by
  rintro rfl
  rw [lookup_nil_path] at h
  cases h

theorem lookup_none_of_not_mem (f : Forest) (n : String) (q : Path) (h : n ∉ f.names) :
    f.lookup (n :: q) = none := by
  induction f using entry_induction with
  | nil => rfl
  | entry m it s r hs _ ih =>
    rw [names_entry, List.mem_cons, not_or] at h
    rw [lookup_entry hs, if_neg (Ne.symm h.1), ih h.2]

theorem flatAt_below (f : Forest) (pre : Path) (p : Path) (it : Item) (h : (p, it) ∈ f.flatAt pre) :
    ∃ q, p = pre ++ q := by
  induction f using entry_induction generalizing pre with
  | nil => cases h
  | entry n it' s r hs ihs ih =>
    simp only [flatAt_entry hs, List.mem_cons, List.mem_append, Prod.mk.injEq] at h
    rcases h with ⟨rfl, _⟩ | h | h
    · exact ⟨[n], rfl⟩
    · obtain ⟨q, rfl⟩ := ihs _ h
      exact ⟨n :: q, by simp⟩
    · exact ih _ h

theorem mem_flatAt (f : Forest) (hwf : f.wf = true) (pre p : Path) (it : Item) :
    (p, it) ∈ f.flatAt pre ↔ ∃ q, q ≠ [] ∧ p = pre ++ q ∧ f.lookup q = some it := by
  induction f using entry_induction generalizing pre p it with
  | nil =>
    simp only [flatAt, List.not_mem_nil, false_iff]
    rintro ⟨q, hq, _, h⟩
    cases q with
    | nil => exact hq rfl
    | cons c qs => cases h
  | entry n it' s r hs ihs ih =>
    obtain ⟨hn, hws, hwr⟩ := (wf_entry hs).1 hwf
    simp only [flatAt_entry hs, List.mem_cons, List.mem_append, Prod.mk.injEq]
    rw [ih hwr, ihs hws]
    constructor
    · rintro (⟨rfl, rfl⟩ | ⟨q, hq, rfl, hl⟩ | ⟨q, hq, rfl, hl⟩)
      · exact ⟨[n], by simp, rfl, by simp [lookup_entry hs]⟩
      · exact ⟨n :: q, by simp, by simp, by simpa [lookup_entry hs, hq] using hl⟩
      · cases q with
        | nil => exact absurd rfl hq
        | cons c qs =>
          have hne : ¬ n = c := fun e => by rw [← e, lookup_none_of_not_mem r n qs hn] at hl; cases hl
          exact ⟨c :: qs, hq, rfl, by simpa [lookup_entry hs, hne] using hl⟩
    · rintro ⟨q, hq, rfl, hl⟩
      cases q with
      | nil => exact absurd rfl hq
      | cons c qs =>
        rw [lookup_entry hs] at hl
        split at hl
        · rename_i e
          subst e
          split at hl
          · rename_i e
            subst e
            exact Or.inl ⟨rfl, (Option.some.inj hl).symm⟩
          · rename_i e
            exact Or.inr (Or.inl ⟨qs, e, by simp, hl⟩)
        · exact Or.inr (Or.inr ⟨c :: qs, hq, rfl, hl⟩)

theorem mem_flatAt_root (f : Forest) (hwf : f.wf = true) (p : Path) (it : Item) :
    (p, it) ∈ f.flatAt [] ↔ p ≠ [] ∧ f.lookup p = some it := by
  rw [mem_flatAt f hwf]
  constructor
  · rintro ⟨q, hq, hp, hl⟩; simp at hp; subst hp; exact ⟨hq, hl⟩
  · rintro ⟨hq, hl⟩; exact ⟨p, hq, by simp, hl⟩

theorem plain_lookup (f : Forest) (h : f.plain = true) (p : Path) (it : Item) (hl : f.lookup p = some it) :
    it = .dir ∨ ∃ d, it = .file d := by
  induction f using entry_induction generalizing p with
  | nil => cases p with
    | nil => exact Or.inl (Option.some.inj hl).symm
    | cons c ps => cases hl
  | entry n it' s r hs ihs ih =>
    obtain ⟨hit, hps, hpr⟩ := (plain_entry hs).1 h
    cases p with
    | nil => exact Or.inl (by rw [lookup_nil_path] at hl; exact (Option.some.inj hl).symm)
    | cons c ps =>
      rw [lookup_entry hs] at hl
      split at hl
      · split at hl
        · exact Option.some.inj hl ▸ hit
        · exact ihs hps _ hl
      · exact ih hpr _ hl

theorem names_strip (ex : List String) (k : Bool) (f : Forest) (n : String)
    (h : n ∈ (f.strip ex k).names) : n ∈ f.names := by
  induction f using entry_induction with
  | nil => cases h
  | entry m it s r _ _ ih =>
    rw [names_entry, List.mem_cons]
    rw [strip_entry] at h
    split at h
    · exact Or.inr (ih h)
    · rw [names_entry, List.mem_cons] at h
      exact h.imp id ih

theorem wf_strip (ex : List String) (k : Bool) (f : Forest) (h : f.wf = true) : (f.strip ex k).wf = true := by
  induction f using entry_induction with
  | nil => rfl
  | entry m it s r hs ihs ih =>
    obtain ⟨hm, hws, hwr⟩ := (wf_entry hs).1 h
    rw [strip_entry]
    split
    · exact ih hwr
    · exact (wf_entry (strip_below hs)).2 ⟨fun hm' => hm (names_strip ex k r m hm'), ihs hws, ih hwr⟩

theorem lookup_strip (ex : List String) (f : Forest) (p : Path) :
    (f.strip ex true).lookup p = if ∀ c ∈ p, ex.contains c = false then f.lookup p else none := by
  induction f using entry_induction generalizing p with
  | nil => cases p <;> simp [strip, lookup]
  | entry n it s r hs ihs ih =>
    cases p with
    | nil => simp [lookup_nil_path]
    | cons c ps =>
      rw [strip_entry, lookup_entry hs]
      simp only [Bool.not_true, Bool.false_and, Bool.or_false, List.forall_mem_cons]
      by_cases hn : n ∈ ex
      · rw [if_pos (by simpa using hn), ih]
        by_cases hc : n = c
        · subst hc; simp [hn]
        · simp [hc]
      · rw [if_neg (by simpa using hn), lookup_entry (strip_below hs), ihs, ih]
        by_cases hc : n = c
        · subst hc
          cases ps <;> simp [hn]
        · simp [hc]

theorem plain_strip (ex : List String) (k : Bool) (f : Forest) (h : f.plain = true) : (f.strip ex k).plain = true := by
  induction f using entry_induction with
  | nil => rfl
  | entry n it s r hs ihs ih =>
    obtain ⟨hit, hps, hpr⟩ := (plain_entry hs).1 h
    rw [strip_entry]
    split
    · exact ih hpr
    · exact (plain_entry (strip_below hs)).2 ⟨hit, ihs hps, ih hpr⟩

theorem strip_plain_keepOther (ex : List String) (f : Forest) (h : f.plain = true) :
    f.strip ex false = f.strip ex true := by
  induction f using entry_induction with
  | nil => rfl
  | entry n it s r hs ihs ih =>
    obtain ⟨hit, hps, hpr⟩ := (plain_entry hs).1 h
    have ho : (it == Item.other) = false := by rcases hit with rfl | ⟨d, rfl⟩ <;> rfl
    simp only [strip_entry, ho, Bool.and_false, ihs hps, ih hpr]

theorem strip_idem (ex : List String) (k : Bool) (f : Forest) : (f.strip ex k).strip ex k = f.strip ex k := by
  induction f using entry_induction with
  | nil => rfl
  | entry n it s r _ ihs ih =>
    rw [strip_entry]
    split
    · exact ih
    · rename_i h; rw [strip_entry, if_neg h, ihs, ih]

theorem treeEq_trans {a b c : Forest} (h1 : a ≈ b) (h2 : b ≈ c) : a ≈ c := fun p => (h1 p).trans (h2 p)
theorem treeEq_symm {a b : Forest} (h : a ≈ b) : b ≈ a := fun p => (h p).symm

theorem stripExcluded_congr (ex : List String) (a b : Forest) (h : a ≈ b) : stripExcluded ex a ≈ stripExcluded ex b := by
  intro p
  unfold stripExcluded
  rw [lookup_strip, lookup_strip, h p]

theorem stripExcluded_copyImage (ex : List String) (t : Forest) (hp : t.plain = true) :
    stripExcluded ex t ≈ stripExcluded ex (copyImage ex t) := by
  intro p
  unfold stripExcluded copyImage
  rw [strip_plain_keepOther _ _ hp, strip_idem]

/-- the path at which the two trees differ has no excluded component, so CompareFS walks it -/
theorem mut1_differs (ex : List String) (a b : Forest) (h : Mut1 ex a b) (hwa : a.wf = true) (hwb : b.wf = true) :
    ∃ p, (∀ c ∈ p, ex.contains c = false) ∧ a.lookup p ≠ b.lookup p := by
  have single : ∀ {n : String}, ex.contains n = false → ∀ c ∈ [n], ex.contains c = false :=
    fun hn c hc => List.mem_singleton.1 hc ▸ hn
  -- skipping an entry `n` whose name is in neither rest: the paths that differ do not start with `n`
  have skip : ∀ {n : String} {r r' : Forest} {p : Path}, n ∉ r.names → n ∉ r'.names → r.lookup p ≠ r'.lookup p →
      ∃ c qs, p = c :: qs ∧ ¬ n = c := by
    intro n r r' p hn hn' hp
    cases p with
    | nil => exact absurd (by rw [lookup_nil_path, lookup_nil_path]) hp
    | cons c qs =>
      refine ⟨c, qs, rfl, fun e => hp ?_⟩
      subst e
      rw [lookup_none_of_not_mem r n qs hn, lookup_none_of_not_mem r' n qs hn']
  induction h with
  | @changeFile n d d' r hn hd =>
    exact ⟨[n], single hn, by simpa [lookup] using hd⟩
  | @removeFile n d r hn =>
    exact ⟨[n], single hn, by simp [lookup, lookup_none_of_not_mem r n [] (wf_file hwa).1]⟩
  | @removeDir n s r hn =>
    exact ⟨[n], single hn, by simp [lookup, lookup_nil_path, lookup_none_of_not_mem r n [] (wf_dir hwa).1]⟩
  | @addFile n d r hn =>
    exact ⟨[n], single hn, by simp [lookup, lookup_none_of_not_mem r n [] (wf_file hwb).1]⟩
  | @addDir n s r hn =>
    exact ⟨[n], single hn, by simp [lookup, lookup_nil_path, lookup_none_of_not_mem r n [] (wf_dir hwb).1]⟩
  | @fileToDir n d s r hn => exact ⟨[n], single hn, by simp [lookup, lookup_nil_path]⟩
  | @dirToFile n d s r hn => exact ⟨[n], single hn, by simp [lookup, lookup_nil_path]⟩
  | @inDir n s s' r hn _ ih =>
    obtain ⟨p, hc, hp⟩ := ih (wf_dir hwa).2.1 (wf_dir hwb).2.1
    exact ⟨n :: p, List.forall_mem_cons.2 ⟨hn, hc⟩, by simpa [lookup] using hp⟩
  | @skipFile n d r r' _ ih =>
    obtain ⟨p, hc, hp⟩ := ih (wf_file hwa).2 (wf_file hwb).2
    obtain ⟨c, qs, rfl, hne⟩ := skip (wf_file hwa).1 (wf_file hwb).1 hp
    exact ⟨c :: qs, hc, by simpa [lookup, hne] using hp⟩
  | @skipDir n s r r' _ ih =>
    obtain ⟨p, hc, hp⟩ := ih (wf_dir hwa).2.2 (wf_dir hwb).2.2
    obtain ⟨c, qs, rfl, hne⟩ := skip (wf_dir hwa).1 (wf_dir hwb).1 hp
    exact ⟨c :: qs, hc, by simpa [lookup, hne] using hp⟩

end Diskfs.Sync
