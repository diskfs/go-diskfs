/-
  ext4 inode write-back as found (Model/Ext4/InodeWriteBack.lean): the record keeps its length, the dropped
  ranges come back as zeros.
-/
import DiskfsModel.Model.Ext4.InodeWriteBack
import DiskfsModel.Proofs.MetaInodeBytes
namespace Diskfs.Ext4.InodeCodec

theorem zeroDropped_length (b : Bytes) : (zeroDropped b).length = b.length := by simp [zeroDropped]

theorem zeroDropped_getElem? (b : Bytes) (i : Nat) :
    (zeroDropped b)[i]? = b[i]?.map fun x => if dropped i then 0 else x := by
  by_cases h : i < b.length <;> simp [zeroDropped, h, List.getD_eq_getElem?_getD]

theorem writeBack_length (keep : Bool) (b : Bytes) : (writeBack keep b).length = b.length := by
  unfold writeBack
  cases keep
  · simp only [Bool.false_eq_true, if_false]
    rw [putWord_length, zeroDropped_length]
  · rfl

/-- as found the flags word is the one place where write-back does more than `zeroDropped` -/
theorem writeBack_false_getElem? (b : Bytes) (i : Nat) (hf : i < 0x20 ∨ 0x24 ≤ i) :
    (writeBack false b)[i]? = (zeroDropped b)[i]? :=
  putWord_frame (zeroDropped b) 0x20 4 _ i hf

theorem writeBack_drops (b : Bytes) (i : Nat) (hi : i < b.length) (hd : dropped i = true) :
    (writeBack false b)[i]? = some 0 := by
  have hf : i < 0x20 ∨ 0x24 ≤ i := by
    simp only [dropped, Bool.or_eq_true, Bool.and_eq_true, decide_eq_true_eq] at hd; omega
  simp [writeBack_false_getElem? b i hf, zeroDropped_getElem?, hi, hd]

theorem writeBack_keeps (b : Bytes) (i : Nat) (hd : dropped i = false) (hf : i < 0x20 ∨ 0x24 ≤ i) :
    (writeBack false b)[i]? = b[i]? := by
  simp [writeBack_false_getElem? b i hf, zeroDropped_getElem?, hd]

theorem writeBack_wf (keep : Bool) (b : Bytes) (h : RecordWF b) : RecordWF (writeBack keep b) := by
  unfold RecordWF at *; rw [writeBack_length keep b]; exact h

end Diskfs.Ext4.InodeCodec
