/-
  AS-FOUND geometry.  Not imported by any Props file.
  About `mkGeom32` (the FAT32 sectors-per-FAT formula before fix 911b8cc) and about the smallest
  sizes FAT12 `Create` refuses (the 10-sector window only since fix 15916a3).  Unlike the property
  theorems (Proofs/FatGeomP*.lean, parametric in the tables, and Proofs/FatGeomGen.lean,
  instantiated by `decide`) these speak of today's tables: `lookup16` spells out its thresholds.
-/
import DiskfsModel.Proofs.FatGeomGen
namespace Diskfs.Fat

theorem lookup16 (size : Nat) :
    (size < 33554433 ∧ sizeTableLookup Generated.Fat.fat16_spc_table size = 2) ∨
    (33554433 ≤ size ∧ size < 134217729 ∧ sizeTableLookup Generated.Fat.fat16_spc_table size = 4) ∨
    (134217729 ≤ size ∧ size < 268435457 ∧ sizeTableLookup Generated.Fat.fat16_spc_table size = 8) ∨
    (268435457 ≤ size ∧ size < 536870913 ∧ sizeTableLookup Generated.Fat.fat16_spc_table size = 16) ∨
    (536870913 ≤ size ∧ size < 1073741825 ∧ sizeTableLookup Generated.Fat.fat16_spc_table size = 32) ∨
    (1073741825 ≤ size ∧ sizeTableLookup Generated.Fat.fat16_spc_table size = 64) := by
  by_cases h1 : size < 33554433
  · simp [sizeTableLookup, Generated.Fat.fat16_spc_table, h1]
  by_cases h2 : size < 134217729
  · simp [sizeTableLookup, Generated.Fat.fat16_spc_table, List.find?, h1, h2]; omega
  by_cases h3 : size < 268435457
  · simp [sizeTableLookup, Generated.Fat.fat16_spc_table, List.find?, h1, h2, h3]; omega
  by_cases h4 : size < 536870913
  · simp [sizeTableLookup, Generated.Fat.fat16_spc_table, List.find?, h1, h2, h3, h4]; omega
  by_cases h5 : size < 1073741825
  · simp [sizeTableLookup, Generated.Fat.fat16_spc_table, List.find?, h1, h2, h3, h4, h5]; omega
  · simp [sizeTableLookup, Generated.Fat.fat16_spc_table, List.find?, h1, h2, h3, h4, h5]; omega

/-- below 11 sectors FAT12 Create always fails: up to 9 sectors the uint32 data-sector count wraps and
    the upper cluster-count check rejects the result, at 10 sectors no data cluster is left -/
theorem mkGeom12_small_none (size : Nat) (hs : size < 5632) :
    mkGeom12 Generated.Fat.fat12_spc_table size = none := by
  unfold mkGeom12
  by_cases h2 : size < 512 * 4
  · rw [if_neg (by simp only [MB]; omega), if_pos h2]
  have hl : sizeTableLookup Generated.Fat.fat12_spc_table size = 1 := by
    simp [sizeTableLookup, Generated.Fat.fat12_spc_table, show size < 2097153 by omega]
  rw [if_neg (by simp only [MB]; omega), if_neg h2]
  simp only [hl, if_pos (show size ≤ 512 * KB by simp only [KB]; omega)]
  -- what is left depends on the sector count alone
  have hts : size / 512 = 4 ∨ size / 512 = 5 ∨ size / 512 = 6 ∨ size / 512 = 7 ∨ size / 512 = 8 ∨
      size / 512 = 9 ∨ size / 512 = 10 := by omega
  rcases hts with h | h | h | h | h | h | h <;> rw [h] <;> decide

theorem mkGeom12_tiny_none (size : Nat) (hs : size < 5120) :
    mkGeom12 Generated.Fat.fat12_spc_table size = none :=
  mkGeom12_small_none size (by omega)

/-- `mkGeom12` as it was before "fat12.Create refuses a size that leaves no data cluster" -/
def mkGeom12NoZeroCheck (tbl : List (Nat × Nat)) (size : Nat) : Option Geom :=
  if size > 128 * MB then none
  else if size < 512 * 4 then none
  else
    let ts := u32 (size / 512)
    let spc := u8 (sizeTableLookup tbl size)
    let rootEntries := if size ≤ 512 * KB then 112 else 224
    let rds := (rootEntries * 32 + 511) / 512
    let ds := sub32 (sub32 ts 1) rds
    let nc := ds / spc
    let spf := u16 (sub32 (u32 (u32 (u32 ((nc + 2) * 3) / 2 + 1) + 512)) 1 / 512)
    let ds2 := sub32 (sub32 (sub32 ts 1) rds) (u32 (2 * spf))
    let nc2 := ds2 / spc
    if nc2 ≥ 4085 then none
    else some ⟨.f12, 512, spc, 1, spf, rootEntries, ts⟩

/-- historical: without the zero-cluster check, 5120 bytes (10 sectors) gave a volume with no data cluster -/
theorem cex_mkGeom12_tiny :
    (mkGeom12NoZeroCheck Generated.Fat.fat12_spc_table 5120).map Geom.clusters = some 0 := by decide

theorem mkGeom12_window_refused (size : Nat) (h1 : 5120 ≤ size) (h2 : size < 5632) :
    mkGeom12 Generated.Fat.fat12_spc_table size = none :=
  mkGeom12_small_none size h2

-- not used by the proofs in this file
set_option hygiene false in
macro "geom32_block" B:num : tactic => `(tactic| (
  have hT0 : size / $B < 4294967296 := by omega
  rw [u32_of_lt hT0] at c1 c2 c3 ⊢
  have hT1 : $B * (size / $B) ≤ size := by omega
  have hT2 : size < $B * (size / $B) + $B := by omega
  have hT3 : 32 ≤ size / $B := by omega
  generalize size / $B = ts at *
  rcases lookup32 size with ⟨hr2, hl⟩ | ⟨hr1, hr2, hl⟩ | ⟨hr1, hr2, hl⟩ | ⟨hr1, hr2, hl⟩ | ⟨hr1, hl⟩ <;>
  ( rw [hl] at c1 c2 c3 ⊢
    simp only [u8, Nat.reduceDiv, Nat.reduceMod, Nat.reduceEqDiff, ↓reduceIte] at c1 c2 c3 ⊢
    generalize hd : u32 (u32 _ * _ + 8) = d at c1 c2 c3 ⊢
    simp only [u32, Nat.reduceMod, Nat.reduceMul, Nat.reduceAdd] at hd
    rw [sub32_of_le hT3 (by omega)] at c1 c2 c3 ⊢
    rw [spf32_eq d (ts - 32) (by omega) (by omega) (by omega) (by omega)] at c1 c2 c3 ⊢
    subst hd
    simp only [u32] at c2
    simp only [KB] at c3
    refine ⟨?_, ?_, ?_, ?_, ?_, ?_, ?_⟩ <;>
      (try simp only [Geom.rootSectors, Geom.dataSectors, Geom.clusters, Geom.fatEntries, Geom.dataStart]) <;>
      first | trivial | omega )))

/-- largest size up to which the as-found sectors-per-FAT value stays inside its uint16 -/
def fat32CapAsFound (bs : Nat) : Nat := if bs = 4096 then fat32MaxSize else 274940837375

/-- FINDING. The intended statement
      `size ≤ 256 * GB → mkGeom32 … size bs = some g → g.WF size ∧ g.kind = .f32`
    is FALSE: `sectorsPerFat = ⌈4·(ts−32) / (bs·spc+8)⌉` gives every data cluster a FAT entry but
    forgets the two reserved entries, so `fat_holds` (clusters + 2 ≤ fatEntries) fails for ordinary
    sizes (`cex_mkGeom32_fat_short*`, `mkGeom32_fat_short_family` of Proofs/FatGeomGen.lean).  With
    that one field assumed the rest holds, and unconditionally `clusters ≤ fatEntries`: `mkGeom32K_wf`
    at `k = 0`, whose row condition `decide` settles for today's table.
    The size bound is exact for 512-byte sectors (`cex_mkGeom32_bound_tight`); with 4096-byte sectors
    the uint16 never wraps below `fat32MaxSize`. -/
theorem mkGeom32_wf (size bs : Nat) (g : Geom)
    (hmax : size ≤ 274940837375 ∨ bs = 4096)
    (h : mkGeom32 Generated.Fat.fat32_clusterBytes_table size bs = some g)
    (hfat : g.clusters + 2 ≤ g.fatEntries) :
    g.WF size ∧ g.kind = .f32 := by
  obtain ⟨-, h2, h3⟩ :=
    mkGeom32K_wf (k := 0) (cap := fat32CapAsFound) (by decide) (by decide) (by decide) (by decide)
      (fun _ => by unfold fat32CapAsFound; split <;> split <;> omega) (mkGeom32_eq_K ▸ h)
  exact ⟨h2 hfat, h3⟩

/-- the statement with the bound as asked (256 GiB < 274940837375) -/
theorem mkGeom32_wf_256 (size bs : Nat) (g : Geom) (hmax : size ≤ 256 * GB)
    (h : mkGeom32 Generated.Fat.fat32_clusterBytes_table size bs = some g)
    (hfat : g.clusters + 2 ≤ g.fatEntries) :
    g.WF size ∧ g.kind = .f32 :=
  mkGeom32_wf size bs g (Or.inl (by simp only [GB] at hmax; omega)) h hfat

/-- the bound in `mkGeom32_wf` is the exact one: one byte more and `sectorsPerFat` wraps to 0 -/
theorem cex_mkGeom32_bound_tight :
    (mkGeom32 Generated.Fat.fat32_clusterBytes_table 274940837376 512).map
      (fun g => (g.fatSectors, decide (g.fatEntries < g.clusters + 2))) = some (0, true) := by decide

end Diskfs.Fat
