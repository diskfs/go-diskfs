/-
  From the workspace tree to the hypotheses of `reader_on_writes`.  Lengths of extents and path tables
  do not depend on locations, so the sizes that the location assignment needs are known before it;
  the assignment `WTree.loc` is `Placed`; resolved names give siblings distinct identifiers of at most
  14 bytes; below the size limits (`Fits32`) tree and descriptor are well formed, and the reader started on
  what Finalize writes returns the tree (`compose_reader`).
-/
import DiskfsModel.Model.Iso.Compose
import DiskfsModel.Proofs.IsoWrites
import DiskfsModel.Proofs.IsoNames
namespace Diskfs.Iso

theorem lookup_zip_map : ∀ (keys vals : List Nat), keys.Nodup → keys.length = vals.length →
    keys.map (fun k => ((keys.zip vals).lookup k).getD 0) = vals
  | [], [], _, _ => rfl
  | [], _ :: _, _, hl => nomatch hl
  | _ :: _, [], _, hl => nomatch hl
  | k :: ks, v :: vs, hn, hl => by
    have hnd := List.nodup_cons.1 hn
    simp only [List.map_cons, List.zip_cons_cons, List.lookup_cons, BEq.rfl, Option.getD_some, List.cons.injEq, true_and]
    refine (List.map_congr_left fun a ha => ?_).trans (lookup_zip_map ks vs hnd.2 (Nat.succ.inj hl))
    rw [show (a == k) = false from beq_false_of_ne fun e => hnd.1 (e ▸ ha)]

theorem getD_idxOf (l : List Nat) (c : Nat) (h : c ∈ l) : l.getD (l.idxOf c) 0 = c := by
  have hlt := List.idxOf_lt_length_of_mem h
  rw [getD_eq_of_lt _ _ _ hlt]
  exact List.getElem_idxOf hlt

theorem dirBytes_length (w : WTree) (fin : Nat → Nat → Nm) (bs : Nat) (loc size : Nat → Nat) (d : Nat) :
    ((w.ptree fin loc size).dirBytes bs d).length = w.dsize fin bs d := by
  apply Nat.add_left_cancel (n := 0)
  rw [WTree.dsize, PTree.dirBytes, PTree.dirBytes, encodeExtent, encodeExtent, encSuffix_length, encSuffix_length]
  simp only [PTree.dirRecs, List.map_cons, List.map_map, Function.comp_def, encodeRec_length_eq]
  rfl

theorem ptBytes_length (w : WTree) (fin : Nat → Nat → Nm) (loc loc' : Nat → Nat) (pt : List Nat) (big big' : Bool) :
    (encodePtTable big (w.ptRecs fin loc pt)).length = (encodePtTable big' (w.ptRecs fin loc' pt)).length := by
  simp only [encodePtTable_length, WTree.ptRecs, List.map_map]
  rfl

section
variable {w : WTree} {fin : Nat → Nat → Nm} {bs : Nat} {o : Order} {sysId volId tail : Bytes}

theorem image_mid_blocks (hbs : 0 < bs) :
    (((w.image fin bs o sysId volId tail).mid.map (·.data)).map fun b => blocksFor b.length bs) = w.blocks fin bs o := by
  simp only [WTree.image, ImageIn.mid, WTree.blocks, WTree.lens, List.map_append, List.map_map, List.map_cons, List.map_nil]
  refine congr (congrArg HAppend.hAppend (List.map_congr_left fun d _ => ?_))
    (congr (congrArg HAppend.hAppend ?_) (List.map_congr_left fun f _ => ?_))
  · simp only [Function.comp_def, blocksFor_padBlock bs hbs, dirBytes_length]
  · rw [ptBytes_length w fin (w.loc fin bs o) (fun _ => 0) o.pt false false,
      ptBytes_length w fin (w.loc fin bs o) (fun _ => 0) o.pt true true]
  · simp only [Function.comp_def, blocksFor_padBlock bs hbs]
    rfl

theorem keys_nodup (hok : w.OK o) : (w.keys o).Nodup := by
  have hf : ∀ x ∈ o.files, x < w.n := fun x hx => ((hok.filesOK x).1 hx).1
  rw [WTree.keys, List.nodup_append, List.cons_append, List.cons_append, List.nil_append, List.nodup_cons, List.nodup_cons]
  refine ⟨hok.dirsNodup, ⟨fun h => ?_, fun h => ?_, hok.filesNodup⟩, fun a ha b hb e => ?_⟩
  · rcases List.mem_cons.1 h with h | h
    · omega
    · have := hf _ h; omega
  · have := hf _ h; omega
  · subst e
    have h1 := (hok.dirsOK a).1 ha
    rcases List.mem_cons.1 hb with rfl | hb
    · omega
    · rcases List.mem_cons.1 hb with rfl | hb
      · omega
      · exact absurd (h1.2.symm.trans ((hok.filesOK a).1 hb).2) (by simp)

theorem keys_loc (hok : w.OK o) :
    (w.keys o).map (w.loc fin bs o) = (seqAlloc (dataStartSector + 2) (w.blocks fin bs o)).map (·.1) :=
  lookup_zip_map (w.keys o) _ (keys_nodup hok) (by simp [WTree.keys, seqAlloc_length, WTree.blocks, WTree.lens])

theorem image_placed (hbs : 0 < bs) (hok : w.OK o) : (w.image fin bs o sysId volId tail).Placed := by
  apply placed_of_offsets
  have hb : (w.image fin bs o sysId volId tail).bs = bs := rfl
  rw [hb, image_mid_blocks hbs]
  have : (w.image fin bs o sysId volId tail).mid.map (·.off) = ((w.keys o).map (w.loc fin bs o)).map (· * bs) := by
    simp [WTree.image, ImageIn.mid, WTree.keys, WTree.ptree, WTree.pent]
    rfl
  rw [this, keys_loc hok, List.map_map]
  rfl

theorem image_volBlocks (hbs : 0 < bs) : (w.image fin bs o sysId volId tail).volBlocks = w.total fin bs o := by
  unfold ImageIn.volBlocks WTree.total
  have hb : (w.image fin bs o sysId volId tail).bs = bs := rfl
  rw [hb, image_mid_blocks hbs]

theorem image_mid_bounds (hbs : 0 < bs) (hok : w.OK o) :
    ∀ x ∈ (w.image fin bs o sysId volId tail).mid,
      (dataStartSector + 2) * bs ≤ x.off ∧ x.off + blocksFor x.data.length bs * bs ≤ w.total fin bs o * bs := by
  intro x hx
  rw [image_placed hbs hok] at hx
  rw [← image_volBlocks (sysId := sysId) (volId := volId) (tail := tail) hbs]
  exact seqWr_inside _ _ _ x hx

theorem loc_le_total (hbs : 0 < bs) (hok : w.OK o) {l : Nat} {b : Bytes}
    (hx : (⟨l * bs, b⟩ : Wr) ∈ (w.image fin bs o sysId volId tail).mid) : l ≤ w.total fin bs o :=
  Nat.le_of_mul_le_mul_right (Nat.le_trans (Nat.le_add_right ..) (image_mid_bounds hbs hok _ hx).2) hbs

theorem piece_small {l len tot : Nat} (hbs : 0 < bs) (h : l * bs + blocksFor len bs * bs ≤ tot * bs) (hlim : tot * bs < 2 ^ 32) :
    len < 2 ^ 32 := by
  have h2 := (blocksFor_covers len bs hbs).1
  omega

/-- every entry has its piece in `mid`, at its location; stated for the image with empty opaque descriptor
    parts, on which `mid` does not depend -/
theorem ent_in_mid (hok : w.OK o) (c : Nat) (hc : c < w.n) :
    ∃ b : Bytes, b.length = w.size fin bs c ∧
      (⟨w.loc fin bs o c * bs, padBlock bs b⟩ : Wr) ∈ (w.image fin bs o [] [] []).mid := by
  cases hcd : w.isDir c
  · exact ⟨w.content c, by simp [WTree.size, hcd], ImageIn.file_mem_mid _ ((hok.filesOK c).2 ⟨hc, hcd⟩)⟩
  · exact ⟨(w.ptree fin (w.loc fin bs o) (w.size fin bs)).dirBytes bs c, by simp [WTree.size, hcd, dirBytes_length],
      ImageIn.dir_mem_mid _ ((hok.dirsOK c).2 ⟨hc, hcd⟩)⟩

theorem fits_ptree (loc size : Nat → Nat) (fuel d : Nat) (h : w.Fits fuel d) : (w.ptree fin loc size).Fits fuel d := by
  induction fuel generalizing d with
  | zero => exact h
  | succ f ih => exact fun c hc hdir => ih c (h c hc hdir)

end

theorem strBytes_toNat (s : Str) (hs : ∀ c ∈ s, c < 256) : (strBytes s).map UInt8.toNat = s := by
  rw [strBytes, List.map_map]
  exact (List.map_congr_left fun c hc => UInt8.toNat_ofNat_of_lt' (hs c hc)).trans (List.map_id _)

theorem strBytes_inj (a b : Str) (ha : ∀ c ∈ a, c < 256) (hb : ∀ c ∈ b, c < 256) (h : strBytes a = strBytes b) : a = b := by
  rw [← strBytes_toNat a ha, ← strBytes_toNat b hb, h]

section
variable {w : WTree} {order : Nat → List Nm} {fin : Nat → Nat → Nm}

theorem WTree.Resolved.spec (hr : w.Resolved order fin) (d : Nat) (hd : d < w.n) (hdir : w.isDir d = true) :
    (∀ i j, i < (w.kids d).length → j < (w.kids d).length → i ≠ j → fin d i ≠ fin d j) ∧
    (∀ i, i < (w.kids d).length → Valid83 (fin d i)) ∧
    (∀ i, i < (w.kids d).length → (fin d i).2 = (w.orig d i).2) := by
  have h : resolveAll _ (w.orig d) (order d) (w.orig d) = some (fin d) := hr.res d hd hdir
  have inv := resolveAll_inv _ _ (fun _ _ => entryName_valid _ _) _ _ h
  exact ⟨inv.distinct fun i hi hm => List.mem_reverse.2 (hr.cover d hd hdir i hi hm), inv.valid,
    resolveAll_ext _ _ _ _ _ (fun _ _ => rfl) h⟩

theorem ident_kids {o : Order} (hok : w.OK o) (hr : w.Resolved order fin) (d : Nat) (hd : d < w.n) (hdir : w.isDir d = true) :
    (∀ c ∈ w.kids d, (w.ident fin c).length ≤ 14 ∧
      w.ident fin c = strBytes (isoIdent (fin d ((w.kids d).idxOf c)) (w.isDir c))) ∧
    (∀ c1 ∈ w.kids d, ∀ c2 ∈ w.kids d, c1 ≠ c2 → w.ident fin c1 ≠ w.ident fin c2) := by
  have F := hr.spec d hd hdir
  have hid : ∀ c ∈ w.kids d, w.ident fin c = strBytes (isoIdent (fin d ((w.kids d).idxOf c)) (w.isDir c)) := by
    intro c hc
    have := hok.kidsPar d hd c hc
    simp only [WTree.ident, this.2, if_false, this.1]
  have hdirext : ∀ c ∈ w.kids d, w.isDir c = true → (fin d ((w.kids d).idxOf c)).2 = [] := by
    intro c hc hcd
    rw [F.2.2 _ (List.idxOf_lt_length_of_mem hc)]
    simp only [WTree.orig, getD_idxOf _ _ hc, hcd, entryName, if_true]
  refine ⟨?_, ?_⟩
  · intro c hc
    refine ⟨?_, hid c hc⟩
    rw [hid c hc]
    simp only [strBytes, List.length_map]
    exact (isoIdent_small _ _ (F.2.1 _ (List.idxOf_lt_length_of_mem hc))).1
  · intro c1 h1 c2 h2 hne e
    rw [hid c1 h1, hid c2 h2] at e
    have l1 := List.idxOf_lt_length_of_mem h1
    have l2 := List.idxOf_lt_length_of_mem h2
    have v1 := F.2.1 _ l1
    have v2 := F.2.1 _ l2
    have e' := strBytes_inj _ _ (isoIdent_small _ _ v1).2 (isoIdent_small _ _ v2).2 e
    have e'' := isoIdent_inj _ _ _ _ v1 v2 (hdirext c1 h1) (hdirext c2 h2) e'
    have hidx : (w.kids d).idxOf c1 ≠ (w.kids d).idxOf c2 := by
      intro hi
      apply hne
      rw [← getD_idxOf _ _ h1, ← getD_idxOf _ _ h2, hi]
    exact F.1 _ _ l1 l2 hidx e''

end

/-- volume size, every entry's size and the path table length fit the 32-bit fields of the format -/
structure WTree.Fits32 (w : WTree) (fin : Nat → Nat → Nm) (bs : Nat) (o : Order) : Prop where
  total : w.total fin bs o < 2 ^ 32
  size : ∀ c, c < w.n → w.size fin bs c < 2 ^ 32
  pt : (encodePtTable false (w.ptRecs fin (w.loc fin bs o) o.pt)).length < 2 ^ 32

section
variable {w : WTree} {order : Nat → List Nm} {fin : Nat → Nat → Nm} {bs : Nat} {o : Order} {sysId volId tail : Bytes}

theorem ident_le (hok : w.OK o) (hr : w.Resolved order fin) (c : Nat) (hc : c < w.n) : (w.ident fin c).length ≤ 14 := by
  by_cases h0 : c = 0
  · simp [WTree.ident, h0]
  · have hk := hok.inKids c hc h0
    exact ((ident_kids hok hr (w.parent c) (hok.parLt c hc) hk.1).1 c hk.2).1

theorem ptree_wf (hbs : 0 < bs) (hok : w.OK o) (hr : w.Resolved order fin) (h32 : w.Fits32 fin bs o) :
    (w.ptree fin (w.loc fin bs o) (w.size fin bs)).WF := by
  refine ⟨hok.kidsLt, hok.parLt, fun c hc => ⟨?_, h32.size c hc, hok.date7 c hc, ?_⟩⟩
  · obtain ⟨b, _, hx⟩ := ent_in_mid (fin := fin) (bs := bs) hok c hc
    exact Nat.lt_of_le_of_lt (loc_le_total hbs hok hx) h32.total
  · exact Nat.lt_of_le_of_lt (ident_le hok hr c hc) (by decide)

theorem pvd_wf (hbs : 0 < bs) (hbs16 : bs < 2 ^ 16) (hok : w.OK o) (hr : w.Resolved order fin) (h32 : w.Fits32 fin bs o)
    (hs : sysId.length = 32) (hv : volId.length = 32) (ht : tail.length = 1858) :
    (w.image fin bs o sysId volId tail).pvd.WF := by
  have hroot := (ptree_wf hbs hok hr h32).2.2 0 hok.pos
  have hL := loc_le_total hbs hok (ImageIn.ptL_mem_mid (w.image fin bs o sysId volId tail))
  have hM := loc_le_total hbs hok (ImageIn.ptM_mem_mid (w.image fin bs o sysId volId tail))
  exact ⟨hs, hv, h32.total, (by decide : 1 < 2 ^ 16), (by decide : 1 < 2 ^ 16), hbs16, h32.pt, Nat.lt_of_le_of_lt hL h32.total,
    (by decide : 0 < 2 ^ 32), Nat.lt_of_le_of_lt hM h32.total, (by decide : 0 < 2 ^ 32), hroot.1, hroot.2.1, hroot.2.2.1, rfl, ht⟩

-- `o.pt` is not constrained here (`WTree.OK` says nothing of it): the reader does not read the path tables;
-- `PtOK` enters in IsoComposePT
theorem compose_reader (hbs : 2048 ≤ bs) (hbs16 : bs < 2 ^ 16) (hok : w.OK o) (hr : w.Resolved order fin)
    (h32 : w.Fits32 fin bs o) (hs : sysId.length = 32) (hv : volId.length = 32) (ht : tail.length = 1858)
    (d0 : Dev) (fuel : Nat) (hfit : w.Fits fuel 0) :
    readImageP ((w.image fin bs o sysId volId tail).imageOn d0) (16 * bs) fuel =
      some ((w.image fin bs o sysId volId tail).pvd, (w.ptree fin (w.loc fin bs o) (w.size fin bs)).walk fuel [] 0) := by
  have hb0 : 0 < bs := by omega
  have hp := pvd_wf hb0 hbs16 hok hr h32 hs hv ht
  rw [imageOn_eq]
  refine reader_on_writes (w.image fin bs o sysId volId tail) d0 fuel (Nat.le_trans (by decide) hbs)
    (ptree_wf hb0 hok hr h32) hp rfl rfl hok.pos hok.rootDir
    (fun d hd hdir => (hok.dirsOK d).2 ⟨hd, hdir⟩) (fun c hc hf => (hok.filesOK c).2 ⟨hc, hf⟩) (fun d hd => ?_) (fun f hf => ?_)
    (placed_writes_disjoint _ hbs hp (image_placed hb0 hok)) (fits_ptree _ _ fuel 0 hfit)
  · show w.size fin bs d = ((w.ptree fin (w.loc fin bs o) (w.size fin bs)).dirBytes bs d).length
    simp [dirBytes_length, WTree.size, ((hok.dirsOK d).1 hd).2]
  · show w.size fin bs f = (w.content f).length
    simp [WTree.size, ((hok.filesOK f).1 hf).2]

theorem small_of_4g (hbs : 0 < bs) (hok : w.OK o) (hlim : w.total fin bs o * bs < 2 ^ 32) : w.Fits32 fin bs o := by
  refine ⟨Nat.lt_of_le_of_lt (Nat.le_mul_of_pos_right _ hbs) hlim, fun c hc => ?_, ?_⟩
  · obtain ⟨b, hb, hx⟩ := ent_in_mid (fin := fin) (bs := bs) hok c hc
    have := (image_mid_bounds hbs hok _ hx).2
    rw [blocksFor_padBlock bs hbs, hb] at this
    exact piece_small hbs this hlim
  · exact piece_small hbs (image_mid_bounds hbs hok _ (ImageIn.ptL_mem_mid (w.image fin bs o [] [] []))).2 hlim

/-- the pieces behind the descriptor set (`mid`: directory extents in whole blocks, the two path tables, file
    extents in whole blocks) lie between block 18 (`dataStartSector + 2`) and the end of the volume, in layout order -/
theorem compose_extents (hbs : 0 < bs) (hok : w.OK o) :
    (∀ x ∈ (w.image fin bs o sysId volId tail).mid,
      (dataStartSector + 2) * bs ≤ x.off ∧ x.off + x.data.length ≤ w.total fin bs o * bs) ∧
    (w.image fin bs o sysId volId tail).mid.Pairwise (fun a b => a.off + a.data.length ≤ b.off) := by
  refine ⟨fun x hx => ?_, ?_⟩
  · have := image_mid_bounds hbs hok x hx
    have hc := (blocksFor_covers x.data.length bs hbs).1
    omega
  · rw [image_placed hbs hok]
    exact seqWr_pairwise _ hbs _ _

end

end Diskfs.Iso
