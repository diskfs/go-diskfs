/-
  C03, FAT clause: every WriteAt of the modelled FAT operations lies inside the byte range
  [start, start+size) the volume was given.  The scan limit of allocateSpace keeps every cluster number
  inside the volume (`Layout.cluster_in_range`); each emission primitive of Model/Fat/Emit.lean stays inside
  for a well-formed layout; hence every operation and every history do; and the layout `Create` derives
  from a well-formed geometry is well formed, with scan limit data clusters + 2.
-/
import DiskfsModel.Model.Fat.Emit
import DiskfsModel.Proofs.FatFlatFs
import DiskfsModel.Proofs.FatGeomGen
namespace Diskfs.Fat

theorem fstepW_eq (eqn : Spec.Name → Spec.Name → Bool) (L : Layout) (fuel : Nat) (s : FState) (op : FOp) :
    ((fstepW eqn L fuel s op).s, (fstepW eqn L fuel s op).ok) = fstep eqn L.fgeom fuel s op := by
  cases op with
  | create n =>
    simp only [fstepW, fstep]
    cases ffind eqn s.files n with
    | some f => rfl
    | none =>
      simp only []
      cases (falloc L.fgeom fuel s.m 1 0).res <;> rfl
  | writeAt n off data =>
    simp only [fstepW, fstep]
    cases ffind eqn s.files n with
    | none => rfl
    | some f =>
      simp only []
      by_cases hz : data.length = 0
      · simp only [if_pos hz]
      · simp only [if_neg hz]
        cases (falloc L.fgeom fuel s.m (Nat.max f.size (off + data.length)) (f.chain.headD 0)).res with
        | none => rfl
        | some l' =>
          simp only []
          show _ = (match writeH true L.io l' f.size off data with | none => _ | some ws => _)
          cases writeH true L.io l' f.size off data <;> rfl
  | truncate n =>
    simp only [fstepW, fstep]
    cases ffind eqn s.files n with
    | none => rfl
    | some f =>
      simp only []
      by_cases hz : f.size = 0
      · simp only [if_pos hz]
      · simp only [if_neg hz]
        cases (falloc L.fgeom fuel s.m 1 (f.chain.headD 0)).res <;> rfl
  | remove n =>
    simp only [fstepW, fstep]
    cases ffind eqn s.files n with
    | none => rfl
    | some f =>
      simp only []
      show _ = (if (freeChain L.kind L.max fuel s.m (f.chain.headD 0)).2 = true then _ else _)
      by_cases hr : (freeChain L.kind L.max fuel s.m (f.chain.headD 0)).2 = true
      · simp only [if_pos hr]; rfl
      · simp only [if_neg hr]
  | rename o n =>
    simp only [fstepW, fstep]
    cases ffind eqn s.files o with
    | none => rfl
    | some f =>
      simp only []
      by_cases hon : eqn o n = true
      · simp only [if_pos hon]
      · simp only [if_neg hon]
        cases ffind eqn s.files n with
        | none => rfl
        | some t =>
          simp only []
          show _ = (if (freeChain L.kind L.max fuel s.m (t.chain.headD 0)).2 = true then _ else _)
          by_cases hr : (freeChain L.kind L.max fuel s.m (t.chain.headD 0)).2 = true
          · simp only [if_pos hr]; rfl
          · simp only [if_neg hr]

theorem fstepW_s (eqn : Spec.Name → Spec.Name → Bool) (L : Layout) (fuel : Nat) (s : FState) (op : FOp) :
    (fstepW eqn L fuel s op).s = (fstep eqn L.fgeom fuel s op).1 := by
  rw [← fstepW_eq]

theorem fstepW_ok (eqn : Spec.Name → Spec.Name → Bool) (L : Layout) (fuel : Nat) (s : FState) (op : FOp) :
    (fstepW eqn L fuel s op).ok = (fstep eqn L.fgeom fuel s op).2 := by
  rw [← fstepW_eq]

theorem Layout.lim_le_max (L : Layout) : L.lim ≤ L.max := by
  unfold Layout.lim
  split <;> omega

/-- `scanLimit ≤ (size − dataStart) / bytesPerCluster + 2`: this is what `dataClusterLimit` is for -/
theorem Layout.lim_le_data_clusters (L : Layout) (h : L.WF) : L.lim ≤ (L.size - L.dataStart) / L.bpc + 2 := by
  have hb := h.bpc_pos
  have hd := h.data_lt
  have hc : ¬(L.bpc = 0 ∨ L.size ≤ L.dataStart) := by omega
  unfold Layout.lim Layout.dataClusterLimit
  simp only [if_neg hc]
  generalize (L.size - L.dataStart) / L.bpc = q
  split <;> split <;> omega

theorem Layout.cluster_in_range (L : Layout) (h : L.WF) (c : Nat) (h2 : 2 ≤ c) (hc : c < L.lim) :
    L.start ≤ clusterOff L.io c ∧ clusterOff L.io c + L.bpc ≤ L.start + L.size := by
  have hl := L.lim_le_data_clusters h
  have hd := h.data_lt
  have hq : (L.size - L.dataStart) / L.bpc * L.bpc ≤ L.size - L.dataStart := Nat.div_mul_le_self ..
  have h1 : (c - 2 + 1) * L.bpc ≤ (L.size - L.dataStart) / L.bpc * L.bpc :=
    Nat.mul_le_mul_right _ (by omega)
  rw [Nat.add_mul, Nat.one_mul] at h1
  simp only [clusterOff, Layout.io]
  omega

theorem Layout.wrBoot_in_range (L : Layout) (h : L.WF) : ∀ w ∈ L.wrBoot, L.InRange w := by
  have hb := h.boot
  have h1 := h.fat1_le; have h2 := h.fat2_le; have h3 := h.root_le; have h4 := h.data_lt
  unfold Layout.wrBoot
  cases hk : L.kind <;> simp only [hk] at hb ⊢
  · simp only [List.mem_singleton, forall_eq, Layout.InRange, zeros_length]; omega
  · simp only [List.mem_singleton, forall_eq, Layout.InRange, zeros_length]; omega
  · rw [Nat.add_mul] at hb
    split <;> simp only [List.mem_cons, List.not_mem_nil, or_false, forall_eq_or_imp, forall_eq, Layout.InRange,
      zeros_length] <;> omega

theorem Layout.wrFsis_in_range (L : Layout) (h : L.WF) : ∀ w ∈ L.wrFsis, L.InRange w := by
  have hb := h.boot
  have h1 := h.fat1_le; have h2 := h.fat2_le; have h3 := h.root_le; have h4 := h.data_lt
  unfold Layout.wrFsis
  cases hk : L.kind <;> simp only [hk] at hb ⊢
  · nofun
  · nofun
  · rw [Nat.add_mul, Nat.add_mul, Nat.one_mul] at hb
    split <;> simp only [List.mem_cons, List.not_mem_nil, or_false, forall_eq_or_imp, forall_eq, Layout.InRange,
      zeros_length, Nat.add_mul, Nat.one_mul] <;> omega

theorem Layout.wrFat_in_range (L : Layout) (h : L.WF) : ∀ w ∈ L.wrFat, L.InRange w := by
  have h1 := h.fat1_le; have h2 := h.fat2_le; have h3 := h.root_le; have h4 := h.data_lt
  unfold Layout.wrFat
  rw [List.forall_mem_append]
  refine ⟨?_, L.wrFsis_in_range h⟩
  simp only [List.mem_cons, List.not_mem_nil, or_false, forall_eq_or_imp, forall_eq, Layout.InRange, zeros_length]
  omega

theorem Layout.wrRoot_in_range (L : Layout) (h : L.WF) : ∀ w ∈ L.wrRoot, L.InRange w := by
  have h3 := h.root_le; have h4 := h.data_lt
  simp only [Layout.wrRoot, List.mem_singleton, forall_eq, Layout.InRange, zeros_length]
  omega

theorem Layout.wrDirChain_in_range (L : Layout) (h : L.WF) (chain : List Nat)
    (hc : ∀ c ∈ chain, 2 ≤ c ∧ c < L.lim) : ∀ w ∈ L.wrDirChain chain, L.InRange w := by
  intro w hw
  unfold Layout.wrDirChain at hw
  obtain ⟨c, hcm, rfl⟩ := List.mem_map.1 hw
  have := L.cluster_in_range h c (hc c hcm).1 (hc c hcm).2
  unfold Layout.InRange
  simp only [zeros_length]; omega

theorem Layout.data_in_range (L : Layout) (h : L.WF) (chain : List Nat) (ws : List Wr)
    (hc : ∀ c ∈ chain, 2 ≤ c ∧ c < L.lim)
    (hws : ∀ w ∈ ws, ∃ c ∈ chain, InCluster L.io c w) :
    ∀ w ∈ ws, L.InRange w := by
  intro w hw
  obtain ⟨c, hcm, hin⟩ := hws w hw
  have := L.cluster_in_range h c (hc c hcm).1 (hc c hcm).2
  unfold InCluster at hin
  unfold Layout.InRange
  simp only [Layout.io] at hin this
  omega

/-- `Create`: needs cluster 2 to exist when the root directory is a chain (FAT32) -/
theorem Layout.createWrites_in_range (L : Layout) (h : L.WF) (hroot : 0 < L.rootBytes ∨ 2 < L.lim) :
    ∀ w ∈ L.createWrites, L.InRange w := by
  have hdir : ∀ w ∈ L.wrRootDir, L.InRange w := by
    unfold Layout.wrRootDir
    split
    · exact L.wrRoot_in_range h
    · exact L.wrDirChain_in_range h [2] fun c hc => by cases List.mem_singleton.1 hc; omega
  have hzero : ∀ w ∈ (if L.rootBytes > 0 then L.wrRoot else [⟨L.start + L.dataStart, zeros L.bpc⟩]), L.InRange w := by
    split
    · exact L.wrRoot_in_range h
    · have := L.cluster_in_range h 2 (by omega) (by omega)
      simp only [clusterOff, Layout.io] at this
      simp only [List.mem_singleton, forall_eq, Layout.InRange, zeros_length]
      omega
  unfold Layout.createWrites
  simp only [List.forall_mem_append]
  exact ⟨⟨⟨⟨L.wrBoot_in_range h, L.wrFat_in_range h⟩, hzero⟩, L.wrBoot_in_range h⟩, hdir⟩

/-- **every write of one operation**, accepted or refused, lies inside [start, start+size) — the zero-length
    WriteAt calls the Go loop issues for the clusters behind the payload included: they go to clusters of the chain -/
theorem fstepW_in_range (eqn : Spec.Name → Spec.Name → Bool) (L : Layout) (fuel : Nat) (s : FState) (op : FOp)
    (hL : L.WF) (he : EqnOk eqn) (hlim : LimOk L.kind L.lim) (hfuel : L.lim - 2 ≤ fuel)
    (h : FInv eqn L.fgeom s) :
    ∀ w ∈ (fstepW eqn L fuel s op).ws, L.InRange w := by
  have hFat := L.wrFat_in_range hL
  have hRoot := L.wrRoot_in_range hL
  have hIte : ∀ (c : Prop) [Decidable c] (a b : List Wr), (∀ w ∈ a, L.InRange w) →
      (∀ w ∈ b, L.InRange w) → ∀ w ∈ (if c then a else b), L.InRange w := by
    intro c _ a b ha hb
    split
    · exact ha
    · exact hb
  -- every log is put together from `wrFat`, `wrRoot`, the empty list and, for `writeAt`, the data writes
  cases op with
  | create n =>
    simp only [fstepW]
    split
    · nofun
    · split
      · exact List.forall_mem_append.2 ⟨hFat, hRoot⟩
      · nofun
  | writeAt n off data =>
    simp only [fstepW]
    cases hf : ffind eqn s.files n with
    | none => nofun
    | some f =>
      simp only []
      split
      · nofun
      · cases hres : (falloc L.fgeom fuel s.m (Nat.max f.size (off + data.length)) (f.chain.headD 0)).res with
        | none => nofun
        | some l' =>
          simp only []
          have hwf := hIte ((falloc L.fgeom fuel s.m (Nat.max f.size (off + data.length)) (f.chain.headD 0)).wrote = true)
            L.wrFat [] hFat nofun
          cases hws : writeH true L.io l' f.size off data with
          | none => exact hwf
          | some ws =>
            -- the chain is below the scan limit: the state after the step meets `FInv` (`write_core`), and the
            -- written file owns the chain there
            have hinv := (write_core (g := L.fgeom) hL.bpc_pos hlim L.lim_le_max hfuel he h hf (by omega) hres hws).1
            have hch := chainOk_mem (hinv.table.chains l' (List.mem_map.2 ⟨_, List.mem_map.2 ⟨f,
              List.mem_of_find?_eq_some hf, if_pos (List.find?_some (p := fun x : FFile => eqn x.name n) hf)⟩, rfl⟩))
            have hin := writeH_in_chain' L.io l' f.size off data ws hL.bpc_pos hws
            simp only [List.forall_mem_append]
            exact ⟨⟨hwf, L.data_in_range hL l' ws hch hin⟩, hRoot⟩
  | truncate n =>
    simp only [fstepW]
    split
    · nofun
    · split
      · nofun
      · split
        · exact hRoot
        · exact List.forall_mem_append.2 ⟨hRoot, hIte _ _ _ hFat nofun⟩
  | remove n =>
    simp only [fstepW]
    split
    · nofun
    · split
      · exact List.forall_mem_append.2 ⟨hRoot, hIte _ _ _ nofun hFat⟩
      · exact hRoot
  | rename o n =>
    simp only [fstepW]
    split
    · nofun
    · split
      · exact hRoot
      · split
        · exact hRoot
        · split
          · exact List.forall_mem_append.2 ⟨hRoot, hIte _ _ _ nofun hFat⟩
          · exact hRoot

/-- **every write of every history**: the invariant is carried along by `fstep_inv`, refused
    operations included -/
theorem frunW_in_range (eqn : Spec.Name → Spec.Name → Bool) (L : Layout) (fuel : Nat) (ops : List FOp) (s : FState)
    (hL : L.WF) (he : EqnOk eqn) (hlim : LimOk L.kind L.lim) (hfuel : L.lim - 2 ≤ fuel)
    (h : FInv eqn L.fgeom s) :
    FInv eqn L.fgeom (frunW eqn L fuel s ops).1 ∧ ∀ w ∈ (frunW eqn L fuel s ops).2, L.InRange w := by
  unfold frunW
  have hacc : ∀ w ∈ ([] : List Wr), L.InRange w := nofun
  generalize ([] : List Wr) = acc at hacc ⊢
  induction ops generalizing s acc with
  | nil => exact ⟨h, hacc⟩
  | cons op rest ih =>
    rw [List.foldl_cons]
    apply ih
    · rw [fstepW_s]
      exact fstep_inv he hL.bpc_pos hlim L.lim_le_max hfuel s op h
    · exact List.forall_mem_append.2 ⟨hacc, fstepW_in_range eqn L fuel s op hL he hlim hfuel h⟩

/-- reserved-area premise per kind: FAT12/16 keep at least the boot sector, FAT32 the boot sector,
    FSInfo and their backups at sectors 6 and 7 (the three `Create`s use 1, 4 and 32) -/
def Geom.ReservedOk (g : Geom) : Prop :=
  match g.kind with
  | .f32 => 8 ≤ g.reserved
  | _ => 1 ≤ g.reserved ∧ 512 ≤ g.bps

theorem Layout.ofGeom_dataStart (g : Geom) (start size : Nat) :
    (Layout.ofGeom g start size).dataStart = g.dataStart := by
  simp only [Layout.ofGeom, Geom.dataStart, Nat.add_mul, Nat.two_mul, Nat.add_assoc]

theorem Layout.ofGeom_wf (g : Geom) (start size : Nat) (h : g.WF size) (hr : g.ReservedOk) (hs : 0 < g.spc)
    (hbps : 0 < g.bps) : (Layout.ofGeom g start size).WF := by
  have hroot : g.rootEntries * 32 ≤ g.rootSectors * g.bps := by
    unfold Geom.rootSectors
    have := Nat.div_add_mod (g.rootEntries * 32 + g.bps - 1) g.bps
    have hm := Nat.mod_lt (g.rootEntries * 32 + g.bps - 1) hbps
    rw [Nat.mul_comm ((g.rootEntries * 32 + g.bps - 1) / g.bps) g.bps]
    omega
  refine ⟨Nat.mul_pos hs hbps, ?_, ?_, ?_, ?_, ?_⟩
  · simp only [Layout.ofGeom]
    unfold Geom.ReservedOk at hr
    cases hk : g.kind <;> simp only [hk] at hr ⊢
    case f32 => exact ⟨Nat.mul_le_mul_right _ hr, Nat.mul_le_mul_right _ (by omega)⟩
    all_goals exact Nat.le_trans hr.2 (Nat.le_mul_of_pos_left _ hr.1)
  · simp only [Layout.ofGeom]; omega
  · simp only [Layout.ofGeom]; omega
  · simp only [Layout.ofGeom]; omega
  · have hmeta : (g.reserved + 2 * g.fatSectors + g.rootSectors + 1) * g.bps ≤ g.totalSectors * g.bps :=
      Nat.mul_le_mul_right _ h.meta_fits
    have ht := h.total_le
    rw [Nat.add_mul, Nat.one_mul] at hmeta
    rw [Layout.ofGeom_dataStart]
    show g.dataStart < size
    unfold Geom.dataStart
    omega

theorem Layout.ofGeom_lim_le (g : Geom) (start size : Nat) (h : g.WF size) (hs : 0 < g.spc) (hbps : 0 < g.bps)
    (hwf : (Layout.ofGeom g start size).WF) :
    (Layout.ofGeom g start size).lim ≤ g.clusters + 2 := by
  have hl : (Layout.ofGeom g start size).lim ≤ (size - g.dataStart) / (g.spc * g.bps) + 2 := by
    have := (Layout.ofGeom g start size).lim_le_data_clusters hwf
    rwa [Layout.ofGeom_dataStart] at this
  suffices hq : (size - g.dataStart) / (g.spc * g.bps) < g.clusters + 1 from Nat.le_trans hl (by omega)
  -- size − dataStart < (dataSectors + 1)·bps ≤ (clusters + 1)·spc·bps
  have hds : g.dataSectors < (g.clusters + 1) * g.spc := by
    unfold Geom.clusters
    rw [Nat.mul_comm]
    exact Nat.lt_mul_div_succ g.dataSectors hs
  have hmeta := h.meta_fits
  have hgt := h.total_gt
  have hts : g.totalSectors * g.bps = g.dataSectors * g.bps + g.dataStart := by
    unfold Geom.dataSectors Geom.dataStart
    rw [← Nat.add_mul]
    congr 1
    omega
  have h2 : (g.dataSectors + 1) * g.bps ≤ (g.clusters + 1) * g.spc * g.bps := Nat.mul_le_mul_right _ hds
  rw [Nat.add_mul, Nat.one_mul] at h2
  rw [Nat.div_lt_iff_lt_mul (Nat.mul_pos hs hbps), ← Nat.mul_assoc]
  omega

theorem Layout.ofGeom_lim_ge (g : Geom) (start size : Nat) (h : g.WF size)
    (hwf : (Layout.ofGeom g start size).WF) (hmax : g.clusters + 2 ≤ (Layout.ofGeom g start size).max) :
    g.clusters + 2 ≤ (Layout.ofGeom g start size).lim := by
  have hb := hwf.bpc_pos
  have hlt := hwf.data_lt
  have hq : g.clusters ≤ ((Layout.ofGeom g start size).size - (Layout.ofGeom g start size).dataStart) /
      (Layout.ofGeom g start size).bpc := by
    rw [Nat.le_div_iff_mul_le hb, Layout.ofGeom_dataStart]
    rw [Layout.ofGeom_dataStart] at hlt
    have hd := h.data_in_range
    rw [Nat.mul_assoc] at hd
    show g.clusters * (g.spc * g.bps) ≤ size - g.dataStart
    omega
  have hc : ¬((Layout.ofGeom g start size).bpc = 0 ∨
      (Layout.ofGeom g start size).size ≤ (Layout.ofGeom g start size).dataStart) := by omega
  unfold Layout.lim Layout.dataClusterLimit
  simp only [if_neg hc]
  generalize ((Layout.ofGeom g start size).size - (Layout.ofGeom g start size).dataStart) /
      (Layout.ofGeom g start size).bpc = q at hq
  split <;> split <;> omega

theorem Layout.ofGeom_max (g : Geom) (start size : Nat) : (Layout.ofGeom g start size).max = g.fatEntries := by
  unfold Layout.max Geom.fatEntries
  simp only [Layout.ofGeom]
  cases g.kind <;> rfl

theorem spc_pos_of_clusters {g : Geom} (h : 0 < g.clusters) : 0 < g.spc := by
  unfold Geom.clusters at h
  rcases Nat.eq_zero_or_pos g.spc with h0 | h0
  · rw [h0, Nat.div_zero] at h; omega
  · exact h0

theorem Layout.ofGeom_lim_eq (g : Geom) (start size : Nat) (h : g.WF size) (hr : g.ReservedOk) (hbps : 0 < g.bps) :
    (Layout.ofGeom g start size).WF ∧ (Layout.ofGeom g start size).lim = g.clusters + 2 := by
  have hs := spc_pos_of_clusters h.has_cluster
  have hL := Layout.ofGeom_wf g start size h hr hs hbps
  exact ⟨hL, Nat.le_antisymm (Layout.ofGeom_lim_le g start size h hs hbps hL)
    (Layout.ofGeom_lim_ge g start size h hL (by rw [Layout.ofGeom_max]; exact h.fat_holds))⟩

/-- `Create` on the layout of a well-formed geometry, then any history on the fresh volume: all inside the range -/
theorem Layout.ofGeom_all_writes_in_range (g : Geom) (start size : Nat) (h : g.WF size) (hr : g.ReservedOk)
    (hbps : 0 < g.bps) (hlim : LimOk g.kind (g.clusters + 2))
    (eqn : Spec.Name → Spec.Name → Bool) (he : EqnOk eqn) (ops : List FOp) (s : FState)
    (hs : FInv eqn (Layout.ofGeom g start size).fgeom s) :
    (Layout.ofGeom g start size).WF ∧ (Layout.ofGeom g start size).lim = g.clusters + 2 ∧
    ∀ w ∈ (Layout.ofGeom g start size).createWrites ++
        (frunW eqn (Layout.ofGeom g start size) ((Layout.ofGeom g start size).lim - 2) s ops).2,
      w.data.length = 0 ∨ (Layout.ofGeom g start size).InRange w := by
  obtain ⟨hL, hl⟩ := Layout.ofGeom_lim_eq g start size h hr hbps
  have hc := h.has_cluster
  refine ⟨hL, hl, fun w hw => ?_⟩
  rcases List.mem_append.1 hw with hw | hw
  · exact Or.inr (Layout.createWrites_in_range _ hL (Or.inr (by omega)) w hw)
  · exact Or.inr ((frunW_in_range eqn _ _ ops s hL he (hl ▸ hlim) (Nat.le_refl _) hs).2 w hw)

/-! ### what the three `Create`s fix: reserved sectors, sector size, kind (for any table) -/

theorem mkGeom12_fields (tbl : List (Nat × Nat)) (size : Nat) (g : Geom) (h : mkGeom12 tbl size = some g) :
    g.kind = .f12 ∧ g.reserved = 1 ∧ g.bps = 512 := by
  unfold mkGeom12 at h
  simp only [ite_none_eq_some, Option.some.injEq] at h
  obtain ⟨_, _, _, _, rfl⟩ := h
  exact ⟨rfl, rfl, rfl⟩

theorem mkGeom16_fields (tbl : List (Nat × Nat)) (size : Nat) (g : Geom) (h : mkGeom16 tbl size = some g) :
    g.kind = .f16 ∧ g.reserved = 4 ∧ g.bps = 512 := by
  unfold mkGeom16 at h
  simp only [ite_none_eq_some, Option.some.injEq] at h
  obtain ⟨_, _, _, _, rfl⟩ := h
  exact ⟨rfl, rfl, rfl⟩

theorem mkGeom32Fixed_fields (tbl : List (Nat × Nat)) (size bs : Nat) (g : Geom)
    (h : mkGeom32Fixed tbl size bs = some g) :
    g.kind = .f32 ∧ g.reserved = 32 ∧ (g.bps = 512 ∨ g.bps = 4096) ∧ g.fatSectors < 65536 ∧ g.rootEntries = 0 := by
  unfold mkGeom32Fixed at h
  simp only [ite_none_eq_some, Option.some.injEq] at h
  obtain ⟨hbs, _, _, _, _, _, rfl⟩ := h
  refine ⟨rfl, rfl, ?_, u16_lt _, rfl⟩
  simp only
  split <;> omega

theorem limOk12 {lim : Nat} (h : lim ≤ 4086) : LimOk .f12 lim := by
  intro c hc
  simp only [Kind.isEOC, decide_eq_false_iff_not]
  omega

theorem limOk16 {lim : Nat} (h : lim ≤ 65526) : LimOk .f16 lim := by
  intro c hc
  simp only [Kind.isEOC, decide_eq_false_iff_not]
  omega

theorem limOk32 {lim : Nat} (h : lim ≤ 67108864) : LimOk .f32 lim := by
  intro c hc
  simp only [Kind.isEOC, decide_eq_false_iff_not]
  omega

end Diskfs.Fat
