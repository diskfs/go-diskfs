/-
  Fragment packing (`packFrags`, `fragRefs` of Model/Sqfs/Map.lean): the reference `fragRefs` hands
  to a file, computed from the tail lengths alone, points at that file's tail in the blocks
  `packFrags` builds.  Both run through the tails with the same state (number of blocks flushed,
  fill of the block in the making), and a flushed block never changes (`packFrags_prefix`).
-/
import DiskfsModel.Model.Sqfs.Map
namespace Diskfs.Sqfs

theorem packFrags_prefix (bs : Nat) (ts : List Bytes) (done : List Bytes) (cur : Bytes) :
    ∃ rest, packFrags bs ts done cur = done ++ rest ∧ (cur ≠ [] → ∃ x tl, rest = (cur ++ x) :: tl) := by
  induction ts generalizing done cur with
  | nil =>
    simp only [packFrags]
    split
    · rename_i h
      exact ⟨[], by simp, fun hc => absurd (by simpa using h) hc⟩
    · exact ⟨[cur], rfl, fun _ => ⟨[], [], by simp⟩⟩
  | cons t ts ih =>
    simp only [packFrags]
    split
    · exact ih done cur
    · split
      · obtain ⟨rest, h1, _⟩ := ih (done ++ [cur]) t
        exact ⟨cur :: rest, by rw [h1]; simp, fun _ => ⟨[], rest, by simp⟩⟩
      · obtain ⟨rest, h1, h2⟩ := ih done (cur ++ t)
        rename_i ht _
        obtain ⟨x, tl, h3⟩ := h2 (fun e => by simp [(List.append_eq_nil_iff.1 e).2] at ht)
        exact ⟨rest, h1, fun _ => ⟨t ++ x, tl, by rw [h3]; simp⟩⟩

theorem packFrags_cur (bs : Nat) (ts : List Bytes) (done : List Bytes) (cur : Bytes) (h : cur ≠ []) :
    ∃ x, (packFrags bs ts done cur).getD done.length [] = cur ++ x := by
  obtain ⟨rest, h1, h2⟩ := packFrags_prefix bs ts done cur
  obtain ⟨x, tl, h3⟩ := h2 h
  exact ⟨x, by simp [h1, h3, List.getD_eq_getElem?_getD]⟩

/-- what it means for a reference to point at `tail` inside `blocks` -/
def RefOK (blocks : List Bytes) (tail : Bytes) : Option (Nat × Nat) → Prop
  | none => tail = []
  | some (k, o) => ((blocks.getD k []).drop o).take tail.length = tail

theorem fragRefs_resolve (bs : Nat) (ts : List Bytes) (hlt : ∀ t ∈ ts, t.length < bs) (done : List Bytes) (cur : Bytes)
    (i : Nat) (hi : i < ts.length) :
    RefOK (packFrags bs ts done cur) (ts.getD i [])
      ((fragRefs bs (ts.map List.length) done.length cur.length).getD i none) := by
  induction ts generalizing done cur i with
  | nil => simp at hi
  | cons t ts ih =>
    have hts : ∀ x ∈ ts, x.length < bs := fun x hx => hlt x (List.mem_cons_of_mem _ hx)
    have hmod : t.length % bs = t.length := Nat.mod_eq_of_lt (hlt t (List.mem_cons_self ..))
    simp only [List.map_cons, fragRefs, hmod, packFrags]
    by_cases he : t = []
    · subst he
      simp only [List.length_nil, if_true, List.isEmpty_nil]
      cases i with
      | zero => simp [RefOK]
      | succ i => exact ih hts done cur i (by simpa using hi)
    · have hl : t.length ≠ 0 := fun e => he (List.eq_nil_of_length_eq_zero e)
      have hie : t.isEmpty = false := by simpa using he
      simp only [hl, if_false, hie, Bool.false_eq_true]
      by_cases hf : cur.length + t.length > bs
      · -- the tail opens block `done.length + 1`
        simp only [hf, if_true]
        cases i with
        | zero =>
          obtain ⟨x, hx⟩ := packFrags_cur bs ts (done ++ [cur]) t he
          rw [List.length_append, List.length_singleton] at hx
          simp only [RefOK, List.getD_cons_zero]
          rw [hx]
          simp
        | succ i => simpa using ih hts (done ++ [cur]) t i (by simpa using hi)
      · -- the tail goes behind what block `done.length` holds already
        simp only [hf, if_false]
        cases i with
        | zero =>
          obtain ⟨x, hx⟩ := packFrags_cur bs ts done (cur ++ t) (fun e => he (List.append_eq_nil_iff.1 e).2)
          simp only [RefOK, List.getD_cons_zero]
          rw [hx]
          simp [List.append_assoc]
        | succ i => simpa using ih hts done (cur ++ t) i (by simpa using hi)

end Diskfs.Sqfs
