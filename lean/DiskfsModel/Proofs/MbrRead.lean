/-
  mbr.Read / tableFromBytes / partitionFromBytes with every slice and index expression checked
  (Model/MbrTable.lean): none of them can panic, for any bytes; there is one 512-byte allocation; the result is
  that of the by-construction-total decoder of Model/Mbr.lean with the caller's sector sizes stamped.  Then the
  round trip and the frame at the Table level, and the shape of a table read from disk: four slots numbered 1..4.
-/
import DiskfsModel.Model.MbrTable
import DiskfsModel.Proofs.MbrTable
import DiskfsModel.Proofs.GptRobust
namespace Diskfs.Mbr
open Diskfs.Gpt (Res)

theorem err_bind {α β} (e : Bool) (f : α → Res β) : ((Res.err e : Res α) >>= f) = .err e := rfl

theorem ix_ok (b : Bytes) (i : Nat) (h : i < b.length) : ix b i = .ok (b.getD i 0) := by
  unfold ix
  simp [List.getElem?_eq_getElem h, List.getD_eq_getElem?_getD]

theorem sl_ok (b : Bytes) (lo hi : Nat) (h1 : lo ≤ hi) (h2 : hi ≤ b.length) : sl b lo hi = .ok (slice b lo hi) := by
  unfold sl slice?
  simp [h1, h2, slice]

theorem partFromBytes_eq (i : Nat) (b : Bytes) (hb : b.length = 16) :
    partFromBytes i b = match entryDec i b with
      | some p => .ok p
      | none => .err false := by
  unfold partFromBytes entryDec
  -- every index and slice bound is at most 16
  simp (disch := omega) only [hb, ne_eq, not_true_eq_false, if_false, ix_ok, sl_ok, Res.ok_bind, Res.pure_eq]
  split <;> rfl

theorem partFromBytes_no_panic (i : Nat) (b : Bytes) : (partFromBytes i b).isPanic = false := by
  by_cases hb : b.length = 16
  · rw [partFromBytes_eq i b hb]
    cases entryDec i b <;> rfl
  · unfold partFromBytes
    rw [if_pos hb]
    rfl

theorem slotsFromBytes_eq (b : Bytes) (hb : b.length = 512) (is : List Nat) (his : ∀ i ∈ is, i < 4) :
    slotsFromBytes b is = match slotsDec b is with
      | some ps => .ok ps
      | none => .err false := by
  induction is with
  | nil => rfl
  | cons i is ih =>
    have hi : i < 4 := his i (List.mem_cons_self ..)
    have ih' := ih (fun j hj => his j (List.mem_cons_of_mem _ hj))
    unfold slotsFromBytes slotsDec
    rw [sl_ok b _ _ (by omega) (by omega), Res.ok_bind,
      partFromBytes_eq _ _ (by rw [slice_length _ _ _ (by omega) (by omega)]; omega)]
    cases entryDec (i + 1) (slice b (446 + i * 16) (446 + i * 16 + 16)) with
    | none => rfl
    | some p =>
      simp only [Res.ok_bind]
      rw [ih']
      cases slotsDec b is <;> rfl

theorem tableFromBytes_eq (b : Bytes) (hb : b.length = 512) :
    tableFromBytes b =
      if slice b 510 512 ≠ [0x55, 0xaa] then .err false else
      match slotsDec b [0, 1, 2, 3] with
      | some ps => .ok { parts := ps, lss := 512, pss := 512 }
      | none => .err false := by
  unfold tableFromBytes
  rw [if_neg (by omega), sl_ok b 510 b.length (by omega) (Nat.le_refl _), Res.ok_bind, hb]
  by_cases hs : slice b 510 512 ≠ [0x55, 0xaa]
  · rw [if_pos hs, if_pos hs]
  · rw [if_neg hs, if_neg hs, sl_ok b 440 444 (by omega) (by omega), Res.ok_bind,
      slotsFromBytes_eq b hb [0, 1, 2, 3] (by intro i hi; simp at hi; omega)]
    cases slotsDec b [0, 1, 2, 3] <;> rfl

theorem tableFromBytes_no_panic (b : Bytes) : (tableFromBytes b).isPanic = false := by
  by_cases hb : b.length = 512
  · rw [tableFromBytes_eq b hb]
    split
    · rfl
    · cases slotsDec b [0, 1, 2, 3] <;> rfl
  · unfold tableFromBytes
    rw [if_pos hb]
    rfl

theorem readT_eq (d : Dev) (devSize : Nat) (lbs pbs : Int) :
    readT d devSize lbs pbs =
      (match (read d devSize).1 with
        | some ps => .ok { parts := ps, lss := stamp lbs, pss := stamp pbs }
        | none => .err false, [512]) := by
  unfold readT read
  by_cases hd : devSize < 512
  · simp only [hd, if_true]
  · simp only [hd, if_false]
    rw [tableFromBytes_eq _ (by simp)]
    by_cases hs : slice (readAt d 0 512) 510 512 ≠ [0x55, 0xaa]
    · rw [if_pos hs, if_pos hs]
    · rw [if_neg hs, if_neg hs]
      cases slotsDec (readAt d 0 512) [0, 1, 2, 3] <;> rfl

/-- mbr.Read never panics and allocates one 512-byte buffer, whatever sector sizes the caller passes
    (zero and negative included) -/
theorem readT_total (d : Dev) (devSize : Nat) (lbs pbs : Int) :
    (readT d devSize lbs pbs).1.isPanic = false ∧ (readT d devSize lbs pbs).2 = [512] := by
  rw [readT_eq]
  cases (read d devSize).1 <;> exact ⟨rfl, rfl⟩

theorem stamp_pos (g : Int) : 0 < stamp g := by
  unfold stamp
  split
  · omega
  · omega

theorem stamp_of_pos (n : Nat) (h : 0 < n) : stamp (n : Int) = n := by
  unfold stamp
  have : (n : Int) > 0 := by omega
  rw [if_pos this]
  exact Int.toNat_natCast n

theorem writeT_some (t : Table) (h : t.parts.length ≤ 4) : writeT t = some (write t.parts) := by
  unfold writeT
  rw [if_neg (by omega)]

theorem eq_write_of_writeT {t : Table} {ws : List Wr} (h : writeT t = some ws) : ws = write t.parts := by
  unfold writeT at h
  split at h <;> cases h
  rfl

/-- more than four partitions: refused, nothing is written (fix 0c40962) -/
theorem writeT_refuses (t : Table) (h : 4 < t.parts.length) : writeT t = none := by
  unfold writeT
  rw [if_pos h]

theorem writeT_frame (d : Dev) (t : Table) (ws : List Wr) (hw : writeT t = some ws) (i : Nat) (hi : i < 446 ∨ 512 ≤ i) :
    applyWrs d ws i = d i := by
  cases eq_write_of_writeT hw
  exact write_frame d t.parts i hi

theorem readT_writeT (d : Dev) (t : Table) (ws : List Wr) (devSize : Nat) (lbs pbs : Int) (hdev : 512 ≤ devSize)
    (hwf : ∀ p ∈ t.parts, PartWF p) (hw : writeT t = some ws) :
    (readT (applyWrs d ws) devSize lbs pbs).1 =
      .ok { parts := [normSlot t.parts 0, normSlot t.parts 1, normSlot t.parts 2, normSlot t.parts 3],
            lss := stamp lbs, pss := stamp pbs } := by
  cases eq_write_of_writeT hw
  rw [readT_eq, read_write d t.parts devSize hdev hwf]

/-- a table as mbr.Read produces it: four slots numbered 1..4 -/
def Canonical (t : Table) : Prop :=
  ∃ a b c e, t.parts = [a, b, c, e] ∧ a.index = 1 ∧ b.index = 2 ∧ c.index = 3 ∧ e.index = 4

theorem getPartition_of_canonical {t : Table} (hc : Canonical t) {k : Nat} (hk : k < 4) :
    ∃ p, t.parts[k]? = some p ∧ p.index = k + 1 ∧
      PartDisk.getPartition t.diskParts ((k + 1 : Nat) : Int) = some (toP t p) := by
  obtain ⟨a, b, c, e, hps, ia, ib, ic, ie⟩ := hc
  have hk' : k = 0 ∨ k = 1 ∨ k = 2 ∨ k = 3 := by omega
  rcases hk' with rfl | rfl | rfl | rfl
  · exact ⟨a, by rw [hps]; rfl, ia, by simp [Table.diskParts, hps, PartDisk.getPartition, toP, ia]⟩
  · exact ⟨b, by rw [hps]; rfl, ib, by simp [Table.diskParts, hps, PartDisk.getPartition, toP, ia, ib]⟩
  · exact ⟨c, by rw [hps]; rfl, ic, by simp [Table.diskParts, hps, PartDisk.getPartition, toP, ia, ib, ic]⟩
  · exact ⟨e, by rw [hps]; rfl, ie, by simp [Table.diskParts, hps, PartDisk.getPartition, toP, ia, ib, ic, ie]⟩

theorem part_eta (p : Part) (n : Nat) (h : p.index = n) : ({ p with index := n } : Part) = p := by
  cases p; simp only at h; subst h; rfl

/-- round trip decode (encode t) = t for mbr.Table, over any prior device content -/
theorem readT_writeT_exact (d : Dev) (t : Table) (devSize : Nat) (hdev : 512 ≤ devSize)
    (hwf : ∀ p ∈ t.parts, PartWF p) (hc : Canonical t) (hl : 0 < t.lss) (hp : 0 < t.pss) :
    ∃ ws, writeT t = some ws ∧ (readT (applyWrs d ws) devSize t.lss t.pss).1 = .ok t := by
  obtain ⟨a, b, c, e, hps, ia, ib, ic, ie⟩ := hc
  have hlen : t.parts.length ≤ 4 := by rw [hps]; simp
  refine ⟨write t.parts, writeT_some t hlen, ?_⟩
  rw [readT_writeT d t _ devSize _ _ hdev hwf (writeT_some t hlen), stamp_of_pos _ hl, stamp_of_pos _ hp]
  have h0 : normSlot t.parts 0 = a := by rw [hps]; exact part_eta a (0 + 1) ia
  have h1 : normSlot t.parts 1 = b := by rw [hps]; exact part_eta b (1 + 1) ib
  have h2 : normSlot t.parts 2 = c := by rw [hps]; exact part_eta c (2 + 1) ic
  have h3 : normSlot t.parts 3 = e := by rw [hps]; exact part_eta e (3 + 1) ie
  rw [h0, h1, h2, h3, ← hps]

theorem entryDec_index {i : Nat} {b : Bytes} {p : Part} (h : entryDec i b = some p) : p.index = i := by
  simp only [entryDec] at h
  split at h
  · cases h
  · cases h; rfl

theorem slotsDec_index (b : Bytes) (is : List Nat) (ps : List Part) (h : slotsDec b is = some ps) :
    ps.map (·.index) = is.map (· + 1) := by
  induction is generalizing ps with
  | nil => cases h; rfl
  | cons i is ih =>
    unfold slotsDec at h
    split at h
    · rename_i p qs h1 h2
      cases h
      simp [entryDec_index h1, ih qs h2]
    · cases h

theorem readT_canonical (d : Dev) (devSize : Nat) (lbs pbs : Int) (t : Table)
    (h : (readT d devSize lbs pbs).1 = .ok t) : Canonical t ∧ t.lss = stamp lbs ∧ t.pss = stamp pbs := by
  rw [readT_eq] at h
  cases hr : (read d devSize).1 with
  | none => simp [hr] at h
  | some ps =>
    simp only [hr, Res.ok.injEq] at h
    subst h
    refine ⟨?_, rfl, rfl⟩
    have hi : ps.map (·.index) = [0, 1, 2, 3].map (· + 1) := by
      unfold read at hr
      split at hr
      · cases hr
      · simp only at hr
        split at hr
        · cases hr
        · dsimp only at hr
          exact slotsDec_index _ _ ps hr
    have hlen : ps.length = 4 := by simpa using congrArg List.length hi
    match ps, hlen, hi with
    | [a, b, c, e], _, hi =>
      simp only [List.map_cons, List.map_nil, List.cons.injEq, and_true] at hi
      exact ⟨a, b, c, e, rfl, hi.1, hi.2.1, hi.2.2.1, hi.2.2.2⟩

theorem readT_lookup (d : Dev) (devSize : Nat) (lbs pbs : Int) (t : Table)
    (h : (readT d devSize lbs pbs).1 = .ok t) (k : Nat) (hk : k < 4) :
    ∃ p, t.parts[k]? = some p ∧ p.index = k + 1 ∧
      PartDisk.getPartition t.diskParts ((k + 1 : Nat) : Int) = some (toP t p) ∧
      (toP t p).byteStart = p.start * stamp lbs ∧ (toP t p).byteSize = p.size * stamp lbs ∧
      (toP t p).pssOf = stamp pbs ∧ PartDisk.reconcile (toP t p) = some (toP t p) := by
  obtain ⟨hc, hl, hp⟩ := readT_canonical d devSize lbs pbs t h
  obtain ⟨p, hpk, hi, hg⟩ := getPartition_of_canonical hc hk
  have hl0 : t.lss ≠ 0 := hl ▸ Nat.ne_of_gt (stamp_pos lbs)
  have hp0 : t.pss ≠ 0 := hp ▸ Nat.ne_of_gt (stamp_pos pbs)
  refine ⟨p, hpk, hi, hg, ?_⟩
  simp [toP, PartDisk.P.byteStart, PartDisk.P.byteSize, PartDisk.P.lssOf, PartDisk.P.pssOf, PartDisk.reconcile, hl0, hp0,
    ← hl, ← hp]

end Diskfs.Mbr

namespace Diskfs.PartTable
open Diskfs.Gpt

/-- partition.Read (GPT first, then MBR, both with the caller's sector sizes): no panic, every allocation
    within the device size plus two sectors -/
theorem readT_fixed (c : Cfg) (hc : c.arrayBounded = true) (crc : Bytes → Nat) (d : Dev) (devSize lss : Nat) (pbs : Int)
    (hlss : 512 ≤ lss) :
    (readT c crc d devSize lss pbs).1.isPanic = false ∧
    ∀ a ∈ (readT c crc d devSize lss pbs).2, 0 ≤ a ∧ a ≤ (devSize : Int) + 2 * (lss : Int) := by
  obtain ⟨hp, ha⟩ := read_fixed c hc crc d devSize lss (by omega)
  obtain ⟨hmp, hma⟩ := Mbr.readT_total d devSize (lss : Int) pbs
  unfold readT readWithT
  generalize Gpt.read c crc d devSize lss = g at hp ha
  generalize Mbr.readT d devSize (lss : Int) pbs = m at hmp hma
  obtain ⟨rg, ag⟩ := g
  obtain ⟨rm, am⟩ := m
  -- the MBR branch adds its one 512-byte buffer
  have hall : ∀ a ∈ ag ++ am, 0 ≤ a ∧ a ≤ (devSize : Int) + 2 * (lss : Int) := by
    intro a h
    rcases List.mem_append.1 h with h | h
    · exact ha a h
    · cases hma
      cases List.mem_singleton.1 h
      omega
  cases rg with
  | ok t => exact ⟨rfl, ha⟩
  | panic s => cases hp
  | err e =>
    cases rm with
    | ok t => exact ⟨rfl, hall⟩
    | panic s => cases hmp
    | err e' => exact ⟨rfl, hall⟩

theorem readT_mbr (c : Cfg) (crc : Bytes → Nat) (d : Dev) (devSize lss : Nat) (pbs : Int) (t : Mbr.Table)
    (h : (readT c crc d devSize lss pbs).1 = .ok (.mbr t)) :
    (Mbr.readT d devSize (lss : Int) pbs).1 = .ok t ∧ (Gpt.read c crc d devSize lss).1.isOk = false := by
  unfold readT readWithT at h
  generalize Gpt.read c crc d devSize lss = g at h ⊢
  generalize Mbr.readT d devSize (lss : Int) pbs = m at h ⊢
  obtain ⟨rg, ag⟩ := g
  obtain ⟨rm, am⟩ := m
  -- an MBR table comes out of one arm only: gpt.Read failed and mbr.Read succeeded
  cases rg <;> cases rm <;> cases h
  exact ⟨rfl, rfl⟩

end Diskfs.PartTable
