/-
  The reader follows the continuation areas the writer made: the record's own area parses to the
  entries that stayed plus a CE entry, and `collect` replaces that entry by the entries of the area it
  points at, area after area (`collect_assemble`, by induction along `assemble`).
-/
import DiskfsModel.Proofs.IsoSusp
namespace Diskfs.Iso

def isCE : SEnt → Bool
  | .ce .. => true
  | _ => false

theorem ceEntry_length (c o n : Nat) : (ceEntry c o n).length = 28 := by simp [ceEntry, both32]

theorem ceEntry_ok (c o n : Nat) : EntOK (ceEntry c o n) := by
  rw [EntOK, ceEntry_length]
  exact ⟨by decide, by decide, rfl⟩

theorem take4_both32 (x : Nat) (r : Bytes) : (both32 x ++ r).take 4 = leEnc 4 x := by
  rw [both32, List.append_assoc, List.take_left' (leEnc_length 4 x)]

theorem drop8_both32 (x : Nat) (r : Bytes) : (both32 x ++ r).drop 8 = r := List.drop_left' (both32_length x)

theorem parseEnt_ceEntry (c o n : Nat) (hc : c < 2 ^ 32) (ho : o < 2 ^ 32) (hn : n < 2 ^ 32) :
    parseEnt (ceEntry c o n) = some (.ce c o n) := by
  have htake : (ceEntry c o n).take 2 = [67, 69] := rfl
  have hg : ¬ ((ceEntry c o n).length ≠ 28 ∨ (ceEntry c o n).getD 2 0 ≠ 28 ∨ (ceEntry c o n).getD 3 0 ≠ 1) := by
    rw [ceEntry_length]; exact fun h => h.elim (· rfl) (·.elim (· rfl) (· rfl))
  -- the three little-endian halves the parser reads, behind the 4-byte header
  have d4 : ((ceEntry c o n).drop 4).take 4 = leEnc 4 c := take4_both32 c _
  have d12 : ((ceEntry c o n).drop 12).take 4 = leEnc 4 o := by
    show ((both32 c ++ (both32 o ++ both32 n)).drop 8).take 4 = _
    rw [drop8_both32, take4_both32]
  have d20 : ((ceEntry c o n).drop 20).take 4 = leEnc 4 n := by
    show ((both32 c ++ (both32 o ++ both32 n)).drop (8 + 8)).take 4 = _
    rw [← List.drop_drop, drop8_both32, drop8_both32, both32, List.take_left' (leEnc_length 4 n)]
  rw [parseEnt, htake, if_neg (by decide), if_neg (by decide), if_pos rfl, parseCE, if_neg hg, d4, d12, d20,
    leDec_leEnc32 c hc, leDec_leEnc32 o ho, leDec_leEnc32 n hn]

theorem parseArea_with_ce (es : List Bytes) (hes : ∀ e ∈ es, EntOK e) (ps : List SEnt) (hp : parseAll es = some ps)
    (c len : Nat) (hc : c < 2 ^ 32) (hl : len < 2 ^ 32) :
    parseArea (es.flatten ++ ceEntry c 0 len) = some (ps ++ [.ce c 0 len]) := by
  have hok : ∀ e ∈ es ++ [ceEntry c 0 len], EntOK e := by
    intro x hx
    rcases List.mem_append.1 hx with hx | hx
    · exact hes x hx
    · rw [List.mem_singleton.1 hx]; exact ceEntry_ok ..
  have := parseArea_flatten _ hok
  rw [List.flatten_append, List.flatten_singleton] at this
  rw [this, parseAll_append, hp]
  simp only [parseAll, parseEnt_ceEntry c 0 len hc (by decide) hl]

theorem collect_noCE (rd : Nat → Nat → Nat → Bytes) (h : Nat) (es : List SEnt) (hes : ∀ p ∈ es, isCE p = false) :
    collect rd h es = some es := by
  have hl : ∀ l o n, es.getLast? ≠ some (.ce l o n) := fun l o n hx => nomatch hes _ (List.mem_of_getLast? hx)
  cases h <;> rw [collect] <;> split
  · next heq => exact absurd heq (hl _ _ _)
  · rfl
  · next heq => exact absurd heq (hl _ _ _)
  · rfl

theorem collect_step (rd : Nat → Nat → Nat → Bytes) (hops : Nat) (pre : List SEnt) (c o len : Nat) (more : List SEnt)
    (h : parseArea (rd c o len) = some more) :
    collect rd (hops + 1) (pre ++ [.ce c o len]) = collect rd hops (pre ++ more) := by
  rw [collect, List.getLast?_concat]
  simp only [h, List.dropLast_concat]

/-- the device returns every continuation area at the block its CE entry names -/
def RdOK (rd : Nat → Nat → Nat → Bytes) : List Nat → List Bytes → Prop
  | _, [] => True
  | [], _ :: _ => False
  | c :: cs, m :: ms => rd c 0 m.length = m ∧ RdOK rd cs ms

/-- extensions given by their raw entries: well-formed, parseable, no CE entry among them -/
def RawOK (raws : List (List Bytes)) : Prop :=
  ∀ r ∈ raws, ∀ e ∈ r, EntOK e ∧ ∃ p, parseEnt e = some p ∧ isCE p = false

theorem RawOK.flatten {raws : List (List Bytes)} (h : RawOK raws) :
    ∀ e ∈ raws.flatten, EntOK e ∧ ∃ p, parseEnt e = some p ∧ isCE p = false := by
  intro e he
  obtain ⟨r, hr, her⟩ := List.mem_flatten.1 he
  exact h r hr e her

/-- `pre` (entries already collected) and `hops` (areas the reader may still follow) are there for the induction;
    `readSusp_assemble` is the case `pre = []`, `hops = maxAreas`. -/
theorem collect_assemble (res : Bool) (bs : Nat) (rd : Nat → Nat → Nat → Bytes) :
    ∀ (fuel : Nat) (raws : List (List Bytes)) (maxSize : Nat) (ce : List Nat) (a : Bytes) (more : List Bytes),
      RawOK raws → (∀ c ∈ ce, c < 2 ^ 32) →
      assemble res bs fuel (raws.map List.flatten) maxSize ce = some (a :: more) →
      (∀ x ∈ more, x.length < 2 ^ 32) → RdOK rd ce more →
      ∀ ps, parseAll raws.flatten = some ps →
      ∀ (pre : List SEnt) (hops : Nat), (∀ p ∈ pre, isCE p = false) → more.length ≤ hops →
        ∃ es, parseArea a = some es ∧ collect rd hops (pre ++ es) = some (pre ++ ps) := by
  intro fuel
  induction fuel with
  | zero => intro raws maxSize ce a more _ _ h; cases h
  | succ f ih =>
    intro raws maxSize ce a more hraw hce h hlen hrd ps hps pre hops hpre hhops
    -- the extensions that stay (`rf`) and those that go on (`rr`)
    obtain ⟨rf, rr, hrf, hfit, hrest⟩ := List.map_eq_append_iff.1 (fitPrefix_split res maxSize (raws.map List.flatten) 0)
    have hrawf : RawOK rf := fun r hr => hraw r (by rw [hrf]; exact List.mem_append_left _ hr)
    have hrawr : RawOK rr := fun r hr => hraw r (by rw [hrf]; exact List.mem_append_right _ hr)
    have hokf : ∀ e ∈ rf.flatten, EntOK e := fun e he => (hrawf.flatten e he).1
    obtain ⟨p1, hp1, hc1⟩ := parseAll_each rf.flatten (isCE · = false) (fun e he => (hrawf.flatten e he).2)
    have hpre1 : ∀ p ∈ pre ++ p1, isCE p = false := fun p hp => (List.mem_append.1 hp).elim (hpre p) (hc1 p)
    rw [hrf, List.flatten_append, parseAll_append, hp1] at hps
    rcases assemble_some res bs f _ maxSize ce _ h with ⟨hr, hareas⟩ | ⟨c, ce', a', more', _, rfl, hrec, hareas⟩
    · obtain ⟨rfl, rfl⟩ := List.cons.inj hareas
      rw [hr] at hrest
      rw [List.map_eq_nil_iff.1 hrest, List.flatten_nil, parseAll] at hps
      rw [← Option.some.inj hps, List.append_nil]
      exact ⟨p1, by rw [← hfit, ← List.flatten_flatten, parseArea_flatten _ hokf, hp1], collect_noCE rd hops _ hpre1⟩
    · obtain ⟨rfl, rfl⟩ := List.cons.inj hareas
      rw [← hrest] at hrec
      obtain ⟨hrd1, hrd2⟩ := hrd
      rw [List.forall_mem_cons] at hce hlen
      cases hp2 : parseAll rr.flatten with
      | none => rw [hp2] at hps; cases hps
      | some p2 =>
        rw [hp2] at hps
        rw [← Option.some.inj hps, ← hfit, ← List.flatten_flatten]
        refine ⟨_, parseArea_with_ce _ hokf p1 hp1 c _ hce.1 hlen.1, ?_⟩
        cases hops with
        | zero => cases hhops
        | succ hops' =>
          obtain ⟨es', hes', hcol⟩ := ih rr bs ce' a' more' hrawr hce.2 hrec hlen.2 hrd2 p2 hp2 (pre ++ p1) hops' hpre1
            (Nat.le_of_succ_le_succ hhops)
          rw [← List.append_assoc, collect_step rd hops' _ c 0 _ es' (by rw [hrd1]; exact hes'), hcol, List.append_assoc]

theorem readSusp_assemble (res : Bool) (bs : Nat) (rd : Nat → Nat → Nat → Bytes) (fuel : Nat) (raws : List (List Bytes))
    (maxSize : Nat) (ce : List Nat) (a : Bytes) (more : List Bytes) (hraw : RawOK raws) (hce : ∀ c ∈ ce, c < 2 ^ 32)
    (h : assemble res bs fuel (raws.map List.flatten) maxSize ce = some (a :: more))
    (hlen : ∀ x ∈ more, x.length < 2 ^ 32) (hrd : RdOK rd ce more) (hn : more.length ≤ maxAreas) :
    ∃ ps, parseAll raws.flatten = some ps ∧ readSusp rd a = some ps := by
  obtain ⟨ps, hps, _⟩ := parseAll_each raws.flatten (isCE · = false) (fun e he => (hraw.flatten e he).2)
  obtain ⟨es, hes, hcol⟩ := collect_assemble res bs rd fuel raws maxSize ce a more hraw hce h hlen hrd ps hps [] maxAreas
    (fun _ hp => nomatch hp) hn
  exact ⟨ps, hps, by rw [readSusp, hes]; exact hcol⟩

end Diskfs.Iso
