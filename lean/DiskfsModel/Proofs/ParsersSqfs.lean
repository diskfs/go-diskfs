/-
  C18 parsers — squashfs readMetaBlock / readMetadata, parseFragmentEntry, readFragment, id lookup.
-/
import DiskfsModel.Proofs.ParsersBase
namespace Diskfs.Parsers.Sqfs
open Diskfs.Parsers Out

variable {F C : Prop}

theorem readAt_length_le (dev : Bytes) (off n : Nat) : (readAt dev off n).length ≤ n := by
  simp [readAt, List.length_take]; omega

/-- the size field has 15 bits: a metadata block is at most 0x7fff bytes long -/
theorem readMetaBlock_lands (dev : Bytes) (loc : Nat) :
    Lands F C (fun r => r.1.length < 32768) (readMetaBlock dev loc) := by
  unfold readMetaBlock
  refine .ite (fun _ => .err) fun hl => .ite (fun _ => .err) fun _ => .ok ?_
  rw [Decidable.not_not.mp hl]
  omega

/-- every block read brings at least one byte: `size - len(b) + 1` iterations always suffice; the last block read
    overshoots `size` by less than a block -/
theorem metaLoop_lands (dev : Bytes) (first size : Nat) :
    ∀ (fuel off rd : Nat) (acc : Bytes), acc.length ≤ size + 32767 → Lands (0 < fuel ∧ size + 1 ≤ acc.length + fuel) C
      (fun l => l.length ≤ size + 32767) (metaLoop true dev first size fuel off rd acc) := by
  intro fuel
  induction fuel with
  | zero => intro off rd acc _; exact .fuel (by omega)
  | succ n ih =>
    intro off rd acc hacc
    rw [metaLoop]
    refine .ite (fun _ => .ok hacc) fun hlt => .bind (readMetaBlock_lands dev _) fun r hr => ?_
    obtain ⟨m, rd'⟩ := r
    have hm : m.length < 32768 := hr
    refine .ite (fun _ => .err) fun h0 => ?_
    simp only [Bool.true_and, decide_eq_true_eq] at h0
    exact (ih _ _ _ (by simp only [List.length_append]; omega)).of_fuel (by simp only [List.length_append]; omega)

theorem readMetadata_lands (dev : Bytes) (first boff off size fuel : Nat) :
    Lands (size < fuel) C (fun l => l.length ≤ size + 32767) (readMetadata true dev first boff off size fuel) := by
  unfold readMetadata
  refine .bind (readMetaBlock_lands dev _) fun r hr => ?_
  obtain ⟨m, rd⟩ := r
  have hm : m.length < 32768 := hr
  refine .ite (fun _ => .err) fun ho => ?_
  simp only [Bool.true_and, decide_eq_true_eq] at ho
  refine slc_bind_lands (fun _ => ⟨by omega, Nat.le_refl _⟩) fun _ _ => ?_
  exact (metaLoop_lands dev first size fuel _ _ _
    (by simp only [GS.bytes, GS.ofBytes, List.length_take, List.length_drop]; omega)).of_fuel (by omega)

/-- the slices need `len ≤ cap`; the 24-bit size does not -/
theorem parseFragmentEntry_lands (b : GS) : Lands F b.wf (fun f => f.size < 16777216) (parseFragmentEntry b) := by
  unfold GS.wf parseFragmentEntry
  exact .ite (fun _ => .err) fun _ =>
    le_bind_lands (fun _ => by omega) fun _ => le_bind_lands (fun _ => by omega) fun _ =>
      .pure (Nat.mod_lt _ (by omega))

theorem readFragment_lands (dev : Bytes) (frags : List Frag) (index offset : Nat) (fragmentSize : Int) :
    Lands F C (fun r => ∃ f ∈ frags, r.2 = f.size) (readFragment true dev frags index offset fragmentSize) := by
  unfold readFragment
  refine .ite (fun _ => .err) fun hidx => ?_
  simp only [Bool.true_and, decide_eq_true_eq] at hidx
  have hlt : index < frags.length := by omega
  rw [List.getElem?_eq_getElem hlt]
  refine .ite (fun _ => .err) fun _ => .ite (fun _ => .err) fun hlen => .ite (fun _ => .err) fun _ => ?_
  refine .ite (fun _ => .err) fun hfit => ?_
  simp only [Bool.true_and, Bool.or_eq_true, decide_eq_true_eq, not_or] at hfit
  refine .ite (fun h => absurd h hfit.1) fun _ => ?_
  exact slc_bind_lands (fun _ => ⟨by omega, by simp only [GS.ofBytes]; omega⟩) fun _ _ =>
    .pure ⟨_, List.getElem_mem hlt, rfl⟩

theorem idLookup_lands (ids : List Nat) (u g : Nat) : Lands F C (fun _ => True) (idLookup true ids u g) := by
  unfold idLookup
  refine .ite (fun _ => .err) fun hc => ?_
  simp only [Bool.true_and, Bool.or_eq_true, decide_eq_true_eq] at hc
  rw [List.getElem?_eq_getElem (by omega), List.getElem?_eq_getElem (by omega)]
  exact .ok trivial

end Diskfs.Parsers.Sqfs
