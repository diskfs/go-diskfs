/-
  C18 parsers — the judgment `Out.Lands` and its rules for the panic-aware primitives (`slc`, `idx`, `le`, `be`,
  `div?`, `>>=`), then the equations of the primitives themselves.

  Three facts are proved of a mirrored parser: it does not panic (given the checks the code makes), it does
  not run out of fuel (given enough of it), and what it returns is bounded (entries counted, bytes allocated).
  All three follow the same path through the parser's code, so they are proved together as `Out.Lands F C Q`,
  by rules that follow the syntax of the mirrors: one for `if`, one for each bounds-checked primitive, one
  for `>>=`.
-/
import DiskfsModel.Model.Parsers
import DiskfsModel.Proofs.Bytes
namespace Diskfs.Parsers

@[simp] theorem bind_ok {α β : Type} (a : α) (f : α → Out β) : (Out.ok a >>= f) = f a := rfl
@[simp] theorem bind_err {α β : Type} (f : α → Out β) : ((Out.err : Out α) >>= f) = .err := rfl
@[simp] theorem bind_panic {α β : Type} (f : α → Out β) : ((Out.panic : Out α) >>= f) = .panic := rfl
@[simp] theorem bind_fuel {α β : Type} (f : α → Out β) : ((Out.fuel : Out α) >>= f) = .fuel := rfl
@[simp] theorem pure_eq {α : Type} (a : α) : (pure a : Out α) = .ok a := rfl

theorem wf_drop (b : GS) (hwf : b.wf) (i n : Nat) (h : i + n ≤ b.len) : (GS.mk (b.buf.drop i) n).wf := by
  unfold GS.wf at hwf ⊢
  simp only [List.length_drop]; omega

namespace Out
variable {α β : Type} {F C F' : Prop} {Q Q' : α → Prop} {R : β → Prop}

/-- `x` does not run out of fuel if `F`, does not panic if `C`, and a value it returns meets `Q`.
    A conjunction on purpose: defined by `match x with ..` it would let `refine` and `exact` unfold the whole
    mirror `x` whenever they reduce the goal to weak head normal form. -/
def Lands (F C : Prop) (Q : α → Prop) (x : Out α) : Prop :=
  (F → x ≠ .fuel) ∧ (C → x ≠ .panic) ∧ ∀ a, x = .ok a → Q a

theorem Lands.no_fuel {x : Out α} (h : Lands F C Q x) : F → x ≠ .fuel := h.1
theorem Lands.no_panic {x : Out α} (h : Lands F C Q x) : C → x ≠ .panic := h.2.1
theorem Lands.post {x : Out α} (h : Lands F C Q x) : ∀ a, x = .ok a → Q a := h.2.2

theorem Lands.ok {a : α} (h : Q a) : Lands F C Q (.ok a) :=
  ⟨fun _ => nofun, fun _ => nofun, fun _ e => by cases e; exact h⟩
theorem Lands.pure {a : α} (h : Q a) : Lands F C Q (pure a) := .ok h
theorem Lands.err : Lands F C Q (.err : Out α) := ⟨fun _ => nofun, fun _ => nofun, nofun⟩
theorem Lands.panic (h : ¬C) : Lands F C Q (.panic : Out α) := ⟨fun _ => nofun, fun c => absurd c h, nofun⟩
theorem Lands.fuel (h : ¬F) : Lands F C Q (.fuel : Out α) := ⟨fun f => absurd f h, fun _ => nofun, nofun⟩

theorem Lands.mono {x : Out α} (hF : F' → F) (hQ : ∀ a, Q a → Q' a) (h : Lands F C Q x) : Lands F' C Q' x :=
  ⟨fun f => h.1 (hF f), h.2.1, fun a e => hQ a (h.2.2 a e)⟩

theorem Lands.of_fuel {x : Out α} (hF : F' → F) (h : Lands F C Q x) : Lands F' C Q x := h.mono hF fun _ => id

theorem Lands.bind {x : Out α} {f : α → Out β} (hx : Lands F C Q x) (hf : ∀ a, Q a → Lands F C R (f a)) :
    Lands F C R (x >>= f) := by
  cases x with
  | ok a => exact hf a (hx.2.2 a rfl)
  | err => exact .err
  | panic => exact .panic fun c => hx.2.1 c rfl
  | fuel => exact .fuel fun f => hx.1 f rfl

theorem Lands.ite {c : Prop} [Decidable c] {a b : Out α} (ha : c → Lands F C Q a) (hb : ¬c → Lands F C Q b) :
    Lands F C Q (if c then a else b) := by
  split
  · exact ha ‹_›
  · exact hb ‹_›

end Out
open Out

variable {β : Type} {F C : Prop} {R : β → Prop}

theorem idx_lands {s : GS} {i : Nat} (h : C → i < s.len) :
    Lands F C (fun v => v = (s.buf.getD i 0).toNat) (idx s i) :=
  .ite (fun _ => .ok rfl) fun hn => .panic fun c => hn (h c)

theorem slc_lands {s : GS} {lo hi : Nat} (h : C → lo ≤ hi ∧ hi ≤ s.buf.length) :
    Lands F C (fun t => (lo ≤ hi ∧ hi ≤ s.buf.length) ∧ t = ⟨s.buf.drop lo, hi - lo⟩) (slc s lo hi) :=
  .ite (fun hc => .ok ⟨hc, rfl⟩) fun hn => .panic fun c => hn (h c)

theorem idx_bind_lands {s : GS} {i : Nat} {f : Nat → Out β} (h : C → i < s.len) (hf : ∀ v, Lands F C R (f v)) :
    Lands F C R (idx s i >>= f) := .bind (idx_lands h) fun v _ => hf v

theorem slc_bind_lands {s : GS} {lo hi : Nat} {f : GS → Out β} (h : C → lo ≤ hi ∧ hi ≤ s.buf.length)
    (hf : lo ≤ hi → hi ≤ s.buf.length → Lands F C R (f ⟨s.buf.drop lo, hi - lo⟩)) :
    Lands F C R (slc s lo hi >>= f) :=
  .bind (slc_lands h) fun _ ⟨hc, e⟩ => e ▸ hf hc.1 hc.2

theorem le_bind_lands {s : GS} {lo n : Nat} {f : Nat → Out β} (h : C → lo + n ≤ s.buf.length)
    (hf : ∀ v, Lands F C R (f v)) : Lands F C R (le s lo n >>= f) :=
  .bind (Q := fun _ => True) (slc_bind_lands (fun c => ⟨by omega, h c⟩) fun _ _ => .pure trivial) fun v _ => hf v

theorem be_bind_lands {s : GS} {lo n : Nat} {f : Nat → Out β} (h : C → lo + n ≤ s.buf.length)
    (hf : ∀ v, Lands F C R (f v)) : Lands F C R (be s lo n >>= f) :=
  .bind (Q := fun _ => True) (slc_bind_lands (fun c => ⟨by omega, h c⟩) fun _ _ => .pure trivial) fun v _ => hf v

theorem div?_bind_lands {a b : Nat} {f : Nat → Out β} (h : C → b ≠ 0) (hf : b ≠ 0 → Lands F C R (f (a / b))) :
    Lands F C R (div? a b >>= f) :=
  .bind (Q := fun v => b ≠ 0 ∧ v = a / b) (.ite (fun h0 => .panic fun c => h c h0) fun h0 => .ok ⟨h0, rfl⟩)
    fun _ ⟨h0, e⟩ => e ▸ hf h0

/-! What the primitives and `>>=` do on each form of input, for whoever evaluates a mirror by hand; the `Lands`
    rules above do not go through them. -/

theorem slc_ok (s : GS) (lo hi : Nat) (h1 : lo ≤ hi) (h2 : hi ≤ s.buf.length) :
    slc s lo hi = .ok ⟨s.buf.drop lo, hi - lo⟩ := by
  simp [slc, h1, h2]

theorem slc_panic (s : GS) (lo hi : Nat) (h : ¬ (lo ≤ hi ∧ hi ≤ s.buf.length)) :
    slc s lo hi = .panic := by
  simp only [slc, h, if_false]

theorem idx_ok (s : GS) (i : Nat) (h : i < s.len) : idx s i = .ok (s.buf.getD i 0).toNat := by
  simp [idx, h]

theorem le_ok (s : GS) (lo n : Nat) (h : lo + n ≤ s.buf.length) :
    le s lo n = .ok (leDec (GS.bytes ⟨s.buf.drop lo, n⟩)) := by
  have h1 : lo ≤ lo + n := by omega
  simp only [le, slc_ok s lo (lo + n) h1 h, bind_ok, pure_eq, Nat.add_sub_cancel_left]

theorem bind_eq_ok {α β : Type} {x : Out α} {f : α → Out β} {b : β} (h : (x >>= f) = .ok b) :
    ∃ a, x = .ok a ∧ f a = .ok b := by
  cases x with
  | ok a => exact ⟨a, rfl, h⟩
  | _ => simp at h

theorem slc_eq_ok (s : GS) (lo hi : Nat) (t : GS) (h : slc s lo hi = .ok t) :
    t = ⟨s.buf.drop lo, hi - lo⟩ ∧ lo ≤ hi ∧ hi ≤ s.buf.length := by
  unfold slc at h
  split at h
  · injection h with h; rename_i hc; exact ⟨h.symm, hc.1, hc.2⟩
  · simp at h

theorem idx_eq_ok (s : GS) (i v : Nat) (h : idx s i = .ok v) : v = (s.buf.getD i 0).toNat ∧ i < s.len := by
  unfold idx at h
  split at h
  · injection h with h; rename_i hc; exact ⟨h.symm, hc⟩
  · simp at h

theorem idx_lt (s : GS) (i v : Nat) (h : idx s i = .ok v) : v < 256 :=
  (idx_eq_ok s i v h).1 ▸ UInt8.toNat_lt _

theorem pure_ne_panic {α : Type} (a : α) : (pure a : Out α) ≠ .panic := by simp
theorem pure_ne_fuel {α : Type} (a : α) : (pure a : Out α) ≠ .fuel := by simp
theorem panic_ne_fuel {α : Type} : (Out.panic : Out α) ≠ .fuel := by simp

end Diskfs.Parsers
