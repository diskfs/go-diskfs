/-
  The inode and directory-table codecs of Model/Sqfs/Inode.lean round-trip on well-formed values,
  every decoder leaving the bytes that follow.  A listing is taken a header at a time
  (`encodeDir_cons`); `decode_encodeDir_tail` allows up to 11 stray bytes behind it, since that is
  what go-diskfs hands to `parseDirectory`.  Last: renumbering the inode blocks of a listing
  injectively keeps its length, which is why the listing sizes Finalize computes before
  `translateInodeLocations` still hold after it.
-/
import DiskfsModel.Model.Sqfs.Inode
import DiskfsModel.Proofs.SqfsCodec
import DiskfsModel.Proofs.SqfsLists
namespace Diskfs.Sqfs

theorem blk_roundtrip (b : Blk) (h : b.WF) : Blk.ofWord b.word = b := by
  obtain ⟨sz, c⟩ := b
  simp only [Blk.WF] at h
  cases c <;> simp [Blk.word, Blk.ofWord] <;> omega

theorem blk_word_lt (b : Blk) (h : b.WF) : b.word < 2 ^ 32 := by
  simp only [Blk.WF] at h
  unfold Blk.word; split <;> omega

theorem encodeBlks_length (l : List Blk) : (encodeBlks l).length = 4 * l.length :=
  map_flatten_length _ 4 (fun _ => leEnc_length ..) l

theorem decode_encodeBlks (l : List Blk) (rest : Bytes) (h : ∀ b ∈ l, b.WF) :
    decodeBlks l.length (encodeBlks l ++ rest) = some (l, rest) := by
  induction l with
  | nil => rfl
  | cons b r ih =>
    have hb := h b (List.mem_cons_self ..)
    rw [show encodeBlks (b :: r) ++ rest = leEnc 4 b.word ++ (encodeBlks r ++ rest) by simp [encodeBlks], List.length_cons,
      decodeBlks, if_neg (by simp), List.drop_left' (leEnc_length ..), List.take_left' (leEnc_length ..),
      ih fun x hx => h x (List.mem_cons_of_mem _ hx), leDec_leEnc_of_lt 4 _ (blk_word_lt b hb), blk_roundtrip b hb]

theorem decode_encodeBody (bs : Nat) (body : IBody) (rest : Bytes) (h : body.WF bs) :
    decodeBody bs body.typ (encodeBody body ++ rest) = some (body, rest) := by
  cases body with
  | basicDir sb links fs off par =>
    obtain ⟨h1, h2, h3, h4, h5⟩ := h
    have hl : ¬ (4 + (4 + (2 + (2 + (4 + rest.length)))) < 16) := by omega
    simp [decodeBody, IBody.typ, encodeBody, split_leEnc, leDec_leEnc_of_lt 4 _ h1, leDec_leEnc_of_lt 4 _ h2,
      leDec_leEnc_of_lt 2 _ h3, leDec_leEnc_of_lt 2 _ h4, leDec_leEnc_of_lt 4 _ h5, hl]
  | extDir links fs sb par off xa =>
    obtain ⟨h1, h2, h3, h4, h5, h6⟩ := h
    have hl : ¬ (4 + (4 + (4 + (4 + (2 + (2 + (4 + rest.length)))))) < 24) := by omega
    simp [decodeBody, IBody.typ, encodeBody, split_leEnc, leDec_leEnc_of_lt 4 _ h1, leDec_leEnc_of_lt 4 _ h2,
      leDec_leEnc_of_lt 4 _ h3, leDec_leEnc_of_lt 4 _ h4, leDec_leEnc_of_lt 2 _ h5, leDec_leEnc_of_lt 4 _ h6,
      leDec_leEnc_of_lt 2 0 (by decide), hl]
  | basicFile st fr fo fs bl =>
    obtain ⟨h1, h2, h3, h4, h5, h6⟩ := h
    have hl : ¬ (4 + (4 + (4 + (4 + ((encodeBlks bl).length + rest.length)))) < 16) := by omega
    simp [decodeBody, IBody.typ, encodeBody, split_leEnc, leDec_leEnc_of_lt 4 _ h1, leDec_leEnc_of_lt 4 _ h2,
      leDec_leEnc_of_lt 4 _ h3, leDec_leEnc_of_lt 4 _ h4, hl, ← h6, decode_encodeBlks bl rest h5]
  | extFile st fs sp links fr fo xa bl =>
    obtain ⟨h1, h2, h3, h4, h5, h6, h7, h8, h9⟩ := h
    have hl : ¬ (8 + (8 + (8 + (4 + (4 + (4 + (4 + ((encodeBlks bl).length + rest.length))))))) < 40) := by omega
    simp [decodeBody, IBody.typ, encodeBody, split_leEnc, leDec_leEnc_of_lt 8 _ h1, leDec_leEnc_of_lt 8 _ h2,
      leDec_leEnc_of_lt 8 _ h3, leDec_leEnc_of_lt 4 _ h4, leDec_leEnc_of_lt 4 _ h5, leDec_leEnc_of_lt 4 _ h6,
      leDec_leEnc_of_lt 4 _ h7, hl, ← h9, decode_encodeBlks bl rest h8]
  | basicSymlink links t =>
    obtain ⟨h1, h2⟩ := h
    have hl : ¬ (4 + (4 + (t.length + rest.length)) < 8) := by omega
    simp [decodeBody, IBody.typ, encodeBody, split_leEnc, leDec_leEnc_of_lt 4 _ h1, leDec_leEnc_of_lt 4 _ h2, hl]

theorem body_typ_lt (b : IBody) : b.typ < 2 ^ 16 := by cases b <;> simp [IBody.typ]

theorem decode_encodeInode (bs : Nat) (i : Inode) (rest : Bytes) (h : i.WF bs) :
    decodeInode bs (encodeInode i ++ rest) = some (i, rest) := by
  obtain ⟨h1, h2, h3, h4, h5, h6⟩ := h
  have hl : ¬ (2 + (2 + (2 + (2 + (4 + (4 + ((encodeBody i.body).length + rest.length)))))) < 16) := by omega
  simp [decodeInode, encodeInode, split_leEnc, hl, leDec_leEnc_of_lt 2 _ (body_typ_lt _), decode_encodeBody bs i.body rest h6,
    leDec_leEnc_of_lt 2 _ h1, leDec_leEnc_of_lt 2 _ h2, leDec_leEnc_of_lt 2 _ h3, leDec_leEnc_of_lt 4 _ h4,
    leDec_leEnc_of_lt 4 _ h5]

theorem decode_encodeDEnt (base : Nat) (e : DEnt) (rest : Bytes) (h : e.WF base) :
    decodeDEnt base e.startBlock (encodeDEnt base e ++ rest) = some (e, rest) := by
  obtain ⟨h1, h2, h3, h4, h5, h6, h7⟩ := h
  have hdiff : (e.inodeNumber + 2 ^ 32 - base) % 2 ^ 32 = e.inodeNumber - base := by omega
  have hd16 : e.inodeNumber - base < 2 ^ 16 := by omega
  have hl : ¬ (2 + (2 + (2 + (2 + (e.name.length + rest.length)))) < 8) := by omega
  have hn : e.name.length - 1 < 2 ^ 16 := by omega
  have hn2 : ¬ (256 < e.name.length - 1) := by omega
  have hn4 : e.name.length - 1 + 1 = e.name.length := by omega
  have hi : e.inodeNumber - base + base = e.inodeNumber := by omega
  obtain ⟨off, ino, ty, nm, sb⟩ := e
  simp only at *
  simp [decodeDEnt, encodeDEnt, split_leEnc, hl, hdiff, leDec_leEnc_of_lt 2 _ h1, leDec_leEnc_of_lt 2 _ hd16,
    leDec_leEnc_of_lt 2 _ h2, leDec_leEnc_of_lt 2 _ hn, hn2, hn4, hi]

theorem decode_encodeDEnts (base sb : Nat) (g : List DEnt) (rest : Bytes)
    (h : ∀ e ∈ g, e.WF base ∧ e.startBlock = sb) :
    decodeDEnts base sb g.length ((g.map (encodeDEnt base)).flatten ++ rest) = some (g, rest) := by
  induction g with
  | nil => rfl
  | cons e r ih =>
    obtain ⟨hw, hs⟩ := h e (List.mem_cons_self ..)
    have := decode_encodeDEnt base e ((r.map (encodeDEnt base)).flatten ++ rest) hw
    rw [hs] at this
    simp only [List.map_cons, List.flatten_cons, List.append_assoc, List.length_cons, decodeDEnts, this,
      ih (fun x hx => h x (List.mem_cons_of_mem _ hx))]

theorem takeGroup_spec (sb : Nat) (n : Nat) (l : List DEnt) :
    (∀ e ∈ takeGroup sb n l, e.startBlock = sb) ∧ takeGroup sb n l ++ l.drop (takeGroup sb n l).length = l ∧
    (takeGroup sb n l).length ≤ n := by
  induction n generalizing l with
  | zero => simp [takeGroup]
  | succ n ih =>
    cases l with
    | nil => simp [takeGroup]
    | cons e r =>
      by_cases h : e.startBlock = sb
      · obtain ⟨a, b, c⟩ := ih r
        simp only [takeGroup, h, if_true, List.mem_cons, List.length_cons, List.drop_succ_cons, List.cons_append]
        refine ⟨?_, by rw [b], by omega⟩
        rintro x (rfl | hx)
        · exact h
        · exact a x hx
      · simp [takeGroup, h]

theorem encodeDir_cons (base fuel : Nat) (e : DEnt) (r : List DEnt) :
    ∃ g rest, g ++ rest = e :: r ∧ 0 < g.length ∧ g.length ≤ maxDirEntries ∧ (∀ x ∈ g, x.startBlock = e.startBlock) ∧
      encodeDir base (fuel + 1) (e :: r) = leEnc 4 (g.length - 1) ++ (leEnc 4 e.startBlock ++ (leEnc 4 base ++
        ((g.map (encodeDEnt base)).flatten ++ encodeDir base fuel rest))) := by
  obtain ⟨h1, h2, h3⟩ := takeGroup_spec e.startBlock maxDirEntries (e :: r)
  exact ⟨_, _, h2, by simp [takeGroup, maxDirEntries], h3, h1, rfl⟩

theorem encodeDir_length_ge (base fe : Nat) (es : List DEnt) (h : es.length ≤ fe) : es.length ≤ (encodeDir base fe es).length := by
  induction fe generalizing es with
  | zero => rw [List.eq_nil_of_length_eq_zero (Nat.le_zero.1 h)]; exact Nat.zero_le _
  | succ fe ih =>
    cases es with
    | nil => exact Nat.zero_le _
    | cons e r =>
      obtain ⟨g, rest, hgr, _, _, _, henc⟩ := encodeDir_cons base fe e r
      have hlen := congrArg List.length hgr
      simp only [List.length_append, List.length_cons] at hlen h
      have := ih rest (by omega)
      have := length_le_map_flatten (encodeDEnt base) g fun x _ => by simp [encodeDEnt]; omega
      rw [henc]
      simp only [List.length_append, leEnc_length, List.length_cons]
      omega

/-- directory listing round trip with up to 11 stray bytes behind the listing: `parseDirectory`
    stops when fewer than 12 bytes are left (go-diskfs' own `getDirectoryEntries` hands it the
    inode's file_size, 3 bytes more than the listing is long) -/
theorem decode_encodeDir_tail (base : Nat) (hb : base < 2 ^ 32) (t : Bytes) (ht : t.length < 12) (fe : Nat) (es : List DEnt)
    (fd : Nat) (h1 : es.length ≤ fe) (h2 : es.length < fd) (hw : ∀ e ∈ es, e.WF base) :
    decodeDir fd (encodeDir base fe es ++ t) = some es := by
  induction fe generalizing es fd with
  | zero =>
    obtain ⟨fd, rfl⟩ : ∃ k, fd = k + 1 := ⟨fd - 1, by omega⟩
    simp [List.eq_nil_of_length_eq_zero (Nat.le_zero.1 h1), encodeDir, decodeDir, ht]
  | succ fe ih =>
    obtain ⟨fd, rfl⟩ : ∃ k, fd = k + 1 := ⟨fd - 1, by omega⟩
    cases es with
    | nil => simp [encodeDir, decodeDir, ht]
    | cons e r =>
      obtain ⟨g, rest, hgr, gpos, glen, gsb, henc⟩ := encodeDir_cons base fe e r
      have hlen := congrArg List.length hgr
      rw [← hgr] at hw
      simp only [List.length_append, List.length_cons] at hlen h1 h2
      have hrest := ih rest fd (by omega) (by omega) fun x hx => hw x (List.mem_append_right _ hx)
      have hgw : ∀ x ∈ g, x.WF base ∧ x.startBlock = e.startBlock := fun x hx => ⟨hw x (List.mem_append_left _ hx), gsb x hx⟩
      obtain ⟨x, hx⟩ := List.exists_mem_of_length_pos gpos
      have hsb : e.startBlock < 2 ^ 32 := (hgw x hx).2 ▸ (hgw x hx).1.2.2.2.2.1
      have hcnt : g.length - 1 < 2 ^ 32 := by simp only [maxDirEntries] at glen; omega
      have hc1 : g.length - 1 + 1 = g.length := by omega
      have hl : ¬ (4 + (4 + (4 + (((g.map (encodeDEnt base)).flatten).length + ((encodeDir base fe rest).length + t.length)))) < 12) := by
        omega
      simp only [henc, decodeDir, List.append_assoc, List.length_append, leEnc_length, hl, if_false, split_leEnc,
        leDec_leEnc_of_lt 4 _ hcnt, leDec_leEnc_of_lt 4 _ hsb, leDec_leEnc_of_lt 4 _ hb, hc1,
        decode_encodeDEnts base e.startBlock g _ hgw, hrest, hgr, if_neg (Nat.not_lt.2 glen)]

/-- the entry with its inode block renumbered by `f`: what `translateInodeLocations` does to a directory entry -/
def setSB (f : Nat → Nat) (e : DEnt) : DEnt := { e with startBlock := f e.startBlock }

theorem encodeDEnt_setSB (base : Nat) (f : Nat → Nat) (e : DEnt) : encodeDEnt base (setSB f e) = encodeDEnt base e := rfl

theorem takeGroup_map (f : Nat → Nat) (sb n : Nat) (l : List DEnt) (h : ∀ e ∈ l, f e.startBlock = f sb → e.startBlock = sb) :
    takeGroup (f sb) n (l.map (setSB f)) = (takeGroup sb n l).map (setSB f) := by
  induction n generalizing l with
  | zero => simp [takeGroup]
  | succ n ih =>
    cases l with
    | nil => simp [takeGroup]
    | cons e r =>
      simp only [List.map_cons, takeGroup]
      by_cases he : e.startBlock = sb
      · rw [if_pos (show (setSB f e).startBlock = f sb by simp [setSB, he]), if_pos he,
          ih r (fun x hx => h x (List.mem_cons_of_mem _ hx))]
        rfl
      · rw [if_neg (show ¬ (setSB f e).startBlock = f sb from fun hh => he (h e (List.mem_cons_self ..) hh)), if_neg he]
        rfl

theorem encodeDir_length_map (base : Nat) (f : Nat → Nat) (fuel : Nat) (l : List DEnt)
    (h : ∀ a ∈ l, ∀ b ∈ l, f a.startBlock = f b.startBlock → a.startBlock = b.startBlock) :
    (encodeDir base fuel (l.map (setSB f))).length = (encodeDir base fuel l).length := by
  induction fuel generalizing l with
  | zero => simp [encodeDir]
  | succ fuel ih =>
    cases l with
    | nil => simp [encodeDir]
    | cons e r =>
      have hg := takeGroup_map f e.startBlock maxDirEntries (e :: r) (fun x hx hh => h x hx e (List.mem_cons_self ..) hh)
      rw [List.map_cons] at hg ⊢
      rw [encodeDir, show (setSB f e).startBlock = f e.startBlock from rfl, hg, List.length_map, ← List.map_cons, ← List.map_drop,
        encodeDir]
      simp only [List.length_append, leEnc_length, List.map_map]
      rw [ih _ (fun a ha b hb => h a (List.mem_of_mem_drop ha) b (List.mem_of_mem_drop hb))]
      rfl

end Diskfs.Sqfs
