/-
  Collision resolution.  One pass (`round`) hands every member of a group a candidate that is not in
  the name table yet; `rounds` repeats it with more digits.  Over the groups processed so far
  `resolveAll` keeps `Inv`: untouched entries have their original name, an entry that will not be
  renamed any more differs from all others, every name is a valid 8.3 name.  Extensions are never
  touched.  The identifier written for a valid 8.3 name determines it and is at most 14 bytes long.
-/
import DiskfsModel.Model.Iso.Names
import DiskfsModel.Proofs.Lists
namespace Diskfs.Iso

theorem padDigits_length (d n : Nat) : (padDigits d n).length = d := by
  induction d generalizing n with
  | zero => rfl
  | succ d ih => simp [padDigits, ih]

theorem padDigits_ok (d n : Nat) : ∀ c ∈ padDigits d n, okChar c = true := by
  induction d generalizing n with
  | zero => intro c h; simp [padDigits] at h
  | succ d ih =>
    intro c h
    simp only [padDigits, List.mem_append, List.mem_singleton] at h
    rcases h with h | h
    · exact ih _ c h
    · subst h
      have : n % 10 < 10 := Nat.mod_lt _ (by decide)
      simp [okChar]
      omega

theorem cleanChar_ok (c : Nat) : okChar (cleanChar c) = true := by
  unfold cleanChar
  split
  · assumption
  · decide

theorem clean_ok (s : Str) : ∀ c ∈ clean s, okChar c = true := by
  intro c h
  simp only [clean, List.mem_map] at h
  obtain ⟨a, _, rfl⟩ := h
  exact cleanChar_ok a

theorem shortExt_valid (name : Str) : Valid83 (shortExt name) := by
  refine ⟨?_, ?_, ?_, ?_⟩
  · simp [shortExt]; omega
  · simp [shortExt]; omega
  · intro c h; exact clean_ok _ c (List.mem_of_mem_take h)
  · intro c h; exact clean_ok _ c (List.mem_of_mem_take h)

theorem entryName_valid (name : Str) (isDir : Bool) : Valid83 (entryName name isDir) := by
  have h := shortExt_valid name
  unfold entryName
  split
  · exact ⟨h.1, by simp, h.2.2.1, by simp⟩
  · exact h

theorem cand_valid (key : Nm) (d k : Nat) (hk : Valid83 key) (hd : d ≤ 8) : Valid83 (cand key.1 key.2 d k) := by
  refine ⟨?_, hk.2.1, ?_, hk.2.2.2⟩
  · simp [cand, padDigits_length]; omega
  · intro c h
    simp only [cand, List.mem_append] at h
    rcases h with h | h
    · exact hk.2.2.1 c (List.mem_of_mem_take h)
    · exact padDigits_ok d k c h

theorem findFree_spec (tbl : List Nm) (base ext : Str) (d fuel ch ch' : Nat) (c : Nm)
    (h : findFree tbl base ext d fuel ch = some (ch', c)) :
    c ∉ tbl ∧ ∃ k, c = cand base ext d k := by
  induction fuel generalizing ch with
  | zero => simp [findFree] at h
  | succ fuel ih =>
    simp only [findFree] at h
    split at h
    · split at h
      · exact ih _ h
      · rename_i hm
        simp only [Option.some.injEq, Prod.mk.injEq] at h
        obtain ⟨_, rfl⟩ := h
        exact ⟨hm, _, rfl⟩
    · simp at h

theorem round_frame (base ext : Str) (d : Nat) (ms : List Nat) (ch : Nat) (s : St) :
    (∀ x ∈ s.tbl, x ∈ (round base ext d ms ch s).2.tbl) ∧
    (∀ j, j ∉ ms → (round base ext d ms ch s).2.cur j = s.cur j) := by
  induction ms generalizing ch s with
  | nil => simp [round]
  | cons i rest ih =>
    simp only [round]
    split
    · simp
    · rename_i ch' c hf
      have := ih ch' { tbl := c :: s.tbl, cur := upd s.cur i c }
      refine ⟨fun x hx => this.1 x (List.mem_cons_of_mem _ hx), fun j hj => ?_⟩
      simp only [List.mem_cons, not_or] at hj
      rw [this.2 j hj.2]
      simp [upd, hj.1]

/-- what renaming the members `ms` of a group leaves: the others untouched, every member under a
    candidate that was not in the table `tbl`, no two members under the same -/
structure Renamed (ms : List Nat) (tbl : List Nm) (base ext : Str) (cur cur' : Nat → Nm) : Prop where
  out : ∀ j, j ∉ ms → cur' j = cur j
  fresh : ∀ i ∈ ms, cur' i ∉ tbl
  distinct : ∀ i ∈ ms, ∀ j ∈ ms, i ≠ j → cur' i ≠ cur' j
  isCand : ∀ i ∈ ms, ∃ d k, d < 8 ∧ cur' i = cand base ext d k

theorem round_ok (base ext : Str) (d : Nat) (hd : d < 8) (ms : List Nat) (hnd : ms.Nodup) (ch : Nat) (s s' : St)
    (h : round base ext d ms ch s = (true, s')) : Renamed ms s.tbl base ext s.cur s'.cur := by
  induction ms generalizing ch s with
  | nil => cases h; exact ⟨fun _ _ => rfl, nofun, nofun, nofun⟩
  | cons i rest ih =>
    have fr := (round_frame base ext d (i :: rest) ch s).2
    rw [h] at fr
    simp only [round] at h
    split at h
    · simp at h
    · rename_i ch' c hf
      have ⟨hc, k, hk⟩ := findFree_spec _ _ _ _ _ _ _ _ hf
      have hnd' := List.nodup_cons.1 hnd
      have IH := ih hnd'.2 ch' { tbl := c :: s.tbl, cur := upd s.cur i c } h
      have hi : s'.cur i = c := by
        rw [IH.out i hnd'.1]; simp [upd]
      refine ⟨fr, fun j hj => ?_, ?_, fun j hj => ?_⟩
      · rcases List.mem_cons.1 hj with rfl | hj
        · rw [hi]; exact hc
        · intro hm
          exact IH.fresh j hj (List.mem_cons_of_mem _ hm)
      · -- the later members were given names that are not in `c :: s.tbl`
        have later : ∀ b ∈ rest, c ≠ s'.cur b := fun b hb e => IH.fresh b hb (e ▸ List.mem_cons_self ..)
        intro a ha b hb hab
        rcases List.mem_cons.1 ha with ha | ha <;> rcases List.mem_cons.1 hb with hb | hb
        · exact absurd (ha.trans hb.symm) hab
        · rw [ha, hi]; exact later b hb
        · rw [hb, hi]; exact (later a ha).symm
        · exact IH.distinct a ha b hb hab
      · rcases List.mem_cons.1 hj with rfl | hj
        · exact ⟨d, k, hd, by rw [hi, hk]⟩
        · exact IH.isCand j hj

/-- rounds that ran out of numbers keep their changes: the table only grows (`round_frame`), so what the
    successful round finds fresh was not in the table at the start either -/
theorem rounds_ok (base ext : Str) (ms : List Nat) (hnd : ms.Nodup) (fuel d : Nat) (s s' : St)
    (h : rounds base ext ms fuel d s = some s') : Renamed ms s.tbl base ext s.cur s'.cur := by
  induction fuel generalizing d s with
  | zero => simp [rounds] at h
  | succ f ih =>
    simp only [rounds] at h
    split at h
    · rename_i hd
      split at h
      · rename_i s1 hr
        cases h
        exact round_ok base ext d hd ms hnd 0 s _ hr
      · rename_i s1 hr
        have fr := round_frame base ext d ms 0 s
        rw [hr] at fr
        have IH := ih (d + 1) s1 h
        exact ⟨fun j hj => by rw [IH.out j hj, fr.2 j hj], fun i hi hm => IH.fresh i hi (fr.1 _ hm), IH.distinct, IH.isCand⟩
    · simp at h

theorem members_nodup (n : Nat) (orig : Nat → Nm) (key : Nm) : (members n orig key).Nodup :=
  (List.nodup_range).sublist (List.filter_sublist)

theorem mem_members (n : Nat) (orig : Nat → Nm) (key : Nm) (i : Nat) :
    i ∈ members n orig key ↔ i < n ∧ orig i = key := by
  simp [members]

theorem two_le_length_of_mem {α} (l : List α) (a b : α) (ha : a ∈ l) (hb : b ∈ l) (hab : a ≠ b) : 2 ≤ l.length := by
  match l, ha, hb with
  | [x], ha, hb =>
    simp only [List.mem_singleton] at ha hb
    exact absurd (ha.trans hb.symm) hab
  | _ :: _ :: _, _, _ => simp

/-- entry `i` will not be renamed any more: its group has been processed or it is alone in it -/
def Settled (n : Nat) (orig : Nat → Nm) (P : List Nm) (i : Nat) : Prop :=
  orig i ∈ P ∨ (members n orig (orig i)).length ≤ 1

theorem Settled.of_cons {n : Nat} {orig : Nat → Nm} {key : Nm} {P : List Nm} {i : Nat}
    (h : Settled n orig (key :: P) i) (hk : orig i ≠ key) : Settled n orig P i :=
  h.imp (fun hs => (List.mem_cons.1 hs).resolve_left hk) id

/-- what `resolveAll` keeps, `P` being the groups processed so far -/
structure Inv (n : Nat) (orig cur : Nat → Nm) (P : List Nm) : Prop where
  unch : ∀ i, i < n → orig i ∉ P → cur i = orig i
  uniq : ∀ i j, i < n → j < n → i ≠ j → Settled n orig P i → cur i ≠ cur j
  valid : ∀ i, i < n → Valid83 (cur i)

theorem inv_init (n : Nat) (orig : Nat → Nm) (hv : ∀ i, i < n → Valid83 (orig i)) : Inv n orig orig [] := by
  refine ⟨fun _ _ _ => rfl, ?_, hv⟩
  intro i j hi hj hij hs e
  rcases hs with hs | hs
  · simp at hs
  · have := two_le_length_of_mem _ i j ((mem_members ..).2 ⟨hi, rfl⟩) ((mem_members ..).2 ⟨hj, e.symm⟩) hij
    omega

theorem resolveGroup_spec {n : Nat} {orig cur cur' : Nat → Nm} {key : Nm} (h : resolveGroup n orig cur key = some cur') :
    ((members n orig key).length ≤ 1 ∧ cur' = cur) ∨
    Renamed (members n orig key) ((List.range n).map cur) key.1 key.2 cur cur' := by
  unfold resolveGroup at h
  simp only at h
  split at h
  · exact Or.inl ⟨‹_›, (Option.some.inj h).symm⟩
  · split at h
    · cases h
    · rename_i s hr
      cases h
      exact Or.inr (rounds_ok key.1 key.2 _ (members_nodup n orig key) _ _ _ _ hr)

theorem inv_step (n : Nat) (orig cur cur' : Nat → Nm) (P : List Nm) (key : Nm)
    (hv : ∀ i, i < n → Valid83 (orig i)) (inv : Inv n orig cur P)
    (h : resolveGroup n orig cur key = some cur') : Inv n orig cur' (key :: P) := by
  rcases resolveGroup_spec h with ⟨hlen, rfl⟩ | ⟨hout, hnew, hdist, hcand⟩
  · refine ⟨fun i hi hn => inv.unch i hi (fun hp => hn (List.mem_cons_of_mem _ hp)), fun i j hi hj hij hs => ?_, inv.valid⟩
    exact inv.uniq i j hi hj hij (if hk : orig i = key then Or.inr (hk ▸ hlen) else hs.of_cons hk)
  · have htbl : ∀ j, j < n → cur j ∈ (List.range n).map cur :=
      fun j hj => List.mem_map.2 ⟨j, List.mem_range.2 hj, rfl⟩
    refine ⟨?_, ?_, ?_⟩
    · intro i hi hn
      have hk : orig i ≠ key := fun e => hn (by rw [e]; exact List.mem_cons_self ..)
      rw [hout i fun hm => hk ((mem_members ..).1 hm).2]
      exact inv.unch i hi (fun hp => hn (List.mem_cons_of_mem _ hp))
    · -- a renamed member differs from every name that was in the table
      have out : ∀ a b, a ∈ members n orig key → b ∉ members n orig key → b < n → cur' a ≠ cur' b :=
        fun a b ma mb hb e => hnew a ma (by rw [e, hout b mb]; exact htbl b hb)
      intro i j hi hj hij hs
      by_cases mi : i ∈ members n orig key <;> by_cases mj : j ∈ members n orig key
      · exact hdist i mi j mj hij
      · exact out i j mi mj hj
      · exact (out j i mj mi hi).symm
      · rw [hout i mi, hout j mj]
        exact inv.uniq i j hi hj hij (hs.of_cons fun hk => mi ((mem_members ..).2 ⟨hi, hk⟩))
    · intro i hi
      by_cases mi : i ∈ members n orig key
      · obtain ⟨d', k, hd, hc⟩ := hcand i mi
        have hm := (mem_members ..).1 mi
        rw [hc]
        exact cand_valid key d' k (hm.2 ▸ hv i hm.1) (by omega)
      · rw [hout i mi]; exact inv.valid i hi

theorem inv_all (n : Nat) (orig : Nat → Nm) (hv : ∀ i, i < n → Valid83 (orig i))
    (order : List Nm) (cur fin : Nat → Nm) (P : List Nm) (inv : Inv n orig cur P)
    (h : resolveAll n orig order cur = some fin) : Inv n orig fin (order.reverse ++ P) := by
  induction order generalizing cur P with
  | nil => simp only [resolveAll, Option.some.injEq] at h; subst h; simpa using inv
  | cons key rest ih =>
    simp only [resolveAll] at h
    split at h
    · simp at h
    · rename_i cur' hg
      have := ih cur' (key :: P) (inv_step n orig cur cur' P key hv inv hg) h
      simpa [List.reverse_cons, List.append_assoc] using this

theorem resolveAll_inv (n : Nat) (orig : Nat → Nm) (hv : ∀ i, i < n → Valid83 (orig i)) (order : List Nm) (fin : Nat → Nm)
    (h : resolveAll n orig order orig = some fin) : Inv n orig fin order.reverse := by
  simpa using inv_all n orig hv order orig fin [] (inv_init n orig hv) h

theorem Inv.distinct {n : Nat} {orig cur : Nat → Nm} {P : List Nm} (inv : Inv n orig cur P)
    (hcover : ∀ i, i < n → 1 < (members n orig (orig i)).length → orig i ∈ P) :
    ∀ i j, i < n → j < n → i ≠ j → cur i ≠ cur j :=
  fun i j hi hj hij => inv.uniq i j hi hj hij ((Nat.lt_or_ge 1 _).imp (hcover i hi) id)

theorem resolveGroup_ext (n : Nat) (orig cur cur' : Nat → Nm) (key : Nm)
    (hext : ∀ i, i < n → (cur i).2 = (orig i).2) (h : resolveGroup n orig cur key = some cur') :
    ∀ i, i < n → (cur' i).2 = (orig i).2 := by
  rcases resolveGroup_spec h with ⟨_, rfl⟩ | ⟨hout, _, _, hcand⟩
  · exact hext
  · intro i hi
    by_cases mi : i ∈ members n orig key
    · obtain ⟨d', k, _, hc⟩ := hcand i mi
      rw [hc, ((mem_members ..).1 mi).2]
      rfl
    · rw [hout i mi]; exact hext i hi

theorem resolveAll_ext (n : Nat) (orig : Nat → Nm) (order : List Nm) (cur fin : Nat → Nm)
    (hext : ∀ i, i < n → (cur i).2 = (orig i).2) (h : resolveAll n orig order cur = some fin) :
    ∀ i, i < n → (fin i).2 = (orig i).2 := by
  induction order generalizing cur with
  | nil => simp only [resolveAll, Option.some.injEq] at h; subst h; exact hext
  | cons key rest ih =>
    simp only [resolveAll] at h
    split at h
    · simp at h
    · rename_i cur' hg
      exact ih cur' (resolveGroup_ext n orig cur cur' key hext hg) h

/-! ### the identifier `isoIdent` of a valid 8.3 name

A directory is written under its short name alone: go-diskfs (`finalizeFileInfoFromFile`) keeps
`shortname, _ := calculateShortnameExtension(name)` and `Name()` writes that; `entryName … true`
mirrors it, so what follows the first dot of a host name like conf.d, v1.0, a.b.c plays no part. -/

theorem okChar_ascii_ne_dot (c : Nat) (h : okChar c = true) : c < 128 ∧ c ≠ 46 := by
  simp only [okChar, Bool.or_eq_true, Bool.and_eq_true, decide_eq_true_eq, beq_iff_eq] at h
  omega

theorem split_at_dot (a a' r r' : Str) (ha : 46 ∉ a) (ha' : 46 ∉ a') (h : a ++ 46 :: r = a' ++ 46 :: r') : a = a' ∧ r = r' := by
  have e : a = a' := by rw [← takeWhile_ne_append_cons 46 a r ha, h, takeWhile_ne_append_cons 46 a' r' ha']
  subst e
  exact ⟨rfl, (List.cons.inj (List.append_cancel_left h)).2⟩

theorem isoIdent_inj (a b : Nm) (da db : Bool) (va : Valid83 a) (vb : Valid83 b)
    (ea : da = true → a.2 = []) (eb : db = true → b.2 = []) (h : isoIdent a da = isoIdent b db) : a = b := by
  have na : 46 ∉ a.1 := fun hm => (okChar_ascii_ne_dot 46 (va.2.2.1 46 hm)).2 rfl
  have nb : 46 ∉ b.1 := fun hm => (okChar_ascii_ne_dot 46 (vb.2.2.1 46 hm)).2 rfl
  cases da <;> cases db <;> simp only [isoIdent, if_true, if_false, Bool.false_eq_true] at h
  · rw [List.append_assoc, List.append_assoc, List.append_assoc, List.append_assoc] at h
    obtain ⟨h1, h2⟩ := split_at_dot _ _ _ _ na nb h
    exact Prod.ext h1 (List.append_cancel_right (bs := [59, 49]) h2)
  · exact (nb (by rw [← h]; simp)).elim
  · exact (na (by rw [h]; simp)).elim
  · exact Prod.ext h (by rw [ea rfl, eb rfl])

theorem isoIdent_small (a : Nm) (d : Bool) (va : Valid83 a) :
    (isoIdent a d).length ≤ 14 ∧ ∀ c ∈ isoIdent a d, c < 256 := by
  obtain ⟨h1, h2, h3, h4⟩ := va
  cases d <;> simp only [isoIdent, if_true, if_false, Bool.false_eq_true]
  · refine ⟨by simp; omega, ?_⟩
    intro c hc
    simp only [List.mem_append, List.mem_cons, List.not_mem_nil, or_false] at hc
    rcases hc with ((hc | hc) | hc) | hc
    · exact Nat.lt_trans (okChar_ascii_ne_dot c (h3 c hc)).1 (by decide)
    · omega
    · exact Nat.lt_trans (okChar_ascii_ne_dot c (h4 c hc)).1 (by decide)
    · omega
  · exact ⟨by omega, fun c hc => Nat.lt_trans (okChar_ascii_ne_dot c (h3 c hc)).1 (by decide)⟩

end Diskfs.Iso
