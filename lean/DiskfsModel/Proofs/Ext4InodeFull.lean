/-
  The inode codec for ALL fields of the 160 fixed bytes — the record of a set of decoded numbers (`encFull`:
  every word at its offset, both halves of the split fields, the 34-bit timestamps) holds every one of these
  words at its offset (`encFull_words`), also when padded to 256 bytes (`pad256_encFull`);
  Props/C20.lean inode_codec_roundtrip_all_fields decodes it back through the mirror of inodeFromBytes.
-/
import DiskfsModel.Proofs.Ext4InodeDecode
import DiskfsModel.Proofs.Ext4Reader
namespace Diskfs.Ext4.InodeDec
open Diskfs Diskfs.Ext4.Reader Diskfs.Ext4.InodeCodec Diskfs.Ext4.Spec

/-- the words in front of i_block, in record order (width, value) -/
def fieldsA (g : GoInode) : List (Nat × Nat) :=
  [(2, g.mode), (2, g.uid % 65536), (4, g.size % 4294967296), (4, tsLo g.atime), (4, tsLo g.ctime),
   (4, tsLo g.mtime), (4, g.dtime), (2, g.gid % 65536), (2, g.links), (4, g.blocks % 4294967296), (4, g.flags),
   (4, g.version % 4294967296)]

/-- the words behind i_block up to the end of the fixed extra fields (0xa0); `csumLo`, `csumHi`, `obso`, `rsv`
    are the words the decoder does not interpret -/
def fieldsB (g : GoInode) (csumLo csumHi obso rsv : Nat) : List (Nat × Nat) :=
  [(4, g.gen), (4, g.fileAcl % 4294967296), (4, g.size / 4294967296), (4, obso), (2, g.blocks / 4294967296),
   (2, g.fileAcl / 4294967296), (2, g.uid / 65536), (2, g.gid / 65536), (2, csumLo), (2, rsv), (2, g.extra),
   (2, csumHi), (4, tsExtra g.ctime), (4, tsExtra g.mtime), (4, tsExtra g.atime), (4, tsLo g.crtime),
   (4, tsExtra g.crtime), (4, g.version / 4294967296), (4, g.project)]

/-- the inode record of the decoded numbers `g`: every field of the 160 bytes at its place, `tail` behind -/
def encFull (g : GoInode) (csumLo csumHi obso rsv : Nat) (tail : Bytes) : Bytes :=
  encFields (fieldsA g) ++ g.iblock ++ (encFields (fieldsB g csumLo csumHi obso rsv) ++ tail)

/-- the numbers fit their fields of the 160 fixed bytes; whether i_blocks counts file system blocks is the huge-file
    bit of the flags (the record has no word of its own for it) -/
def FullWF (g : GoInode) : Prop :=
  g.mode < 65536 ∧ g.uid < 4294967296 ∧ g.gid < 4294967296 ∧ g.size < 18446744073709551616 ∧ g.links < 65536 ∧
  g.flags < 4294967296 ∧ g.blocks < 281474976710656 ∧ g.gen < 4294967296 ∧ g.fileAcl < 281474976710656 ∧
  g.version < 18446744073709551616 ∧ g.extra < 65536 ∧ g.dtime < 4294967296 ∧ g.project < 4294967296 ∧
  TsWF g.atime ∧ TsWF g.ctime ∧ TsWF g.mtime ∧ TsWF g.crtime ∧ g.iblock.length = 60 ∧
  g.fsBlocks = hasBit g.flags 0x40000

theorem encFull_length (g : GoInode) (cl ch ob rs : Nat) (tail : Bytes) (h : g.iblock.length = 60) :
    (encFull g cl ch ob rs tail).length = 160 + tail.length := by
  simp [encFull, encFields_length, fieldsA, fieldsB, h]; omega

theorem encFull_words (g : GoInode) (cl ch ob rs : Nat) (tail : Bytes) (hib : g.iblock.length = 60) :
    HoldsAt (encFull g cl ch ob rs tail) 0 (fieldsA g) ∧ slice (encFull g cl ch ob rs tail) 0x28 0x64 = g.iblock ∧
    HoldsAt (encFull g cl ch ob rs tail) 0x64 (fieldsB g cl ch ob rs) := by
  have hA : (encFields (fieldsA g)).length = 0x28 := by simp [encFields_length, fieldsA]
  have h1 := holdsAt_enc (fieldsA g) [] (g.iblock ++ (encFields (fieldsB g cl ch ob rs) ++ tail))
  have h2 := slice_mid (encFields (fieldsA g)) g.iblock (encFields (fieldsB g cl ch ob rs) ++ tail) 0x28 0x64
    hA.symm (by rw [hA, hib])
  have h3 := holdsAt_enc (fieldsB g cl ch ob rs) (encFields (fieldsA g) ++ g.iblock) tail
  rw [List.length_append, hA, hib] at h3
  rw [← List.append_assoc] at h2
  rw [List.nil_append, ← List.append_assoc] at h1
  exact ⟨h1, h2, h3⟩

theorem pad256_encFull (g : GoInode) (cl ch ob rs : Nat) (tail : Bytes) :
    ∃ tail', pad256 (encFull g cl ch ob rs tail) = encFull g cl ch ob rs tail' := by
  unfold pad256
  split
  · exact ⟨tail ++ zeros (256 - (encFull g cl ch ob rs tail).length), by simp only [encFull, List.append_assoc]⟩
  · exact ⟨tail, rfl⟩

/-! the words the decoder does not interpret are stored all the same -/

theorem rd_obso (g : GoInode) (cl ch ob rs : Nat) (tail : Bytes) (hib : g.iblock.length = 60) :
    le32 (encFull g cl ch ob rs tail) 112 = (ob) % 4294967296 := by
  have H := (encFull_words g cl ch ob rs tail hib).2.2
  simp only [HoldsAt, fieldsB, Nat.reduceAdd, Nat.reducePow] at H
  exact H.2.2.2.1

theorem rd_csumLo (g : GoInode) (cl ch ob rs : Nat) (tail : Bytes) (hib : g.iblock.length = 60) :
    le16 (encFull g cl ch ob rs tail) 124 = (cl) % 65536 := by
  have H := (encFull_words g cl ch ob rs tail hib).2.2
  simp only [HoldsAt, fieldsB, Nat.reduceAdd, Nat.reducePow] at H
  exact H.2.2.2.2.2.2.2.2.1

theorem rd_rsv (g : GoInode) (cl ch ob rs : Nat) (tail : Bytes) (hib : g.iblock.length = 60) :
    le16 (encFull g cl ch ob rs tail) 126 = (rs) % 65536 := by
  have H := (encFull_words g cl ch ob rs tail hib).2.2
  simp only [HoldsAt, fieldsB, Nat.reduceAdd, Nat.reducePow] at H
  exact H.2.2.2.2.2.2.2.2.2.1

theorem rd_csumHi (g : GoInode) (cl ch ob rs : Nat) (tail : Bytes) (hib : g.iblock.length = 60) :
    le16 (encFull g cl ch ob rs tail) 130 = (ch) % 65536 := by
  have H := (encFull_words g cl ch ob rs tail hib).2.2
  simp only [HoldsAt, fieldsB, Nat.reduceAdd, Nat.reducePow] at H
  exact H.2.2.2.2.2.2.2.2.2.2.2.1

end Diskfs.Ext4.InodeDec
