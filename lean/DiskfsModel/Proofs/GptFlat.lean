/-
  The five regions `Table.Write` fills are pairwise disjoint writes, so all are readable at the end, for
  EVERY prior device content (`readAt_applyWrs_mem`).
-/
import DiskfsModel.Proofs.Bytes
set_option linter.unusedSimpArgs false
namespace Diskfs.Gpt

theorem dev_of_readAt (d : Dev) (off len : Nat) (b : Bytes) (h : readAt d off len = b) (k : Nat) (hk : k < len) :
    d (off + k) = b.getD k 0 :=
  h ▸ (readAt_getD d off len k hk).symm

/-- the four GPT writes in program order (backup array, backup header, primary array, primary header) and the
    optional protective-MBR write, first or last, do not overlap -/
theorem five_regions (d : Dev) (lss ab oPA oBA oBH : Nat) (arr ph bh pm : Bytes) (pmOpt pmLast : Bool)
    (h512 : 512 ≤ lss) (harr : arr.length = ab) (hph : ph.length = lss) (hbh : bh.length = lss)
    (hpm : pm.length = 66) (h0 : 2 * lss ≤ oPA) (h1 : oPA + ab ≤ oBA) (h2 : oBA + ab ≤ oBH) :
    ∀ ws, ws = (if pmLast then [Wr.mk oBA arr, ⟨oBH, bh⟩, ⟨oPA, arr⟩, ⟨lss, ph⟩] ++ (if pmOpt then [Wr.mk 446 pm] else [])
                else (if pmOpt then [Wr.mk 446 pm] else []) ++ [Wr.mk oBA arr, ⟨oBH, bh⟩, ⟨oPA, arr⟩, ⟨lss, ph⟩]) →
      readAt (applyWrs d ws) lss lss = ph ∧ readAt (applyWrs d ws) oPA ab = arr ∧
      readAt (applyWrs d ws) oBH lss = bh ∧ readAt (applyWrs d ws) oBA ab = arr ∧
      (pmOpt = true → readAt (applyWrs d ws) 446 66 = pm) := by
  intro ws hws
  have hcore : [Wr.mk oBA arr, ⟨oBH, bh⟩, ⟨oPA, arr⟩, ⟨lss, ph⟩].Pairwise Wr.Disj := by
    simp only [List.pairwise_cons, List.mem_cons, List.mem_singleton, List.not_mem_nil, Wr.Disj, forall_eq_or_imp, forall_eq,
      List.Pairwise.nil, and_true, or_false, harr, hph, hbh, false_imp_iff, implies_true]
    omega
  have hmbr : ∀ w ∈ [Wr.mk oBA arr, ⟨oBH, bh⟩, ⟨oPA, arr⟩, ⟨lss, ph⟩], Wr.Disj ⟨446, pm⟩ w := by
    simp only [List.mem_cons, List.mem_singleton, List.not_mem_nil, Wr.Disj, forall_eq_or_imp, forall_eq,
      or_false, harr, hph, hbh, hpm, false_imp_iff, implies_true]
    omega
  have hp : ws.Pairwise Wr.Disj := by
    subst hws
    cases pmOpt
    · simpa using hcore
    · cases pmLast
      · exact List.pairwise_cons.2 ⟨hmbr, hcore⟩
      · exact List.pairwise_append.2 ⟨hcore, List.pairwise_singleton _ _, fun a ha b hb => by
          rw [List.mem_singleton.1 hb]; exact (hmbr a ha).symm⟩
  have hm : ∀ w ∈ [Wr.mk oBA arr, ⟨oBH, bh⟩, ⟨oPA, arr⟩, ⟨lss, ph⟩], w ∈ ws := by
    intro w hw; subst hws
    cases pmLast
    · exact List.mem_append_right _ hw
    · exact List.mem_append_left _ hw
  have r1 := readAt_applyWrs_mem d ws hp ⟨lss, ph⟩ (hm _ (by simp))
  have r2 := readAt_applyWrs_mem d ws hp ⟨oPA, arr⟩ (hm _ (by simp))
  have r3 := readAt_applyWrs_mem d ws hp ⟨oBH, bh⟩ (hm _ (by simp))
  have r4 := readAt_applyWrs_mem d ws hp ⟨oBA, arr⟩ (hm _ (by simp))
  simp only [hph, harr, hbh] at r1 r2 r3 r4
  refine ⟨r1, r2, r3, r4, ?_⟩
  intro ho
  have r5 := readAt_applyWrs_mem d ws hp ⟨446, pm⟩ (by
    subst hws ho
    cases pmLast
    · exact List.mem_append_left _ (List.mem_singleton_self _)
    · exact List.mem_append_right _ (List.mem_singleton_self _))
  simpa only [hpm] using r5

end Diskfs.Gpt
