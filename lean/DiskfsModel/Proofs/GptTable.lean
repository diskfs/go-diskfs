/-
  The GPT header: what readGPTHeader computes on a sector long enough for its slice expressions, and the
  round trip through the header encoder.
-/
import DiskfsModel.Proofs.GptCodec
namespace Diskfs.Gpt

@[simp] theorem Res.ok_bind {α β} (a : α) (f : α → Res β) : (Res.ok a >>= f) = f a := rfl
@[simp] theorem Res.pure_eq {α} (a : α) : (pure a : Res α) = Res.ok a := rfl

theorem bind_ok_inv {α β} (x : Res α) (f : α → Res β) (b : β) (h : (x >>= f) = .ok b) :
    ∃ a, x = .ok a ∧ f a = .ok b := by
  cases x with
  | ok a => exact ⟨a, rfl, h⟩
  | err e => cases h
  | panic s => cases h

theorem sl_ok (b : Bytes) (lo hi : Nat) (s : String) (h1 : lo ≤ hi) (h2 : hi ≤ b.length) :
    sl b lo hi s = .ok (slice b lo hi) := by
  simp [sl, slice?, slice, h1, h2]

@[simp] theorem efiSig_length : efiSig.length = 8 := rfl
@[simp] theorem efiRev_length : efiRev.length = 4 := rfl
@[simp] theorem efiHdrSize_length : efiHdrSize.length = 4 := rfl

theorem hdrBody_length (f : Bytes) (hf : f.length = 4) (my alt fd ld : Nat) (guid : Bytes) (hg : guid.length = 16)
    (al cnt es ac : Nat) : (hdrBody f my alt fd ld guid al cnt es ac).length = 92 := by
  simp [hdrBody, hf, guidSwap_length _ hg]

theorem readHeader_eq (crc : Bytes → Nat) (g : Bytes) (h : 92 ≤ g.length) :
    readHeader crc g =
      if slice g 0 8 ≠ efiSig then .err true
      else if slice g 8 12 ≠ efiRev then .err true
      else if slice g 12 16 ≠ efiHdrSize then .err true
      else if slice g 20 24 ≠ zeros 4 then .err true
      else if leDec (slice g 16 20) ≠ crc (slice (put g 16 (zeros 4)) 0 92) then .err true
      else .ok { myLBA := leDec (slice g 24 32), altLBA := leDec (slice g 32 40), firstData := leDec (slice g 40 48),
                 lastData := leDec (slice g 48 56), guid := guidSwap (slice g 56 72), arrLBA := leDec (slice g 72 80),
                 count := leDec (slice g 80 84), entSize := leDec (slice g 84 88), arrCrc := leDec (slice g 88 92) } := by
  have hp : (put g 16 (zeros 4)).length = g.length := put_length _ _ _ (by simp; omega)
  unfold readHeader
  rw [sl_ok _ 0 8 _ (by omega) (by omega), sl_ok _ 8 12 _ (by omega) (by omega), sl_ok _ 12 16 _ (by omega) (by omega),
    sl_ok _ 16 20 _ (by omega) (by omega), sl_ok _ 20 24 _ (by omega) (by omega), sl_ok _ 24 32 _ (by omega) (by omega),
    sl_ok _ 32 40 _ (by omega) (by omega), sl_ok _ 40 48 _ (by omega) (by omega), sl_ok _ 48 56 _ (by omega) (by omega),
    sl_ok _ 56 72 _ (by omega) (by omega), sl_ok _ 72 80 _ (by omega) (by omega), sl_ok _ 80 84 _ (by omega) (by omega),
    sl_ok _ 84 88 _ (by omega) (by omega), sl_ok _ 88 92 _ (by omega) (by omega), sl_ok _ 0 92 _ (by omega) (by omega)]
  rfl

theorem readHeader_ok_inv (crc : Bytes → Nat) (g : Bytes) (h : Hdr) (hlen : 92 ≤ g.length) (hr : readHeader crc g = .ok h) :
    slice g 0 8 = efiSig ∧ slice g 8 12 = efiRev ∧ slice g 12 16 = efiHdrSize ∧ slice g 20 24 = zeros 4 ∧
    leDec (slice g 16 20) = crc (slice (put g 16 (zeros 4)) 0 92) ∧
    h = { myLBA := leDec (slice g 24 32), altLBA := leDec (slice g 32 40), firstData := leDec (slice g 40 48),
          lastData := leDec (slice g 48 56), guid := guidSwap (slice g 56 72), arrLBA := leDec (slice g 72 80),
          count := leDec (slice g 80 84), entSize := leDec (slice g 84 88), arrCrc := leDec (slice g 88 92) } := by
  have step : ∀ {c : Prop} [Decidable c] {x : Res Hdr}, (if ¬ c then Res.err true else x) = .ok h → c ∧ x = .ok h := by
    intro c _ x hx
    by_cases hc : c
    · rw [if_neg (not_not_intro hc)] at hx; exact ⟨hc, hx⟩
    · rw [if_pos hc] at hx; cases hx
  rw [readHeader_eq crc g hlen] at hr
  obtain ⟨h1, hr⟩ := step hr
  obtain ⟨h2, hr⟩ := step hr
  obtain ⟨h3, hr⟩ := step hr
  obtain ⟨h4, hr⟩ := step hr
  obtain ⟨h5, hr⟩ := step hr
  cases hr
  exact ⟨h1, h2, h3, h4, h5, rfl⟩

theorem readHeader_no_panic (crc : Bytes → Nat) (g : Bytes) (h : 92 ≤ g.length) :
    (readHeader crc g).isPanic = false := by
  rw [readHeader_eq crc g h]
  simp only [apply_ite Res.isPanic]
  simp only [Res.isPanic, ite_self]

theorem readHeader_hdrBody (crc : Bytes → Nat) (hcrc : ∀ b, crc b < two32)
    (my alt fd ld : Nat) (guid : Bytes) (hg : guid.length = 16) (al cnt es ac : Nat) (pad : Bytes)
    (hmy : my < two64) (halt : alt < two64) (hfd : fd < two64) (hld : ld < two64) (hal : al < two64)
    (hcnt : cnt < two32) (hes : es < two32) (hac : ac < two32) :
    readHeader crc (hdrBody (leEnc 4 (crc (hdrBody (zeros 4) my alt fd ld guid al cnt es ac)))
        my alt fd ld guid al cnt es ac ++ pad)
      = .ok { myLBA := my, altLBA := alt, firstData := fd, lastData := ld, guid := guid, arrLBA := al,
              count := cnt, entSize := es, arrCrc := ac } := by
  have lg := guidSwap_length _ hg
  have hF2 := leDec_leEnc_of_lt 4 (crc (hdrBody (zeros 4) my alt fd ld guid al cnt es ac)) (by rw [← two32_eq]; exact hcrc _)
  generalize hF : leEnc 4 (crc (hdrBody (zeros 4) my alt fd ld guid al cnt es ac)) = F at hF2 ⊢
  have hf : F.length = 4 := by subst hF; simp
  have e : ∀ f : Bytes, hdrBody f my alt fd ld guid al cnt es ac ++ pad =
      [efiSig, efiRev, efiHdrSize, f, zeros 4, leEnc 8 my, leEnc 8 alt, leEnc 8 fd, leEnc 8 ld, guidSwap guid,
       leEnc 8 al, leEnc 4 cnt, leEnc 4 es, leEnc 4 ac, pad].flatten := by intro f; simp [hdrBody]
  -- the decoder recomputes the CRC over the same 92 bytes (CRC field zeroed) the encoder summed
  have hb : slice (put (hdrBody F my alt fd ld guid al cnt es ac ++ pad) 16 (zeros 4)) 0 92
      = hdrBody (zeros 4) my alt fd ld guid al cnt es ac := by
    rw [put_field _ [_, _, _] F _ 16 (zeros 4) (e F) rfl (by simp [hf])]
    exact (e (zeros 4)) ▸ slice_append_hit _ _ _ (hdrBody_length (zeros 4) (by simp) my alt fd ld guid hg _ _ _ _)
  have H := SlicesAt.of_flatten (e F)
  simp only [SlicesAt, efiSig_length, efiRev_length, efiHdrSize_length, hf, zeros_length, leEnc_length, lg, Nat.reduceAdd] at H
  obtain ⟨s0, s1, s2, s3, s4, s5, s6, s7, s8, s9, s10, s11, s12, s13, _⟩ := H
  rw [two64_eq] at hmy halt hfd hld hal
  rw [two32_eq] at hcnt hes hac
  rw [readHeader_eq _ _ (by simp [hdrBody_length F hf my alt fd ld guid hg]), hb, s0, s1, s2, s3, s4, s5, s6, s7, s8, s9, s10,
    s11, s12, s13, hF2, leDec_leEnc_of_lt 8 _ hmy, leDec_leEnc_of_lt 8 _ halt, leDec_leEnc_of_lt 8 _ hfd,
    leDec_leEnc_of_lt 8 _ hld, leDec_leEnc_of_lt 8 _ hal, leDec_leEnc_of_lt 4 _ hcnt, leDec_leEnc_of_lt 4 _ hes,
    leDec_leEnc_of_lt 4 _ hac, guidSwap_invol _ hg]
  simp only [ne_eq, not_true_eq_false, if_false]
end Diskfs.Gpt
