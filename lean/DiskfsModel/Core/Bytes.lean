/-
  Core byte-level definitions shared by every model: little/big endian field
  codecs over `List UInt8`, slices with Go's panic behaviour, devices as read
  oracles and write lists.  Core Lean only (the driver links against this).
-/
namespace Diskfs

abbrev Bytes := List UInt8

/-- `k` bytes, little endian, of `n` (truncating like Go's `PutUintN(uintN(n))`). -/
def leEnc : Nat → Nat → Bytes
  | 0, _ => []
  | k+1, n => UInt8.ofNat (n % 256) :: leEnc k (n / 256)

def leDec : Bytes → Nat
  | [] => 0
  | b :: bs => b.toNat + 256 * leDec bs

/-- big endian -/
def beEnc (k n : Nat) : Bytes := (leEnc k n).reverse
def beDec (b : Bytes) : Nat := leDec b.reverse

@[simp] theorem leEnc_length (k n : Nat) : (leEnc k n).length = k := by
  induction k generalizing n with
  | zero => rfl
  | succ k ih => simp [leEnc, ih]

@[simp] theorem beEnc_length (k n : Nat) : (beEnc k n).length = k := by
  simp [beEnc]

theorem leDec_lt (b : Bytes) : leDec b < 256 ^ b.length := by
  induction b with
  | nil => simp [leDec]
  | cons x xs ih =>
    simp only [leDec, List.length_cons, Nat.pow_succ]
    have := x.toNat_lt
    omega

theorem leDec_leEnc (k n : Nat) : leDec (leEnc k n) = n % 256 ^ k := by
  induction k generalizing n with
  | zero => simp [leEnc, leDec, Nat.mod_one]
  | succ k ih =>
    simp only [leEnc, leDec, ih, Nat.pow_succ]
    have h1 : (UInt8.ofNat (n % 256)).toNat = n % 256 := by
      simp [UInt8.toNat_ofNat']
    rw [h1]
    have h2 : n % (256 ^ k * 256) = n % 256 + 256 * (n / 256 % 256 ^ k) := by
      rw [Nat.mul_comm, Nat.mod_mul]
    omega

theorem leDec_leEnc_of_lt (k n : Nat) (h : n < 256 ^ k) : leDec (leEnc k n) = n := by
  rw [leDec_leEnc, Nat.mod_eq_of_lt h]

theorem beDec_beEnc_of_lt (k n : Nat) (h : n < 256 ^ k) : beDec (beEnc k n) = n := by
  simp [beDec, beEnc, leDec_leEnc_of_lt k n h]

theorem leEnc_leDec (b : Bytes) : leEnc b.length (leDec b) = b := by
  induction b with
  | nil => rfl
  | cons x xs ih =>
    simp only [List.length_cons, leEnc, leDec]
    have hx := x.toNat_lt
    have h1 : (x.toNat + 256 * leDec xs) % 256 = x.toNat := by omega
    have h2 : (x.toNat + 256 * leDec xs) / 256 = leDec xs := by omega
    rw [h1, h2, ih]
    simp

/-- Go slice expression `b[lo:hi]`: `none` exactly when Go would panic
    (for a slice whose capacity equals its length). -/
def slice? (b : Bytes) (lo hi : Nat) : Option Bytes :=
  if lo ≤ hi ∧ hi ≤ b.length then some ((b.drop lo).take (hi - lo)) else none

/-- total slice (callers have established the bounds) -/
def slice (b : Bytes) (lo hi : Nat) : Bytes := (b.drop lo).take (hi - lo)

theorem slice_length (b : Bytes) (lo hi : Nat) (h1 : lo ≤ hi) (h2 : hi ≤ b.length) :
    (slice b lo hi).length = hi - lo := by
  simp [slice]; omega

def zeros (n : Nat) : Bytes := List.replicate n 0

@[simp] theorem zeros_length (n : Nat) : (zeros n).length = n := by simp [zeros]

/-- overwrite `b[off .. off+|d|)` with `d` (Go `copy(b[off:], d)`, truncating at the end of `b`). -/
def put (b : Bytes) (off : Nat) (d : Bytes) : Bytes :=
  b.take off ++ (d.take (b.length - off)) ++ b.drop (off + d.length)

theorem put_length (b : Bytes) (off : Nat) (d : Bytes) (h : off + d.length ≤ b.length) :
    (put b off d).length = b.length := by
  simp [put]; omega

/-! ### devices -/

/-- a device is a read oracle -/
abbrev Dev := Nat → UInt8

structure Wr where
  off : Nat
  data : Bytes
deriving Repr, DecidableEq

def applyWr (d : Dev) (w : Wr) : Dev := fun i =>
  if w.off ≤ i ∧ i < w.off + w.data.length then w.data.getD (i - w.off) 0 else d i

def applyWrs (d : Dev) (ws : List Wr) : Dev := ws.foldl applyWr d

def readAt (d : Dev) (off len : Nat) : Bytes := (List.range len).map (fun i => d (off + i))

@[simp] theorem readAt_length (d : Dev) (off len : Nat) : (readAt d off len).length = len := by
  simp [readAt]

theorem applyWr_frame (d : Dev) (w : Wr) (i : Nat) (h : i < w.off ∨ w.off + w.data.length ≤ i) :
    applyWr d w i = d i := by
  unfold applyWr
  split
  · omega
  · rfl

theorem applyWrs_frame (d : Dev) (ws : List Wr) (i : Nat)
    (h : ∀ w ∈ ws, i < w.off ∨ w.off + w.data.length ≤ i) : applyWrs d ws i = d i := by
  induction ws generalizing d with
  | nil => rfl
  | cons w ws ih =>
    simp only [applyWrs, List.foldl_cons]
    have := ih (applyWr d w) (fun w' hw' => h w' (List.mem_cons_of_mem _ hw'))
    simp only [applyWrs] at this
    rw [this]
    exact applyWr_frame d w i (h w (List.mem_cons_self ..))

theorem applyWr_hit (d : Dev) (w : Wr) (i : Nat) (h1 : w.off ≤ i) (h2 : i < w.off + w.data.length) :
    applyWr d w i = w.data.getD (i - w.off) 0 := by
  unfold applyWr
  simp [h1, h2]

theorem readAt_applyWr_same (d : Dev) (w : Wr) :
    readAt (applyWr d w) w.off w.data.length = w.data := by
  apply List.ext_getElem
  · simp
  · intro i h1 h2
    simp only [readAt, List.getElem_map, List.getElem_range]
    rw [applyWr_hit]
    · simp only [Nat.add_sub_cancel_left]
      simp at h1
      simp [List.getD_eq_getElem?_getD, h2]
    · omega
    · simp at h1; omega

theorem readAt_applyWr_disjoint (d : Dev) (w : Wr) (off len : Nat)
    (h : off + len ≤ w.off ∨ w.off + w.data.length ≤ off) :
    readAt (applyWr d w) off len = readAt d off len := by
  apply List.ext_getElem
  · simp
  · intro i h1 _
    simp only [readAt, List.getElem_map, List.getElem_range]
    apply applyWr_frame
    simp at h1
    omega

/-! ### hex, for the line protocol -/

def hexDigit (n : Nat) : Char :=
  if n < 10 then Char.ofNat (48 + n) else Char.ofNat (87 + n)

def toHex (b : Bytes) : String :=
  String.ofList (b.flatMap fun x => [hexDigit (x.toNat / 16), hexDigit (x.toNat % 16)])

def hexVal (c : Char) : Option Nat :=
  if '0' ≤ c ∧ c ≤ '9' then some (c.toNat - 48)
  else if 'a' ≤ c ∧ c ≤ 'f' then some (c.toNat - 87)
  else if 'A' ≤ c ∧ c ≤ 'F' then some (c.toNat - 55)
  else none

def fromHexAux : List Char → Bytes → Option Bytes
  | [], acc => some acc.reverse
  | [_], _ => none
  | a :: b :: rest, acc =>
    match hexVal a, hexVal b with
    | some x, some y => fromHexAux rest (UInt8.ofNat (x * 16 + y) :: acc)
    | _, _ => none

def fromHex (s : String) : Option Bytes :=
  if s == "-" then some [] else fromHexAux s.toList []

end Diskfs
