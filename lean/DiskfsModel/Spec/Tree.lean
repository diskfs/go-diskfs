/-
  C01 specification: a filesystem is a plain tree of named byte strings.
  `Tree` is a list of (name, node); a node is a file (its bytes) or a directory (a tree).
  Names are compared with `eqn` (the FAT engine instantiates it with ASCII case folding).
  `step` gives every operation its meaning; an operation that is refused returns the tree
  unchanged.  This file is what "the property" means for C01 — it knows nothing of clusters.
  Core Lean only.
-/
import DiskfsModel.Core.Bytes
namespace Diskfs.Spec

/-- write `p` at offset `off` into `c`; a gap between the end of `c` and `off` reads as zeros -/
def splice (c : Bytes) (off : Nat) (p : Bytes) : Bytes :=
  (c ++ zeros (off - c.length)).take off ++ p ++ c.drop (off + p.length)

abbrev Name := List Nat

inductive Node
  | file (content : Bytes)
  | dir (children : List (Name × Node))
deriving Repr

abbrev Tree := List (Name × Node)

inductive Res
  | ok
  | notfound
  | exists_
  | notdir
  | isdir
  | notempty
  | invalid
deriving Repr, DecidableEq

def lookup (eqn : Name → Name → Bool) (t : Tree) (n : Name) : Option Node :=
  (t.find? fun e => eqn e.1 n).map (·.2)

/-- replace the node stored under the (existing) name `n`, keeping the stored spelling -/
def replace (eqn : Name → Name → Bool) (t : Tree) (n : Name) (v : Node) : Tree :=
  t.map fun e => if eqn e.1 n then (e.1, v) else e

def erase (eqn : Name → Name → Bool) (t : Tree) (n : Name) : Tree :=
  t.filter fun e => !(eqn e.1 n)

/-- apply `f` to the directory reached by `path` (every component must be a directory) -/
def atDir (eqn : Name → Name → Bool) (f : Tree → Tree × Res) : List Name → Tree → Tree × Res
  | [], t => f t
  | d :: rest, t =>
    match lookup eqn t d with
    | some (.dir ch) =>
      let (ch', r) := atDir eqn f rest ch
      (if r = .ok then replace eqn t d (.dir ch') else t, r)
    | some (.file _) => (t, .notdir)
    | none => (t, .notfound)

inductive Op
  /-- create one directory `name` in `dir` (the parent must exist) -/
  | mkdir (dir : List Name) (name : Name)
  /-- create an empty file if `name` does not exist (open with O_CREATE) -/
  | create (dir : List Name) (name : Name)
  /-- write `data` at byte offset `off` of an existing file (writing nothing changes nothing) -/
  | writeAt (dir : List Name) (name : Name) (off : Nat) (data : Bytes)
  /-- append `data` -/
  | append (dir : List Name) (name : Name) (data : Bytes)
  /-- truncating open: the file becomes empty -/
  | truncate (dir : List Name) (name : Name)
  /-- rename inside one directory; an existing target is replaced -/
  | rename (dir : List Name) (old new : Name)
  /-- remove a file or an empty directory -/
  | remove (dir : List Name) (name : Name)
deriving Repr

def stepDir (eqn : Name → Name → Bool) : Op → Tree → Tree × Res
  | .mkdir _ n, t =>
    match lookup eqn t n with
    | some (.dir _) => (t, .ok)                      -- Mkdir of an existing directory succeeds (mkdir -p)
    | some (.file _) => (t, .notdir)
    | none => (t ++ [(n, .dir [])], .ok)
  | .create _ n, t =>
    match lookup eqn t n with
    | some _ => (t, .ok)
    | none => (t ++ [(n, .file [])], .ok)
  | .writeAt _ n off data, t =>
    match lookup eqn t n with
    | some (.file c) => (if data.length = 0 then t else replace eqn t n (.file (splice c off data)), .ok)
    | some (.dir _) => (t, .isdir)
    | none => (t, .notfound)
  | .append _ n data, t =>
    match lookup eqn t n with
    | some (.file c) => (replace eqn t n (.file (c ++ data)), .ok)
    | some (.dir _) => (t, .isdir)
    | none => (t, .notfound)
  | .truncate _ n, t =>
    match lookup eqn t n with
    | some (.file _) => (replace eqn t n (.file []), .ok)
    | some (.dir _) => (t, .isdir)
    | none => (t, .notfound)
  | .rename _ o n, t =>
    match lookup eqn t o with
    | none => (t, .notfound)
    | some v =>
      if eqn o n then (t.map fun e => if eqn e.1 o then (n, e.2) else e, .ok)
      else
        match lookup eqn t n with
        | some (.dir _) => (t, .isdir)                 -- a directory is never replaced by a rename
        | _ => ((erase eqn t n).map fun e => if eqn e.1 o then (n, v) else e, .ok)
  | .remove _ n, t =>
    match lookup eqn t n with
    | none => (t, .notfound)
    | some (.dir (_ :: _)) => (t, .notempty)
    | some _ => (erase eqn t n, .ok)

def Op.dir : Op → List Name
  | .mkdir d _ | .create d _ | .writeAt d _ _ _ | .append d _ _ | .truncate d _ | .rename d _ _ | .remove d _ => d

def step (eqn : Name → Name → Bool) (t : Tree) (op : Op) : Tree × Res :=
  atDir eqn (stepDir eqn op) op.dir t

def run (eqn : Name → Name → Bool) (t : Tree) (ops : List Op) : Tree :=
  ops.foldl (fun t op => (step eqn t op).1) t

/-- a refused operation leaves the tree unchanged (by construction; stated for the record) -/
theorem atDir_refused (eqn : Name → Name → Bool) (f : Tree → Tree × Res)
    (hf : ∀ t, (f t).2 ≠ .ok → (f t).1 = t) (p : List Name) (t : Tree) :
    (atDir eqn f p t).2 ≠ .ok → (atDir eqn f p t).1 = t := by
  cases p with
  | nil => exact hf t
  | cons d rest =>
    intro h
    simp only [atDir] at h ⊢
    split
    · rename_i ch heq
      simp only [heq] at h
      have h' : (atDir eqn f rest ch).2 ≠ .ok := h
      simp [h']
    · rfl
    · rfl

end Diskfs.Spec
